import RsModel.Lemmas.ConcatMappings
import RsModel.Lemmas.PosFinalTree
/-!
# ConcatSource: where the delivered chunk mappings stand

A child's mappings lie between the child's origin and its end (`concatChild_ms_ge`, `concatChild_ms_le`), so lookups before a
child skip it and everything after it (`later_skip`) and what was delivered before stays below (`Bound`); the concatenation of
sorted children is sorted (`concatStream_sorted`).
-/
namespace Rs

theorem chunkMs_keys : ∀ (evs : List Ev), ∀ m ∈ chunkMs evs, ∃ k ∈ evsKeys evs, k.2 = (m.gl, m.gc)
  | [], _, hm => nomatch hm
  | .chunk t m0 :: es, m, hm => by
    show ∃ k ∈ (t, m0.gl, m0.gc) :: evsKeys es, _
    rcases List.mem_cons.1 hm with rfl | hm
    · exact ⟨_, List.mem_cons_self, rfl⟩
    · obtain ⟨k, hk, e⟩ := chunkMs_keys es m hm
      exact ⟨k, List.mem_cons_of_mem _ hk, e⟩
  | .source .. :: es, m, hm => chunkMs_keys es m hm
  | .name .. :: es, m, hm => chunkMs_keys es m hm

def Bound (prev : List Mapping) (P : Pos) : Prop := ∀ m ∈ prev, posLe ⟨m.gl, m.gc⟩ P

theorem bound_none_above (prev : List Mapping) (P : Pos) (hb : Bound prev P) (L C : Nat) (h : P.line < L) : lookupGo L C none prev = none := by
  apply lookupGo_skip
  intro m hm hmatch
  rcases hb m hm with g | g <;> simp only at g <;> omega

theorem finOK_ms (T : Text) (c : SResult) (h : FinOK T c) : ∀ m ∈ chunkMs c.evs, IsPos T ⟨m.gl, m.gc⟩ := by
  intro m hm
  obtain ⟨k, hk, e⟩ := chunkMs_keys c.evs m hm
  have := h.1 k hk
  rw [e] at this
  exact this

theorem shiftM_ge (st : CSt) (m : Mapping) (h : 1 ≤ m.gl) : posLe ⟨st.lineOff + 1, st.colOff⟩ ⟨(shiftM st m).gl, (shiftM st m).gc⟩ := by
  unfold shiftM
  by_cases hl : m.gl = 1
  · exact Or.inr ⟨by simp only; omega, by simp [hl]⟩
  · exact Or.inl (by simp only; omega)

theorem concatChild_ms_ge (final : Bool) (st : CSt) (T : Text) (c : SResult) (h : FinOK T c) :
    ∀ x ∈ chunkMs (concatChild final st c).2, posLe ⟨st.lineOff + 1, st.colOff⟩ ⟨x.gl, x.gc⟩ := by
  intro x hx
  rw [concatChild_ms, List.mem_append, List.mem_map] at hx
  rcases hx with hx | ⟨m, hm, rfl⟩
  · split at hx
    · rw [List.mem_singleton.1 hx]; exact posLe_refl _
    · cases hx
  · exact shiftM_ge st m (trMs_all final (fun gl _ => 1 ≤ gl) _ _ (fun m hm => isPos_line_ge T _ (finOK_ms T c h m hm)) m hm)

theorem concatGo_ms_ge (final : Bool) : ∀ (cs : List SResult) (Ts : List Text), FinAll cs Ts → ∀ (st : CSt) (gpre : Text),
    FRel st (adv startPos gpre) → ∀ x ∈ chunkMs (concatGo final st cs).2, posLe (adv startPos gpre) ⟨x.gl, x.gc⟩ := by
  intro cs Ts h
  induction h with
  | nil => intro st gpre _ x hx; simp [concatGo, chunkMs] at hx
  | cons r T rs Ts hr _ ih =>
    intro st gpre hrel x hx
    simp only [concatGo, chunkMs_append, List.mem_append] at hx
    rcases hx with hx | hx
    · have := concatChild_ms_ge final st T r hr x hx
      rw [hrel.1, hrel.2] at this
      exact this
    · have := ih _ (gpre ++ T) (hrel.concatChild final hr.2) x hx
      rw [adv_append] at this
      exact posLe_trans (adv_ge T _) this

theorem concatChild_ms_le (final : Bool) (st : CSt) (gpre T : Text) (c : SResult) (hrel : FRel st (adv startPos gpre)) (h : FinOK T c) :
    ∀ x ∈ chunkMs (concatChild final st c).2, posLe ⟨x.gl, x.gc⟩ (adv startPos (gpre ++ T)) := by
  intro x hx
  obtain ⟨a, _⟩ := concatChild_fin final st gpre T c hrel h
  obtain ⟨k, hk, e⟩ := chunkMs_keys _ x hx
  have := a k hk
  rw [e] at this
  exact (isPos_bounds _ _ this).2

theorem Bound.child {prev : List Mapping} {st : CSt} {gpre T : Text} {c : SResult} (hb : Bound prev (adv startPos gpre)) (final : Bool)
    (hrel : FRel st (adv startPos gpre)) (hf : FinOK T c) :
    Bound (prev ++ chunkMs (concatChild final st c).2) (adv startPos (gpre ++ T)) := by
  intro m hm
  rcases List.mem_append.1 hm with hm | hm
  · rw [adv_append]; exact posLe_trans (hb m hm) (adv_ge T _)
  · exact concatChild_ms_le final st gpre T c hrel hf m hm

theorem later_skip (final : Bool) (cs : List SResult) (Ts : List Text) (h : FinAll cs Ts) (st : CSt) (gpre : Text)
    (hrel : FRel st (adv startPos gpre)) (q : Pos) (hq : posLt q (adv startPos gpre)) (acc : Option (Option Orig)) :
    lookupGo q.line q.col acc (chunkMs (concatGo final st cs).2) = acc := by
  apply lookupGo_skip
  intro m hm hmatch
  have := concatGo_ms_ge final cs Ts h st gpre hrel m hm
  rcases hq with g | g <;> rcases this with g' | g' <;> simp only at g' <;> omega

theorem shift_pos (st : CSt) (gpre : Text) (hrel : FRel st (adv startPos gpre)) (x : Text) :
    adv startPos (gpre ++ x) = ⟨shiftL st (adv startPos x).line, shiftC st (adv startPos x).line (adv startPos x).col⟩ := by
  rw [adv_append, adv_shift_key _ _ _ _ _ hrel.1 hrel.2 x rfl]
  simp only [shiftL, shiftC, beq_iff_eq]

theorem mle_of_posLe (a b : Mapping) (h : posLe ⟨a.gl, a.gc⟩ ⟨b.gl, b.gc⟩) : mle a b := h

theorem shiftM_mono (st : CSt) (a b : Mapping) (h : mle a b) : mle (shiftM st a) (shiftM st b) := by
  unfold shiftM
  rcases h with h | ⟨h1, h2⟩
  · exact Or.inl (by simp only; omega)
  · refine Or.inr ⟨by simp only; omega, ?_⟩
    simp only [h1]
    by_cases hb : b.gl = 1 <;> simp [hb] <;> omega

theorem trMs_pairwise (final : Bool) (evs : List Ev) : ∀ (st : CSt), (chunkMs evs).Pairwise mle → (trMs final st evs).Pairwise mle := by
  induction evs using evs_induction with
  | nil => intro _ _; exact List.Pairwise.nil
  | chunk t m es ih =>
    intro st hp
    obtain ⟨h1, h2⟩ := List.pairwise_cons.1 hp
    exact List.pairwise_cons.2 ⟨trMs_all final (fun gl gc => mle m ⟨gl, gc, none⟩) es _ h1, ih _ h2⟩
  | decl e es he ih =>
    intro st hp
    rw [trMs_cons_decl _ _ _ _ he]
    rw [chunkMs_cons_decl _ _ he] at hp
    exact ih _ hp

theorem concatChild_pairwise (final : Bool) (st : CSt) (T : Text) (c : SResult) (hf : FinOK T c) (hp : (chunkMs c.evs).Pairwise mle) :
    (chunkMs (concatChild final st c).2).Pairwise mle := by
  have h1 : ∀ m ∈ trMs final (childStart st) c.evs, 1 ≤ m.gl :=
    trMs_all final (fun gl _ => 1 ≤ gl) _ _ (fun m hm => isPos_line_ge T _ (finOK_ms T c hf m hm))
  rw [concatChild_ms, List.pairwise_append, List.pairwise_map]
  refine ⟨?_, (trMs_pairwise final c.evs _ hp).imp (shiftM_mono st _ _), fun a ha b hb => ?_⟩
  · split
    · exact List.pairwise_singleton _ _
    · exact List.Pairwise.nil
  · obtain ⟨m, hm, rfl⟩ := List.mem_map.1 hb
    split at ha
    · rw [List.mem_singleton.1 ha]; exact mle_of_posLe _ _ (shiftM_ge st m (h1 m hm))
    · cases ha

theorem concatGo_pairwise (final : Bool) : ∀ (cs : List SResult) (Ts : List Text), FinAll cs Ts → (∀ c ∈ cs, (chunkMs c.evs).Pairwise mle) →
    ∀ (st : CSt) (gpre : Text), FRel st (adv startPos gpre) → (chunkMs (concatGo final st cs).2).Pairwise mle := by
  intro cs Ts h
  induction h with
  | nil => intro _ st gpre _; simp [concatGo, chunkMs]
  | cons r T rs Ts hr hrs ih =>
    intro hp st gpre hrel
    have b := hrel.concatChild final hr.2
    simp only [concatGo, chunkMs_append]
    rw [List.pairwise_append]
    refine ⟨concatChild_pairwise final st T r hr (hp r (by simp)), ih (fun c hc => hp c (by simp [hc])) _ (gpre ++ T) b, ?_⟩
    intro x hx y hy
    have h1 := concatChild_ms_le final st gpre T r hrel hr x hx
    have h2 := concatGo_ms_ge final rs Ts hrs _ (gpre ++ T) b y hy
    exact mle_of_posLe _ _ (posLe_trans h1 h2)

theorem concatStream_sorted (final : Bool) (cs : List SResult) (Ts : List Text) (h : FinAll cs Ts) (hp : ∀ c ∈ cs, sortedFrom 1 0 (chunkMs c.evs)) :
    sortedFrom 1 0 (chunkMs (concatStream final cs).evs) := by
  rw [sortedFrom_iff]
  simp only [concatStream]
  have hrel : FRel ({} : CSt) (adv startPos []) := ⟨rfl, rfl⟩
  exact ⟨concatGo_ms_ge final cs Ts h {} [] hrel, concatGo_pairwise final cs Ts h (fun c hc => ((sortedFrom_iff _ _ _).1 (hp c hc)).2) {} [] hrel⟩

end Rs
