import RsModel.Lemmas.Lines
import RsModel.Lemmas.CharStarts
/-!
# The map-driven splitters of a SourceMapSource: walking `on_mapping` once; the splitter without columns in closed form

What one `on_mapping` call does, for a mapping `m` the walker is not behind, is a sequence of *moves* of the cursor `(line, col)`,
each delivering at most one chunk: close the active mapping up to the end of its line or up to `m`'s column (`closeEol`,
`closeUpto`: the chunk carries the walker's location and is dropped when empty), deliver the unmapped rest of a line begun earlier
(`restEol`), whole unmapped lines (`whole`), the unmapped text before `m`'s column (`gap`), and finally `smStep5` (`activate`).
Each piece of `smFullStep` is nothing or one such move (`smStep1_move`, `smStep2_move`, `smStep4_move`; `MoveOK.wholeLines` for
the loop over whole lines), and `smFullStep_walk` puts them in a row; `smFullGo_walk` does the same for the fold over the map.
A mapping the walker is behind of is ignored (`smFullStep_back`).

How to prove that the splitter keeps something.  Choose `I acc s`, a statement about the chunks delivered so far and the walker,
that holds between any two moves, and `J acc s`, what is to hold after the call (`J = I` for an invariant of the whole walk).  Fill
in the two fields of `MoveOK I J lines fl fc m`: that every `Move` keeps `I` (by `cases` on the move: each kind comes with what is
known of the cursor there, and none mentions a step function; or, where the lines are `WFLines`, for all kinds at once through
`Move.stretch` of SMText), and that `smStep5` leads from `I` to `J`.  An invariant built on another one calls the other's two
fields for its first component.  Then `smFullStep_walk` gives `J` after the call, and `smFullStep_at` says that the walker then
stands on `m`.  `smFullGo_walk` carries an invariant kept by the calls along the whole map; after the closing mapping
`⟨fl, fc, none⟩` that `streamSMFull` puts at its end the walker has reached the end of the text (`smFullState_reached`).  For a
property of the single chunks use `smFullGo_mem`: every one is an `SMChunk`, a stretch of one line of the text whose location, if
it has one, is the walker's or that of a mapping of the list.

The text-less splitter with columns needs no walk: it is a filter of the map followed by `thin` (`smFinalGo_eq`).

The splitter without columns (`smLinesFullGo`) needs none either: it delivers the lines of the text one chunk each,
`lineEvs g 1 lines` (Lines), and the map decides nothing but the location `g l` of each line.  `smLineOrig` is that function,
`smLinesFull_eq` / `streamSMLinesFull_eq` the closed form.  Its text-less twin `smLinesFinalGo` delivers, of the same lines with the
same locations, those that are mapped, without their text: `mappedLines g 1 n` (Lines; `smLinesFinalGo_eq`).  A property of either stream is
a property of `lineEvs` / `mappedLines` (whatever `g`) or a fact about `smLineOrig` (`smLineOrig_some`, and `smLineOrig_lookupLines`
in LinesSM), proved by recursion over the map with no stream in sight.
-/
namespace Rs

def notBehind (s : FullSt) (m : Mapping) : Prop := s.line < m.gl ∨ (s.line = m.gl ∧ s.col ≤ m.gc)

def reached (s : FullSt) (m : Mapping) : Prop := m.gl < s.line ∨ (m.gl = s.line ∧ m.gc ≤ s.col)

/-- line `line` of the text, counted from 1; empty outside the text -/
def lineAt (lines : List Text) (line : Nat) : Text := lines.getD (line - 1) []

/-- no active mapping is left on a line of the text (true after step 1 of a call, until `smStep5`) -/
def FullSt.closed (lines : List Text) (s : FullSt) : Prop := s.active = true → lines.length < s.line

theorem FullSt.closed.inactive {lines : List Text} {s : FullSt} (hq : s.closed lines) (h : s.active = true → s.line ≤ lines.length) :
    s.active = false :=
  Bool.eq_false_iff.2 fun ha => Nat.lt_irrefl _ (Nat.lt_of_lt_of_le (hq ha) (h ha))

theorem smWholeLines_nil (lines : List Text) (a b : Nat) (h : b ≤ a) : smWholeLines lines a b = [] := by
  unfold smWholeLines
  rw [Nat.sub_eq_zero_of_le h]
  rfl

theorem smWholeLines_step (lines : List Text) (a b : Nat) (h : a < b) :
    smWholeLines lines a b =
      (if a ≤ lines.length then [Ev.chunk (some (lines.getD (a - 1) [])) ⟨a, 0, none⟩] else []) ++ smWholeLines lines (a + 1) b := by
  unfold smWholeLines
  obtain ⟨k, hk⟩ : ∃ k, b - a = k + 1 := ⟨b - a - 1, by omega⟩
  have hk2 : b - (a + 1) = k := by omega
  rw [hk, hk2, List.range_succ_eq_map, List.map_cons, List.flatten_cons, List.map_map]
  simp only [Nat.add_zero]
  congr 2
  apply List.map_congr_left
  intro x _
  simp only [Function.comp]
  have : a + (x + 1) = a + 1 + x := by omega
  rw [this]

/-- one move of the cursor during an `on_mapping` call for `m`: from the walker `s`, delivering the events, to the walker after it;
the hypotheses of each move say where `s` stands -/
inductive Move (lines : List Text) (m : Mapping) : FullSt → List Ev → FullSt → Prop
  | closeEol {s : FullSt} : s.active = true → s.line ≤ lines.length → s.line < m.gl →
      Move lines m s (if (csub (lineAt lines s.line) s.col USIZE_MAX).isEmpty then []
          else [.chunk (some (csub (lineAt lines s.line) s.col USIZE_MAX)) ⟨s.line, s.col, s.orig⟩])
        { s with line := s.line + 1, col := 0, active := false }
  | closeUpto {s : FullSt} : s.active = true → s.line ≤ lines.length → s.line = m.gl → s.col ≤ m.gc →
      Move lines m s (if (csub (lineAt lines s.line) s.col m.gc).isEmpty then []
          else [.chunk (some (csub (lineAt lines s.line) s.col m.gc)) ⟨s.line, s.col, s.orig⟩])
        { s with col := m.gc, active := false }
  | restEol {s : FullSt} : s.closed lines → s.line < m.gl → 0 < s.col →
      Move lines m s (if s.line ≤ lines.length then [.chunk (some (csub (lineAt lines s.line) s.col USIZE_MAX)) ⟨s.line, s.col, none⟩] else [])
        { s with line := s.line + 1, col := 0 }
  | whole {s : FullSt} : s.closed lines → s.line < m.gl → s.col = 0 →
      Move lines m s (if s.line ≤ lines.length then [.chunk (some (lineAt lines s.line)) ⟨s.line, 0, none⟩] else [])
        { s with line := s.line + 1 }
  | gap {s : FullSt} : s.closed lines → s.line = m.gl → s.col < m.gc →
      Move lines m s (if s.line ≤ lines.length then [.chunk (some (csub (lineAt lines s.line) s.col m.gc)) ⟨s.line, s.col, none⟩] else [])
        { s with col := m.gc }

def Move.opt (lines : List Text) (m : Mapping) (s : FullSt) (r : FullSt × List Ev) : Prop := r = (s, []) ∨ Move lines m s r.2 r.1

section pieces
variable (lines : List Text) (s : FullSt) (m : Mapping)

theorem smStep1_move (hb : notBehind s m) :
    Move.opt lines m s (smStep1 lines s m) ∧ (smStep1 lines s m).1.closed lines ∧ notBehind (smStep1 lines s m).1 m := by
  unfold smStep1
  by_cases hc : s.active = true ∧ s.line ≤ lines.length
  · rw [if_pos (by simpa only [Bool.and_eq_true, decide_eq_true_eq] using hc)]
    rcases hb with hlt | ⟨he, hle⟩
    · rw [if_pos (bne_iff_ne.2 (Nat.ne_of_gt hlt))]
      refine ⟨.inr (.closeEol hc.1 hc.2 hlt), nofun, ?_⟩
      show s.line + 1 < m.gl ∨ (s.line + 1 = m.gl ∧ 0 ≤ m.gc); omega
    · rw [if_neg (by rw [he, bne_self_eq_false]; exact Bool.false_ne_true)]
      exact ⟨.inr (.closeUpto hc.1 hc.2 he hle), nofun, .inr ⟨he, Nat.le_refl _⟩⟩
  · rw [if_neg (by simpa only [Bool.and_eq_true, decide_eq_true_eq] using hc)]
    exact ⟨.inl rfl, fun ha => Nat.lt_of_not_le fun hn => hc ⟨ha, hn⟩, hb⟩

theorem smStep2_move (hq : s.closed lines) (hb : notBehind s m) :
    Move.opt lines m s (smStep2 lines s m) ∧ (smStep2 lines s m).1.closed lines ∧ notBehind (smStep2 lines s m).1 m
      ∧ ((smStep2 lines s m).1.line < m.gl → (smStep2 lines s m).1.col = 0) := by
  unfold smStep2
  by_cases hc : s.line < m.gl ∧ 0 < s.col
  · rw [if_pos (by simpa only [gt_iff_lt, Bool.and_eq_true, decide_eq_true_eq] using hc)]
    refine ⟨.inr (.restEol hq hc.1 hc.2), fun ha => Nat.lt_succ_of_lt (hq ha), ?_, fun _ => rfl⟩
    show s.line + 1 < m.gl ∨ (s.line + 1 = m.gl ∧ 0 ≤ m.gc); omega
  · rw [if_neg (by simpa only [gt_iff_lt, Bool.and_eq_true, decide_eq_true_eq] using hc)]
    exact ⟨.inl rfl, hq, hb, fun hl => Nat.eq_zero_of_not_pos fun hp => hc ⟨hl, hp⟩⟩

theorem smStep4_move (hq : s.closed lines) (hl : s.line = m.gl) (hc : s.col ≤ m.gc) :
    Move.opt lines m s (smStep4 lines s m) ∧ (smStep4 lines s m).1.closed lines
      ∧ (smStep4 lines s m).1.line = m.gl ∧ (smStep4 lines s m).1.col = m.gc := by
  unfold smStep4
  rcases Nat.lt_or_ge s.col m.gc with hlt | hge
  · rw [if_pos hlt]
    exact ⟨.inr (.gap hq hl hlt), hq, hl, rfl⟩
  · rw [if_neg (Nat.not_lt.2 hge)]
    exact ⟨.inl rfl, hq, hl, Nat.le_antisymm hc hge⟩

end pieces

theorem smStep5_cases (fl fc : Nat) (s : FullSt) (m : Mapping) :
    (∃ o, m.orig = some o ∧ (m.gl < fl ∨ (m.gl = fl ∧ m.gc < fc)) ∧ smStep5 fl fc s m = { s with active := true, orig := some o })
    ∨ ((m.orig = none ∨ ¬ (m.gl < fl ∨ (m.gl = fl ∧ m.gc < fc))) ∧ smStep5 fl fc s m = s) := by
  unfold smStep5
  cases hmo : m.orig with
  | none => exact Or.inr ⟨Or.inl rfl, rfl⟩
  | some o =>
    dsimp only
    split
    · rename_i h
      simp only [Bool.or_eq_true, decide_eq_true_eq, Bool.and_eq_true, beq_iff_eq] at h
      exact Or.inl ⟨o, rfl, h, rfl⟩
    · rename_i h
      simp only [Bool.or_eq_true, decide_eq_true_eq, Bool.and_eq_true, beq_iff_eq] at h
      exact Or.inr ⟨Or.inr h, rfl⟩

theorem smStep5_pos (fl fc : Nat) (s : FullSt) (m : Mapping) : (smStep5 fl fc s m).line = s.line ∧ (smStep5 fl fc s m).col = s.col := by
  rcases smStep5_cases fl fc s m with ⟨o, _, _, h⟩ | ⟨_, h⟩ <;> rw [h] <;> exact ⟨rfl, rfl⟩

section step
variable (lines : List Text) (fl fc : Nat) (s : FullSt) (m : Mapping)

theorem smFullStep_back (h : m.gl < s.line ∨ (m.gl = s.line ∧ m.gc < s.col)) : smFullStep lines fl fc s m = (s, []) := by
  unfold smFullStep
  rw [if_pos (by simpa only [Bool.or_eq_true, decide_eq_true_eq, Bool.and_eq_true, beq_iff_eq] using h)]

theorem smFullStep_eq (h : notBehind s m) :
    smFullStep lines fl fc s m =
      (smStep5 fl fc (smStep4 lines { (smStep2 lines (smStep1 lines s m).1 m).1 with
          line := max (smStep2 lines (smStep1 lines s m).1 m).1.line m.gl } m).1 m,
        (smStep1 lines s m).2 ++ (smStep2 lines (smStep1 lines s m).1 m).2
          ++ smWholeLines lines (smStep2 lines (smStep1 lines s m).1 m).1.line m.gl
          ++ (smStep4 lines { (smStep2 lines (smStep1 lines s m).1 m).1 with
              line := max (smStep2 lines (smStep1 lines s m).1 m).1.line m.gl } m).2) := by
  unfold smFullStep
  rw [if_neg]
  simp only [Bool.or_eq_true, decide_eq_true_eq, Bool.and_eq_true, beq_iff_eq]
  unfold notBehind at h
  omega

theorem notBehind_or_back : notBehind s m ∨ (m.gl < s.line ∨ (m.gl = s.line ∧ m.gc < s.col)) := by
  unfold notBehind
  omega

end step

structure MoveOK (I J : List Ev → FullSt → Prop) (lines : List Text) (fl fc : Nat) (m : Mapping) : Prop where
  move : ∀ acc s evs s', I acc s → Move lines m s evs s' → I (acc ++ evs) s'
  activate : ∀ acc s, I acc s → s.closed lines → s.line = m.gl → s.col = m.gc → J acc (smStep5 fl fc s m)

section walk
variable {I J : List Ev → FullSt → Prop} {lines : List Text} {fl fc : Nat} {m : Mapping}

theorem MoveOK.opt (h : MoveOK I J lines fl fc m) {acc : List Ev} {s : FullSt} (hi : I acc s) {r : FullSt × List Ev}
    (hr : Move.opt lines m s r) : I (acc ++ r.2) r.1 := by
  rcases hr with rfl | hv
  · rwa [List.append_nil]
  · exact h.move _ _ _ _ hi hv

theorem MoveOK.wholeLines (h : MoveOK I J lines fl fc m) : ∀ (k : Nat) (acc : List Ev) (s : FullSt), m.gl - s.line = k →
    I acc s → s.closed lines → s.line ≤ m.gl → (s.line < m.gl → s.col = 0) →
    I (acc ++ smWholeLines lines s.line m.gl) { s with line := m.gl } ∧ FullSt.closed lines { s with line := m.gl } := by
  intro k
  induction k with
  | zero =>
    intro acc s hk hi hq hle _
    have he : m.gl = s.line := by omega
    rw [smWholeLines_nil lines _ _ (by omega), List.append_nil, he]
    exact ⟨hi, hq⟩
  | succ k ih =>
    intro acc s hk hi hq hle hc
    have hlt : s.line < m.gl := by omega
    rw [smWholeLines_step lines _ _ hlt, ← List.append_assoc]
    exact ih _ { s with line := s.line + 1 } (by show m.gl - (s.line + 1) = k; omega) (h.move _ _ _ _ hi (.whole hq hlt (hc hlt)))
      (fun ha => Nat.lt_succ_of_lt (hq ha)) hlt (fun _ => hc hlt)

theorem smFullStep_walk (h : MoveOK I J lines fl fc m) (acc : List Ev) (s : FullSt) (hi : I acc s) (hb : notBehind s m) :
    J (acc ++ (smFullStep lines fl fc s m).2) (smFullStep lines fl fc s m).1 := by
  rw [smFullStep_eq lines fl fc s m hb]
  simp only [← List.append_assoc]
  obtain ⟨v1, q1, b1⟩ := smStep1_move lines s m hb
  have i1 := h.opt hi v1
  generalize smStep1 lines s m = r1 at i1 q1 b1 ⊢
  obtain ⟨v2, q2, b2, c2⟩ := smStep2_move lines r1.1 m q1 b1
  have i2 := h.opt i1 v2
  generalize smStep2 lines r1.1 m = r2 at i2 q2 b2 c2 ⊢
  have hle : r2.1.line ≤ m.gl := by unfold notBehind at b2; omega
  rw [Nat.max_eq_right hle]
  obtain ⟨i3, q3⟩ := h.wholeLines _ _ r2.1 rfl i2 q2 hle c2
  obtain ⟨v4, q4, l4, c4⟩ := smStep4_move lines { r2.1 with line := m.gl } m q3 rfl
    (b2.elim (fun hlt => c2 hlt ▸ Nat.zero_le _) (·.2))
  exact h.activate _ _ (h.opt i3 v4) q4 l4 c4

theorem smFullStep_at (lines : List Text) (fl fc : Nat) (s : FullSt) (m : Mapping) (hb : notBehind s m) :
    (smFullStep lines fl fc s m).1.line = m.gl ∧ (smFullStep lines fl fc s m).1.col = m.gc :=
  smFullStep_walk (I := fun _ _ => True) (J := fun _ s' => s'.line = m.gl ∧ s'.col = m.gc)
    ⟨fun _ _ _ _ _ _ => trivial, fun _ s _ _ hl hc => ⟨(smStep5_pos fl fc s m).1.trans hl, (smStep5_pos fl fc s m).2.trans hc⟩⟩ [] s trivial hb

end walk

def smFullState (lines : List Text) (fl fc : Nat) : FullSt → List Mapping → FullSt
  | s, [] => s
  | s, m :: ms => smFullState lines fl fc (smFullStep lines fl fc s m).1 ms

theorem smFullState_append (lines : List Text) (fl fc : Nat) : ∀ (ms ms' : List Mapping) (s : FullSt),
    smFullState lines fl fc s (ms ++ ms') = smFullState lines fl fc (smFullState lines fl fc s ms) ms' := by
  intro ms
  induction ms with
  | nil => intro ms' s; rfl
  | cons m ms ih => intro ms' s; simp only [List.cons_append, smFullState, ih]

theorem smFullGo_walk {I : List Ev → FullSt → Prop} (lines : List Text) (fl fc : Nat) : ∀ (ms : List Mapping),
    (∀ m ∈ ms, ∀ acc s, I acc s → notBehind s m → I (acc ++ (smFullStep lines fl fc s m).2) (smFullStep lines fl fc s m).1) →
    ∀ (acc : List Ev) (s : FullSt), I acc s → I (acc ++ smFullGo lines fl fc s ms) (smFullState lines fl fc s ms) := by
  intro ms
  induction ms with
  | nil => intro _ acc s hi; rw [smFullGo, List.append_nil]; exact hi
  | cons m ms ih =>
    intro h acc s hi
    rw [smFullGo, smFullState, ← List.append_assoc]
    refine ih (fun x hx => h x (List.mem_cons_of_mem _ hx)) _ _ ?_
    rcases notBehind_or_back s m with hb | hb
    · exact h m List.mem_cons_self acc s hi hb
    · rw [smFullStep_back lines fl fc s m hb, List.append_nil]; exact hi

theorem smFullState_reached (lines : List Text) (fl fc : Nat) (ms : List Mapping) (z : Mapping) (s : FullSt) :
    reached (smFullState lines fl fc s (ms ++ [z])) z := by
  rw [smFullState_append]
  generalize smFullState lines fl fc s ms = s'
  show reached (smFullStep lines fl fc s' z).1 z
  rcases notBehind_or_back s' z with hb | hb
  · obtain ⟨e1, e2⟩ := smFullStep_at lines fl fc s' z hb
    exact Or.inr ⟨e1.symm, Nat.le_of_eq e2.symm⟩
  · rw [smFullStep_back lines fl fc s' z hb]
    show z.gl < s'.line ∨ (z.gl = s'.line ∧ z.gc ≤ s'.col)
    omega

/-- a chunk with a stretch of one line of the text (a whole line, or `substring(c, b)` of it) at `(l, c)`, on a line from `lo` on;
if it carries a location, the location satisfies `O` and the stretch is not empty -/
def SMChunk (lines : List Text) (O : Option Orig → Prop) (lo : Nat) (e : Ev) : Prop :=
  ∃ l c t o, e = .chunk (some t) ⟨l, c, o⟩ ∧ lo ≤ l ∧ (t = lineAt lines l ∨ ∃ b, t = csub (lineAt lines l) c b)
    ∧ (o = none ∨ (t.isEmpty = false ∧ O o))

theorem forall_mem_append_ite {K : Ev → Prop} {acc : List Ev} (h : ∀ e ∈ acc, K e) (c : Prop) [Decidable c] (x : Ev) (hx : c → K x) :
    ∀ e ∈ acc ++ (if c then [x] else []), K e := by
  intro e he
  rcases List.mem_append.1 he with he | he
  · exact h e he
  · split at he
    · rename_i hc; rw [List.mem_singleton.1 he]; exact hx hc
    · cases he

theorem forall_mem_append_opt {K : Ev → Prop} {acc : List Ev} (h : ∀ e ∈ acc, K e) (ch : Text) (x : Ev) (hx : ch.isEmpty = false → K x) :
    ∀ e ∈ acc ++ (if ch.isEmpty then [] else [x]), K e := by
  intro e he
  rcases List.mem_append.1 he with he | he
  · exact h e he
  · split at he
    · cases he
    · rename_i hc; rw [List.mem_singleton.1 he]; exact hx (Bool.eq_false_iff.2 hc)

theorem chunkMoves (lines : List Text) (O : Option Orig → Prop) (lo fl fc : Nat) (m : Mapping) (hm : O m.orig) :
    MoveOK (fun acc s => (∀ e ∈ acc, SMChunk lines O lo e) ∧ O s.orig ∧ lo ≤ s.line)
      (fun acc s => (∀ e ∈ acc, SMChunk lines O lo e) ∧ O s.orig ∧ lo ≤ s.line) lines fl fc m where
  move := fun _ _ _ _ h hv => by
    cases hv with
    | closeEol | closeUpto =>
      exact ⟨forall_mem_append_opt h.1 _ _ fun hne => ⟨_, _, _, _, rfl, h.2.2, Or.inr ⟨_, rfl⟩, Or.inr ⟨hne, h.2.1⟩⟩, h.2.1, Nat.le_trans h.2.2 (by simp)⟩
    | restEol | gap => exact ⟨forall_mem_append_ite h.1 _ _ fun _ => ⟨_, _, _, _, rfl, h.2.2, Or.inr ⟨_, rfl⟩, Or.inl rfl⟩, h.2.1, Nat.le_trans h.2.2 (by simp)⟩
    | whole => exact ⟨forall_mem_append_ite h.1 _ _ fun _ => ⟨_, _, _, _, rfl, h.2.2, Or.inl rfl, Or.inl rfl⟩, h.2.1, Nat.le_trans h.2.2 (by simp)⟩
  activate := fun _ s h _ _ _ => ⟨h.1, by
    rcases smStep5_cases fl fc s m with ⟨o, ho, _, e⟩ | ⟨_, e⟩
    · rw [e, ← ho]; exact hm
    · rw [e]; exact h.2.1, (smStep5_pos fl fc s m).1 ▸ h.2.2⟩

theorem smFullGo_mem (lines : List Text) (O : Option Orig → Prop) (fl fc : Nat) (ms : List Mapping) (s : FullSt) (hs : O s.orig)
    (hm : ∀ m ∈ ms, O m.orig) : ∀ e ∈ smFullGo lines fl fc s ms, SMChunk lines O s.line e := by
  have := smFullGo_walk lines fl fc ms (fun m hmem acc s' h hb => smFullStep_walk (chunkMoves lines O s.line fl fc m (hm m hmem)) acc s' h hb)
    [] s ⟨fun _ he => (by cases he), hs, Nat.le_refl _⟩
  rw [List.nil_append] at this
  exact this.1

/-- what a text-less leaf stream keeps of a list of mappings: the mapped ones, and an unmapped one only on the line `act` of the
mapping kept before it, so, where lines do not go backwards, only after a mapped one on its line, which it closes -/
def thin : Nat → List Mapping → List Mapping
  | _, [] => []
  | act, m :: ms => if m.orig.isSome ∨ act = m.gl then m :: thin m.gl ms else thin act ms

theorem thin_sublist : ∀ (ms : List Mapping) (act : Nat), (thin act ms).Sublist ms
  | [], _ => .slnil
  | m :: ms, act => by
    simp only [thin]
    split
    · exact (thin_sublist ms _).cons_cons m
    · exact (thin_sublist ms _).cons m

/-- **the text-less splitter in closed form**: of the segments before the end of the text, it delivers `thin` -/
theorem smFinalGo_eq (r : Info) (ms : List Mapping) (act : Nat) :
    smFinalGo r act ms = (thin act (ms.filter fun m => !(m.gl ≥ r.line && (m.gc ≥ r.col || m.gl > r.line)))).map (Ev.chunk none) := by
  fun_induction smFinalGo r act ms with
  | case1 => rfl
  | case2 act m ms hc ih => rw [List.filter_cons_of_neg (by rw [hc]; decide), ih]
  | case3 act m ms hc o ho ih =>  -- mapped
    rw [List.filter_cons_of_pos (by rw [Bool.eq_false_iff.2 hc]; rfl), thin, if_pos (Or.inl (by rw [ho]; rfl)), List.map_cons, ih]
  | case4 act m ms hc ho ha ih =>  -- unmapped, on the line of the mapping kept last
    obtain ⟨gl, gc, o⟩ := m
    cases ho
    rw [List.filter_cons_of_pos (by rw [Bool.eq_false_iff.2 hc]; rfl), thin, if_pos (Or.inr (beq_iff_eq.1 ha)), List.map_cons, ih, beq_iff_eq.1 ha]
  | case5 act m ms hc ho ha ih =>  -- unmapped, with nothing to close
    rw [List.filter_cons_of_pos (by rw [Bool.eq_false_iff.2 hc]; rfl), thin, if_neg (by simpa [ho] using ha), ih]

theorem smFinalGo_mem {r : Info} {ms : List Mapping} {act : Nat} {e : Ev} (he : e ∈ smFinalGo r act ms) :
    ∃ m ∈ ms, e = .chunk none m ∧ (!(m.gl ≥ r.line && (m.gc ≥ r.col || m.gl > r.line))) = true := by
  rw [smFinalGo_eq] at he
  obtain ⟨m, hm, rfl⟩ := List.mem_map.1 he
  obtain ⟨hmem, hcond⟩ := List.mem_filter.1 ((thin_sublist _ _).subset hm)
  exact ⟨m, hmem, rfl, hcond⟩

/-- the location the splitters without columns give line `l`: that of the first mapped segment on `l` among the segments that go
forward from line `cur` and lie on one of the `len` lines, its name dropped -/
def smLineOrig (len l : Nat) : Nat → List Mapping → Option Orig
  | _, [] => none
  | cur, m :: ms =>
    match m.orig with
    | none => smLineOrig len l cur ms
    | some o =>
      if m.gl < cur || m.gl > len then smLineOrig len l cur ms
      else if l = m.gl then some { o with name := none } else smLineOrig len l (m.gl + 1) ms

theorem smLineOrig_some (P : Orig → Prop) {len l : Nat} {o : Orig} : ∀ {ms : List Mapping} {cur : Nat},
    (∀ m ∈ ms, ∀ o, m.orig = some o → P { o with name := none }) → smLineOrig len l cur ms = some o → cur ≤ l ∧ l ≤ len ∧ P o
  | [], _, _, h => nomatch h
  | m :: ms, cur, hP, h => by
    have hrest := fun x hx => hP x (List.mem_cons_of_mem m hx)
    unfold smLineOrig at h
    split at h
    · exact smLineOrig_some P hrest h
    · rename_i o' ho
      split at h
      · exact smLineOrig_some P hrest h
      · rename_i hs
        obtain ⟨hge, hle⟩ : cur ≤ m.gl ∧ m.gl ≤ len := by simpa only [Bool.or_eq_true, decide_eq_true_eq, not_or, Nat.not_lt] using hs
        split at h
        · rename_i hl
          exact ⟨hl ▸ hge, hl ▸ hle, Option.some.inj h ▸ hP m List.mem_cons_self o' ho⟩
        · obtain ⟨h1, h2⟩ := smLineOrig_some P hrest h
          exact ⟨Nat.le_trans (Nat.le_succ_of_le hge) h1, h2⟩

theorem smLineOrig_lt (len l : Nat) (ms : List Mapping) (cur : Nat) (hl : l < cur) : smLineOrig len l cur ms = none := by
  cases h : smLineOrig len l cur ms with
  | none => rfl
  | some o => exact absurd (smLineOrig_some (fun _ => True) (fun _ _ _ _ => trivial) h).1 (Nat.not_le_of_lt hl)

theorem smWholeLines_eq (lines : List Text) : ∀ (k a b : Nat), b - a = k → 1 ≤ a →
    smWholeLines lines a b = lineEvs (fun _ => none) a ((lines.drop (a - 1)).take (b - a)) := by
  intro k
  induction k with
  | zero => intro a b hk _; rw [smWholeLines_nil lines a b (Nat.le_of_sub_eq_zero hk), hk]; rfl
  | succ k ih =>
    intro a b hk h1
    have hk' : b - (a + 1) = k := by omega
    rw [smWholeLines_step lines a b (by omega), ih (a + 1) b hk' (Nat.le_add_left 1 a), hk, hk', Nat.add_sub_cancel]
    by_cases hn : a ≤ lines.length
    · have hlt : a - 1 < lines.length := by omega
      rw [if_pos hn, List.drop_eq_getElem_cons hlt, List.take_succ_cons, lineEvs, Nat.sub_add_cancel h1, getD_of_lt _ hlt]
      rfl
    · rw [if_neg hn, List.drop_of_length_le (by omega), List.drop_of_length_le (by omega), List.take_nil, List.take_nil]
      rfl

/-- **the splitter without columns in closed form**: with the whole lines `streamSMLinesFull` appends after the last mapping, it
delivers the lines from `cur` on, one chunk each, line `l` with the location `smLineOrig` gives it -/
theorem smLinesFull_eq (lines : List Text) : ∀ (ms : List Mapping) (cur : Nat), 1 ≤ cur →
    (smLinesFullGo lines cur ms).1 ++ smWholeLines lines (smLinesFullGo lines cur ms).2 (lines.length + 1)
      = lineEvs (fun l => smLineOrig lines.length l cur ms) cur (lines.drop (cur - 1))
  | [], cur, h1 => by
    rw [smLinesFullGo, List.nil_append, smWholeLines_eq lines _ cur _ rfl h1, List.take_of_length_le (by rw [List.length_drop]; omega)]
    rfl
  | m :: ms, cur, h1 => by
    cases ho : m.orig with
    | none => simp only [smLinesFullGo, smLineOrig, ho]; exact smLinesFull_eq lines ms cur h1
    | some o =>
      by_cases hs : (decide (m.gl < cur) || decide (m.gl > lines.length)) = true
      · simp only [smLinesFullGo, smLineOrig, ho, hs, if_true]; exact smLinesFull_eq lines ms cur h1
      · simp only [smLinesFullGo, smLineOrig, ho, hs, Bool.false_eq_true, if_false]
        obtain ⟨hge, hle⟩ : cur ≤ m.gl ∧ m.gl ≤ lines.length := by
          simpa only [Bool.or_eq_true, decide_eq_true_eq, not_or, Nat.not_lt] using hs
        have hlt : m.gl - 1 < lines.length := by omega
        -- the lines before `m.gl` carry nothing, line `m.gl` carries `m`'s location, the later lines are the rest's
        have hsplit : lines.drop (cur - 1) = (lines.drop (cur - 1)).take (m.gl - cur) ++ lines.getD (m.gl - 1) [] :: lines.drop m.gl := by
          conv => lhs; rw [← List.take_append_drop (m.gl - cur) (lines.drop (cur - 1))]
          rw [List.drop_drop, show cur - 1 + (m.gl - cur) = m.gl - 1 by omega, List.drop_eq_getElem_cons hlt, getD_of_lt _ hlt,
            show m.gl - 1 + 1 = m.gl by omega]
        have hlen : ((lines.drop (cur - 1)).take (m.gl - cur)).length = m.gl - cur :=
          List.length_take_of_le (by rw [List.length_drop]; omega)
        rw [hsplit, lineEvs_append, hlen, Nat.add_sub_cancel' hge, lineEvs, if_pos rfl, Nat.max_eq_right hge, List.append_assoc,
          List.cons_append, smLinesFull_eq lines ms (m.gl + 1) (Nat.le_add_left 1 _), Nat.add_sub_cancel,
          smWholeLines_eq lines _ cur m.gl rfl h1]
        congr 1
        · exact lineEvs_congr _ _ fun k h1 h2 => by
            rw [hlen, Nat.add_sub_cancel' hge] at h2
            rw [if_neg (Nat.ne_of_lt h2), smLineOrig_lt _ _ _ _ (Nat.lt_succ_of_lt h2)]
        · congr 1
          exact lineEvs_congr _ _ fun k h1 _ => by rw [if_neg (Nat.ne_of_gt h1)]

/-- **`stream_chunks_of_source_map_lines_full` in closed form**: after the sources of the map, one chunk per line of the text -/
theorem streamSMLinesFull_eq (t : Text) (sm : SMap) : ∃ hd, (∀ e ∈ hd, e.isChunk = false) ∧ streamSMLinesFull t sm
    = ⟨hd ++ lineEvs (fun l => smLineOrig (splitLines t).length l 1 (decode sm.mappings)) 1 (splitLines t), lineLoopInfo (splitLines t)⟩ := by
  unfold streamSMLinesFull
  by_cases he : (splitLines t).isEmpty = true
  · rw [if_pos he, List.isEmpty_iff.1 he]
    exact ⟨[], nofun, rfl⟩
  · rw [if_neg he]
    refine ⟨_, smSourceEvs_noChunk sm, ?_⟩
    dsimp only
    rw [List.append_assoc, smLinesFull_eq _ _ 1 (Nat.le_refl 1)]
    rfl

theorem streamSM_chunk {txt : Text} {sm : SMap} {c : Bool} {t : Option Text} {m : Mapping}
    (h : Ev.chunk t m ∈ (streamSM txt sm ⟨c, false⟩).evs) : LeafChunk txt t m := by
  cases c
  · obtain ⟨hd, hnc, e⟩ := streamSMLinesFull_eq txt sm
    simp only [streamSM, e] at h
    rcases List.mem_append.1 h with h | h
    · cases hnc _ h
    · exact lineEvs_chunk h
  · simp only [streamSM, streamSMFull] at h
    split at h
    · cases h
    · rcases List.mem_append.1 h with h | h
      · rcases List.mem_append.1 h with h | h
        · cases smSourceEvs_noChunk sm _ h
        · cases smNameEvs_noChunk sm _ h
      · obtain ⟨l, a, x, o, e, _, hx, ho⟩ := smFullGo_mem _ (fun _ => True) _ _ _ _ trivial (fun _ _ => trivial) _ h
        cases e
        exact .stretch (l - 1) a hx (ho.imp id (·.1))

theorem smLinesFinalGo_eq (fl : Nat) : ∀ (ms : List Mapping) (cur : Nat),
    smLinesFinalGo fl cur ms = mappedLines (fun l => smLineOrig fl l cur ms) cur (fl + 1 - cur)
  | [], cur => (List.filterMap_eq_nil_iff.2 fun _ _ => rfl).symm
  | m :: ms, cur => by
    cases ho : m.orig with
    | none => simp only [smLinesFinalGo, smLineOrig, ho]; exact smLinesFinalGo_eq fl ms cur
    | some o =>
      by_cases hs : (decide (m.gl < cur) || decide (m.gl > fl)) = true
      · have hs' : (decide (cur ≤ m.gl) && decide (m.gl ≤ fl)) = false := by
          simp only [Bool.or_eq_true, decide_eq_true_eq] at hs
          simp only [Bool.and_eq_false_imp, decide_eq_true_eq, decide_eq_false_iff_not]; omega
        simp only [smLinesFinalGo, smLineOrig, ho, hs, hs', if_true, Bool.false_eq_true, if_false]
        exact smLinesFinalGo_eq fl ms cur
      · obtain ⟨hge, hle⟩ : cur ≤ m.gl ∧ m.gl ≤ fl := by
          simpa only [Bool.or_eq_true, decide_eq_true_eq, not_or, Nat.not_lt] using hs
        simp only [smLinesFinalGo, smLineOrig, ho, hs, hge, hle, decide_true, Bool.and_self, if_true, Bool.false_eq_true, if_false]
        -- no line before `m.gl` is mapped, line `m.gl` carries `m`'s location, the later lines are the rest's
        rw [smLinesFinalGo_eq fl ms (m.gl + 1), show fl + 1 - cur = (m.gl - cur) + ((fl + 1 - (m.gl + 1)) + 1) by omega,
          mappedLines_skip fun l _ h2 => by
            rw [Nat.add_sub_cancel' hge] at h2
            rw [if_neg (Nat.ne_of_lt h2), smLineOrig_lt _ _ _ _ (Nat.lt_succ_of_lt h2)],
          Nat.add_sub_cancel' hge, mappedLines_succ, if_pos rfl]
        exact congrArg _ (mappedLines_congr fun l h1 _ => (if_neg (Nat.ne_of_gt h1)).symm)

end Rs
