import RsModel.Lemmas.CombModes
import RsModel.Lemmas.LinesLeaves
/-! # C03 for the combinator, columns = false -/
namespace Rs

theorem lookupLines_filter (ms : List Mapping) (L : Nat) : lookupLines ms L = lookupLines (ms.filter isMapped) L := by
  have : (fun m : Mapping => decide (isMapped m = true ∧ (m.gl == L && m.orig.isSome) = true)) = fun m => m.gl == L && m.orig.isSome :=
    funext fun m => Bool.eq_iff_iff.2 (by
      rw [decide_eq_true_iff, isMapped, Bool.and_eq_true]
      exact ⟨fun h => h.2, fun h => ⟨h.2, h⟩⟩)
  unfold lookupLines
  rw [List.find?_filter, this]

theorem weave_filter : ∀ (A : List Mapping) (O : List (Option Orig)),
    (weave A O).filter isMapped = (weave (A.filter isMapped) O).filter isMapped := by
  intro A
  induction A with
  | nil => intro O; rfl
  | cons a A ih =>
    intro O
    by_cases hq : isMapped a = true
    · rw [List.filter_cons_of_pos hq, weave_cons_mapped hq, weave_cons_mapped hq, List.filter_cons, List.filter_cons, ih]
    · rw [List.filter_cons_of_neg hq, weave_cons_unmapped (by simpa using hq), List.filter_cons_of_neg (by simp [isMapped]), ih]

theorem lookupLines_weave (A : List Mapping) (O : List (Option Orig)) (L : Nat) :
    lookupLines (weave A O) L = lookupLines (weave (A.filter isMapped) O) L := by
  rw [lookupLines_filter, weave_filter, ← lookupLines_filter]

/-- **T3 for the combinator, columns = false**: the text-less line-granular stream is sorted, announces what the normal one announces,
and gives every generated line the same first mapped segment -/
theorem streamCombined_m3l (t : Text) (sm : SMap) (n : Text) (os : Option Text) (im : SMap) (rm : Bool) :
    sortedFrom 1 0 (chunkMs (streamCombined t sm n os im rm ⟨false, true⟩).evs)
    ∧ declsOf (streamCombined t sm n os im rm ⟨false, true⟩).evs = declsOf (streamCombined t sm n os im rm ⟨false, false⟩).evs
    ∧ ∀ L, lookupLines (chunkMs (streamCombined t sm n os im rm ⟨false, true⟩).evs) L
        = lookupLines (chunkMs (streamCombined t sm n os im rm ⟨false, false⟩).evs) L := by
  have hM := streamSM_linesMapped t sm
  obtain ⟨O, wF, wN, hd⟩ := streamCombined_modes t sm n os im rm false hM
  rw [wF, wN]
  refine ⟨weave_sorted _ _ _ _ (streamSM_linesSorted t sm), hd, fun L => ?_⟩
  rw [lookupLines_weave, lookupLines_weave (chunkMs (streamSM t sm ⟨false, false⟩).evs)]
  exact congrArg (fun M => lookupLines (weave M O) L) hM

end Rs
