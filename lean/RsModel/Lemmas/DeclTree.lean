import RsModel.Lemmas.DeclReplace
import RsModel.Lemmas.ColdStrip
import RsModel.Lemmas.CombTables
/-! # C11 stream clause for whole trees, all four modes -/
namespace Rs

mutual
/-- what the property's quantifier provides: attached maps (outer and inner) reference existing sources / names of their own tables -/
def Src.IdxHyp : Src → Prop
  | .sms t name map origSrc inner remove =>
    match inner with
    | none => MapIdxOK map
    | some im => MapIdxOK map ∧ MapIdxOK im
  | .concat cs => cs.IdxHyps
  | .replace inner _ => inner.IdxHyp
  | .cached _ inner => inner.IdxHyp
  | _ => True
def SrcList.IdxHyps : SrcList → Prop
  | .nil => True
  | .cons s r => s.IdxHyp ∧ r.IdxHyps
end

def StoreIdx (σ : Store) (nodes : List (Nat × Src)) : Prop :=
  ∀ p ∈ nodes, ∀ o m, σ.get? (p.1, o) = some (some m) → MapIdxOK m

theorem storeIdx_transfer (σ σ' : Store) (nodes : List (Nat × Src)) (h : StoreIdx σ nodes)
    (hsame : ∀ p ∈ nodes, ∀ o, σ'.get? (p.1, o) = σ.get? (p.1, o)) : StoreIdx σ' nodes := by
  intro p hp o m hm
  rw [hsame p hp o] at hm
  exact h p hp o m hm

/- `DeclOK` recurses on the event list: while it may unfold, the elaborator evaluates the stream of a given node (the compiled
recursion of `Src.stream`) each time such a term is passed as its argument, to see how far `DeclOK` computes -/
attribute [local irreducible] DeclOK

theorem Src.stream_declOK : ∀ (s : Src) (o : Opts) (σ : Store), s.IdxHyp → s.ids.Nodup → StoreIdx σ s.cachedNodes →
    DeclOK 0 0 (s.stream o σ).1.evs
  | .raw _ _ t | .rawStr t | .rawBuf _ t => fun o _ _ _ _ => streamRaw_declOK t o 0 0
  | .orig t name => fun o _ _ _ _ => streamOriginal_declOK t name o
  | .sms t name map origSrc none remove => fun o _ hp _ _ => streamSM_declOK t map o hp
  | .sms t name map origSrc (some im) remove => fun o _ hp _ _ => streamCombined_declOK t map name origSrc im remove o hp.1 hp.2
  | .concat .nil | .concat (.cons _ (.cons _ _)) => fun _ _ _ _ _ => concatStream_declOK _ _
  | .concat (.cons s .nil) => fun o σ hp hn hs => by
    simp only [Src.ids, Src.cachedNodes, SrcList.cachedNodesL, List.append_nil] at hn hs
    exact Src.stream_declOK s o σ hp.1 hn hs
  | .replace inner rs => fun _ σ hp hn hs => replaceStream_declOK _ _ (Src.stream_declOK inner _ σ hp hn hs)
  | .cached id inner => fun o σ hp hn hs => by
    cases hg : Store.get? σ (id, o) with
    | none =>
      rw [Src.cached_stream_cold id inner o σ hg]
      exact Src.stream_declOK inner o σ hp (List.nodup_cons.1 hn).2 (fun p hpm => hs p (List.mem_cons_of_mem _ hpm))
    | some v =>
      rw [Src.cached_stream_hit id inner o σ v hg]
      cases v with
      | none => exact streamRaw_declOK inner.src o 0 0
      | some m => exact streamSM_declOK inner.src m o (hs (id, inner) List.mem_cons_self o m hg)

/-- a cache-free tree looks nothing up, so what it announces is dense on any store -/
theorem Src.declOK_nc (s : Src) (h : s.NoCached) (hi : s.IdxHyp) (o : Opts) (σ : Store) : DeclOK 0 0 (s.stream o σ).1.evs :=
  Src.stream_declOK s o σ hi (Src.nc_nodup s h) fun p hp => by rw [Src.nc_nodes s h] at hp; cases hp

end Rs
