import RsModel.Lemmas.ReplaceWalk
/-!
# C06, ReplaceSource: the column is advanced by exactly the preceding text where the recorded content matches

`FM contents a chunk` (ReplaceWalk): the recorded original content, read from the inner chunk's original location `a`, spells out the
inner chunk's text (every piece of it, from the correspondingly advanced column) — `check_original_content` succeeds wherever it is
asked.  Then every delivered chunk that is cut from / spliced into that inner chunk at byte offset `p` reports original column
`a.col + p` (`Moved.exact`, `rOnChunk_adv`).

What the delivered texts are needs no hypothesis on the recorded contents (`rOnChunk_text`): for every inner chunk, every chunk the
ReplaceSource delivers carries a non-empty slice `chunk[p..q)` of the inner text or a line of the content of one of the pending
replacements.  This is what is needed for an inner chunk that is itself generated text (a ReplaceSource inside a ReplaceSource): its
pieces stay generated text.
-/
namespace Rs

/-- a delivered chunk reports `a`'s source and line and the column `a.col + p` for an offset `p` inside the inner chunk, and it is
either the piece `chunk[p..q)` of the inner text or a line of the content of one of the replacements `RS` -/
def AtOffset (RS : List Repl) (a : Orig) (chunk : Text) (t : Option Text) (mm : Mapping) : Prop :=
  ∃ p, p < chunk.length ∧ (∃ y, mm.orig = some y ∧ y.src = a.src ∧ y.line = a.line ∧ y.col = a.col + p)
    ∧ ((∃ q, p < q ∧ q ≤ chunk.length ∧ t = some (bsub chunk p q)) ∨ (∃ r ∈ RS, ∃ cl ∈ splitLines r.content, t = some cl))

theorem rOnChunk_adv (st : RSt) (chunk : Text) (hne : chunk ≠ []) (m : Mapping) (a : Orig) (hm : m.orig = some a) (hfm : FM st.contents a chunk) :
    ∀ t mm, Ev.chunk t mm ∈ (rOnChunk st chunk m).2 → AtOffset st.rest a chunk t mm := by
  intro t mm h
  obtain ⟨p, w, hp, hw, ⟨f, e⟩, hk⟩ := ((rOnChunk_delivered st chunk m).1 _ h).parts
  cases (hm ▸ hw : Moved _ _ (some a) _ _).exact hfm
  exact ⟨p, hp.resolve_right hne, ⟨_, e, rfl, rfl, rfl⟩, hk⟩

theorem fm_of_prefix (contents : List (Option Text)) (a : Orig) (chunk c : Text) (ln : Text) (hc : contents[a.src]? = some (some c))
    (hl0 : a.line ≠ 0) (hln : (splitLines c)[a.line - 1]? = some ln)
    (hpre : ∀ p q, p ≤ q → q ≤ chunk.length → (bsub chunk p q).isPrefixOf (csub ln (a.col + p) USIZE_MAX) = true) : FM contents a chunk := by
  intro p q h1 h2
  unfold checkContent
  simp only [hc, hl0, if_false, hln]
  exact hpre p q h1 h2

def TextOf (RS : List Repl) (chunk : Text) (t : Option Text) : Prop :=
  (∃ p q, p < q ∧ q ≤ chunk.length ∧ t = some (bsub chunk p q)) ∨ (∃ r ∈ RS, ∃ cl ∈ splitLines r.content, t = some cl)

theorem rOnChunk_text (RS : List Repl) (st : RSt) (chunk : Text) (m : Mapping) (hrest : ∀ r ∈ st.rest, r ∈ RS) :
    ∀ t mm, Ev.chunk t mm ∈ (rOnChunk st chunk m).2 → TextOf RS chunk t := by
  intro t mm hm
  cases (rOnChunk_delivered st chunk m).1 _ hm with
  | slice _ _ hpq hq => exact Or.inl ⟨_, _, hpq, hq, rfl⟩
  | line _ _ _ hr hcl => exact Or.inr ⟨_, hrest _ hr, _, hcl, rfl⟩

end Rs
