import RsModel.Lemmas.NameLevel
import RsModel.Lemmas.HasText
/-!
# ConcatSource at name level without any assumption on contents

`c06_concat` (in `Props/C06`) composes attributions *with* the embedded contents and therefore needs "one content per file name".
Dropping the contents from the announcements (`eraseC`) commutes with ConcatSource — its tables are keyed by name only — and makes that
assumption vacuous: so at name level (file name, line, column, name) a ConcatSource attributes every byte as its child does, for
all children that merely announce before use.
-/
namespace Rs

def eraseE : Ev → Ev
  | .source i s _ => .source i s none
  | e => e

def eraseC (evs : List Ev) : List Ev := evs.map eraseE

def eraseR (r : SResult) : SResult := ⟨eraseC r.evs, r.info⟩

theorem eraseC_append (a b : List Ev) : eraseC (a ++ b) = eraseC a ++ eraseC b := by simp [eraseC]

theorem eraseC_chunks : ∀ (evs : List Ev), (∀ e ∈ evs, e.isChunk = true) → eraseC evs = evs
  | [], _ => rfl
  | .chunk .. :: es, h => congrArg _ (eraseC_chunks es fun e he => h e (List.mem_cons_of_mem _ he))
  | .source .. :: _, h => nomatch h _ List.mem_cons_self
  | .name .. :: _, h => nomatch h _ List.mem_cons_self

theorem concatEv_erase (final : Bool) (st : CSt) (e : Ev) :
    concatEv final st (eraseE e) = ((concatEv final st e).1, eraseC (concatEv final st e).2) := by
  cases e with
  | chunk t m => exact Prod.ext rfl (eraseC_chunks _ (concatEv_chunk_isChunk final st t m)).symm
  | source i s c =>
    simp only [eraseE, concatEv, globalSource]
    cases st.sourceMapping.get? s <;> rfl
  | name i n =>
    simp only [eraseE, concatEv, globalName]
    cases st.nameMapping.get? n <;> rfl

theorem concatEvs_erase (final : Bool) : ∀ (evs : List Ev) (st : CSt),
    concatEvs final st (eraseC evs) = ((concatEvs final st evs).1, eraseC (concatEvs final st evs).2) := by
  intro evs
  induction evs with
  | nil => intro st; rfl
  | cons e es ih =>
    intro st
    show concatEvs final st (eraseE e :: eraseC es) = _
    rw [concatEvs_cons, concatEv_erase, ih, concatEvs_cons, eraseC_append]

theorem concatChild_erase (final : Bool) (st : CSt) (c : SResult) :
    concatChild final st (eraseR c) = ((concatChild final st c).1, eraseC (concatChild final st c).2) := by
  rw [concatChild_eq, concatChild_eq, eraseC_append, eraseC_chunks _ (CSt.pending_isChunk _ _),
    show (eraseR c).evs = eraseC c.evs from rfl, concatEvs_erase]
  rfl

theorem concatGo_erase (final : Bool) : ∀ (cs : List SResult) (st : CSt),
    concatGo final st (cs.map eraseR) = ((concatGo final st cs).1, eraseC (concatGo final st cs).2) := by
  intro cs
  induction cs with
  | nil => intro st; rfl
  | cons c cs ih =>
    intro st
    rw [List.map_cons, concatGo_cons, concatChild_erase, ih, concatGo_cons, eraseC_append]

theorem concatStream_erase (final : Bool) (cs : List SResult) : concatStream final (cs.map eraseR) = eraseR (concatStream final cs) := by
  simp only [concatStream, eraseR]
  rw [concatGo_erase]

def eraseTbl (S : SrcTbl) : SrcTbl := fun i => (S i).map fun p => (p.1, none)
def eraseLoc (r : RLoc) : RLoc := { r with file := r.file.map fun p => (p.1, none) }

theorem eraseTbl_upd (S : SrcTbl) (i : Nat) (s : Text) (c : Option Text) : eraseTbl (upd S i (s, c)) = upd (eraseTbl S) i (s, none) := by
  funext j
  unfold eraseTbl upd
  by_cases h : j = i <;> simp [h]

theorem attrN_erase : ∀ (evs : List Ev) (S : SrcTbl) (N : NameTbl),
    attrN (eraseTbl S) N (eraseC evs) = (attrN S N evs).map (Option.map eraseLoc)
  | [], _, _ => rfl
  | .chunk none _ :: es, S, N => attrN_erase es S N
  | .chunk (some t) m :: es, S, N => by
    show _ ++ attrN (eraseTbl S) N (eraseC es) = _
    rw [attrN_erase es S N, attrN, List.map_append, List.map_replicate]
    congr 2
    cases m.orig with
    | none => rfl
    | some o => simp [resolveO, eraseLoc, eraseTbl]
  | .source i s c :: es, S, N => by
    have := attrN_erase es (upd S i (s, c)) N
    rwa [eraseTbl_upd] at this
  | .name i n :: es, S, N => attrN_erase es S (upd N i n)

theorem toN_eraseLoc (r : RLoc) : (eraseLoc r).toN = r.toN := by
  unfold eraseLoc RLoc.toN
  simp only [Option.map_map]
  rfl

theorem NA_erase (evs : List Ev) : NA (eraseC evs) = NA evs := by
  unfold NA
  rw [show attrN emptyS emptyN (eraseC evs) = _ from attrN_erase evs emptyS emptyN, List.map_map]
  apply List.map_congr_left
  intro a _
  cases a with
  | none => rfl
  | some r => exact congrArg some (toN_eraseLoc r)

theorem declOK_erase : ∀ (evs : List Ev) (ns nn : Nat), DeclOK ns nn evs → DeclOK ns nn (eraseC evs)
  | [], _, _, _ => trivial
  | .chunk .. :: es, ns, nn, h => ⟨h.1, declOK_erase es ns nn h.2⟩
  | .source .. :: es, _, nn, h => ⟨h.1, declOK_erase es _ nn h.2⟩
  | .name .. :: es, ns, _, h => ⟨h.1, declOK_erase es ns _ h.2⟩

theorem contOK_erase (evs : List Ev) : ContOK (fun _ => none) (eraseC evs) := by
  intro i s c h
  simp only [eraseC, List.mem_map] at h
  obtain ⟨e, _, he⟩ := h
  cases e with
  | chunk t m => cases he
  | name j n => cases he
  | source j s' c' => simp only [eraseE, Ev.source.injEq] at he; exact he.2.2.symm

theorem evsTL_erase (evs : List Ev) : evsTL (eraseC evs) = evsTL evs := by
  unfold evsTL eraseC
  rw [List.any_map]
  congr 1
  funext e
  cases e <;> rfl

/-- **ConcatSource at name level**: whatever the children are, as long as each announces its sources and names before use
(C11) and delivers text: every byte contributed by child k resolves to the file name, line, column and name that child k
resolves it to on its own -/
theorem concatStream_NA (cs : List SResult) (h : ∀ c ∈ cs, DeclOK 0 0 c.evs ∧ evsTL c.evs = false) :
    NA (concatStream false cs).evs = (cs.map fun c => NA c.evs).flatten := by
  have e1 : NA (concatStream false cs).evs = NA (concatStream false (cs.map eraseR)).evs := by
    rw [concatStream_erase]; exact (NA_erase _).symm
  rw [e1]
  unfold NA
  rw [concatStream_attrN (fun _ => none) (cs.map eraseR) (by
    intro c hc
    obtain ⟨c0, hc0, rfl⟩ := List.mem_map.1 hc
    obtain ⟨d, tl⟩ := h c0 hc0
    exact ⟨wellDecl_of_declOK _ _ 0 0 emptyS emptyN (declOK_erase _ 0 0 d) (fun i hi => by omega) (fun i hi => by omega) (contOK_erase _),
      by simp only [eraseR]; rw [evsTL_erase]; exact tl⟩)]
  rw [List.map_flatten, List.map_map, List.map_map]
  congr 1
  apply List.map_congr_left
  intro c _
  exact NA_erase c.evs

end Rs
