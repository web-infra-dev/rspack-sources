import RsModel.Lemmas.SMText
import RsModel.Lemmas.TextComposite
import RsModel.Lemmas.ReplaceText
import RsModel.Lemmas.Replace
import RsModel.Lemmas.TreeWalk
/-!
# C01 for whole source trees

`Src.WF` states what the crate's types and the property's quantifier guarantee about a tree:
* the text of a `SourceMapSource`, and the text a `CachedSource` replays from, is a Rust `String` — its lines start
  on a character boundary and its length fits `usize` (`TextOK`);
* replacements have `start ≤ end`.
Nothing is assumed about maps, stores (what earlier calls cached), chunking of inner streams, or options.
-/
namespace Rs

mutual
def Src.WF : Src → Prop
  | .raw _ _ _ => True
  | .rawStr _ => True
  | .rawBuf _ _ => True
  | .orig _ _ => True
  | .sms t _ _ _ _ _ => TextOK t
  | .concat cs => cs.WFs
  | .replace inner rs => inner.WF ∧ ∀ r ∈ rs, r.start ≤ r.stop
  | .cached _ inner => inner.WF ∧ TextOK inner.src
def SrcList.WFs : SrcList → Prop
  | .nil => True
  | .cons s r => s.WF ∧ r.WFs
end

theorem Src.WF.hereditary : Src.Hereditary Src.WF := ⟨id, And.left, And.left⟩

/-- C01 per node kind: the text of the chunks is the text of the node -/
theorem Src.text_facts : Src.StreamFacts Src.WF (fun s o r => ∀ c, o = ⟨c, false⟩ → evsText r.evs = s.src)
    (fun l o rs => ∀ c, o = ⟨c, false⟩ → (rs.map fun r => evsText r.evs).flatten = l.srcs) where
  raw := fun _ t _ hs c ho => by rw [hs.src, ho]; exact streamRaw_text t c
  orig := fun t name _ _ c ho => by rw [ho]; exact streamOriginal_text t name c
  sms := fun t _ map _ _ _ h c ho => by rw [ho]; exact streamSM_text t map c h
  smsInner := fun t _ map _ _ _ _ h c ho => by rw [ho, streamCombined_text]; exact streamSM_text t map c h
  nil := fun _ _ _ => rfl
  cons := fun _ _ _ _ _ hr hrs c ho => by rw [List.map_cons, List.flatten_cons, hr c ho, hrs c ho]; rfl
  concat := fun cs _ rs _ h c ho => by
    rw [Src.src, ← h c ho, ho]
    match rs with
    | [] | _ :: _ :: _ => exact concatStream_text _
    | [r] => simp only [concatNode, List.map_cons, List.map_nil, List.flatten_cons, List.flatten_nil, List.append_nil]
  replace := fun inner rs _ _ h hr c ho => by
    rw [replaceStream_text _ _ (fun r hr => h.2 r ((mem_sortRepls rs r).1 hr)), hr c (by rw [ho]), Src.src, replaceSource_eq]
  cachedMiss := fun _ _ _ _ hr => hr
  cachedMap := fun _ inner m _ h c ho => by rw [ho]; exact streamSM_text inner.src m c h.2
  cachedRaw := fun _ inner _ c ho => by rw [ho]; exact streamRaw_text inner.src c

theorem Src.stream_text (s : Src) (c : Bool) (σ : Store) (h : s.WF) : evsText (s.stream ⟨c, false⟩ σ).1.evs = s.src :=
  Src.stream_induct Src.WF.hereditary Src.text_facts s ⟨c, false⟩ σ h c rfl

theorem SrcList.streams_text (l : SrcList) (c : Bool) (σ : Store) (h : l.WFs) :
    ((l.streams ⟨c, false⟩ σ).1.map fun r => evsText r.evs).flatten = l.srcs :=
  SrcList.streams_induct Src.WF.hereditary Src.text_facts l ⟨c, false⟩ σ h c rfl

end Rs
