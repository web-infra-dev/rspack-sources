import RsModel.Model.Stream
/-!
# Lines of a text, by its first line break

`splitLines` and `linesSpec` (what `Rope::lines_impl(trailing)` yields, as texts) unfolded one line at a time: no line break
(`splitAux_noNL`, `linesSpec_noNL`), or a first one at index `i` (`splitAux_NL`, `linesSpec_NL`).  The two collectors of
RopeLines follow these equations.
-/
namespace Rs
namespace Rope

theorem idxOf_cons_none {b : UInt8} {bs : Text} (h : (b :: bs).idxOf? NL = none) : b ≠ NL ∧ bs.idxOf? NL = none := by
  rw [List.idxOf?_cons] at h
  by_cases hb : b = NL
  · rw [if_pos (beq_iff_eq.2 hb)] at h; cases h
  · rw [if_neg (mt beq_iff_eq.1 hb)] at h
    exact ⟨hb, Option.map_eq_none_iff.1 h⟩

theorem idxOf_cons_some {b : UInt8} {bs : Text} {i : Nat} (h : (b :: bs).idxOf? NL = some i) :
    (b = NL ∧ i = 0) ∨ (b ≠ NL ∧ ∃ j, bs.idxOf? NL = some j ∧ i = j + 1) := by
  rw [List.idxOf?_cons] at h
  by_cases hb : b = NL
  · rw [if_pos (beq_iff_eq.2 hb)] at h
    exact .inl ⟨hb, (Option.some.inj h).symm⟩
  · rw [if_neg (mt beq_iff_eq.1 hb)] at h
    obtain ⟨j, hj, e⟩ := Option.map_eq_some_iff.1 h
    exact .inr ⟨hb, j, hj, e.symm⟩

theorem splitAux_noNL : ∀ (t acc : Text), t.idxOf? NL = none →
    splitLinesAux acc t = if (acc.reverse ++ t).isEmpty then [] else [acc.reverse ++ t] := by
  intro t
  induction t with
  | nil => intro acc _; simp [splitLinesAux]
  | cons b bs ih =>
    intro acc h
    obtain ⟨hb, hbs⟩ := idxOf_cons_none h
    rw [splitLinesAux, if_neg hb, ih (b :: acc) hbs, List.reverse_cons, List.append_assoc]
    rfl

theorem splitAux_NL : ∀ (t acc : Text) (i : Nat), t.idxOf? NL = some i →
    splitLinesAux acc t = (acc.reverse ++ t.take (i + 1)) :: splitLines (t.drop (i + 1)) := by
  intro t
  induction t with
  | nil => intro acc i h; cases h
  | cons b bs ih =>
    intro acc i h
    rcases idxOf_cons_some h with ⟨hb, rfl⟩ | ⟨hb, j, hj, rfl⟩
    · rw [splitLinesAux, if_pos hb, List.reverse_cons]; rfl
    · rw [splitLinesAux, if_neg hb, ih (b :: acc) j hj, List.reverse_cons, List.append_assoc]
      rfl

/-- the text-level specification of `lines_impl(trailing)` -/
def linesSpec (t : Text) (trailing : Bool) : List Text :=
  splitLines t ++ (if trailing && (t.isEmpty || endsWithNL t) then [[]] else [])

theorem linesSpec_nil (tr : Bool) : linesSpec [] tr = if tr then [[]] else [] := by
  cases tr <;> simp [linesSpec, splitLines, splitLinesAux]

theorem endsWithNL_drop (t : Text) (k : Nat) (h : k < t.length) : endsWithNL (t.drop k) = endsWithNL t := by
  unfold endsWithNL
  rw [List.getLast?_drop]
  simp [show ¬ t.length ≤ k from by omega]

theorem take_succ_endsNL (t : Text) (i : Nat) (h : t.idxOf? NL = some i) : i < t.length ∧ endsWithNL (t.take (i + 1)) = true := by
  obtain ⟨hlt, hi, _⟩ := List.findIdx?_eq_some_iff_getElem.1 h
  refine ⟨hlt, ?_⟩
  rw [endsWithNL, List.getLast?_take, if_neg (Nat.succ_ne_zero i), Nat.add_sub_cancel, List.getElem?_eq_getElem hlt,
    Option.some_or, beq_iff_eq.1 hi]
  exact beq_self_eq_true _

theorem linesSpec_NL (t : Text) (tr : Bool) (i : Nat) (h : t.idxOf? NL = some i) :
    linesSpec t tr = t.take (i + 1) :: linesSpec (t.drop (i + 1)) tr := by
  obtain ⟨hi, hnl⟩ := take_succ_endsNL t i h
  unfold linesSpec
  rw [show splitLines t = splitLinesAux [] t from rfl, splitAux_NL t [] i h]
  simp only [List.reverse_nil, List.nil_append, List.cons_append]
  congr 2
  have hte : t.isEmpty = false := by cases t <;> simp_all
  by_cases hr : i + 1 < t.length
  · have : (t.drop (i + 1)).isEmpty = false := by
      cases hd : t.drop (i + 1) with
      | nil => have := congrArg List.length hd; simp at this; omega
      | cons _ _ => rfl
    rw [this, hte, endsWithNL_drop t (i + 1) hr]
  · have hd : t.drop (i + 1) = [] := List.drop_eq_nil_of_le (by omega)
    have ht : t.take (i + 1) = t := List.take_of_length_le (by omega)
    rw [hd, hte]
    rw [ht] at hnl
    simp [hnl]

theorem linesSpec_noNL (t : Text) (tr : Bool) (h : t.idxOf? NL = none) (hne : t ≠ []) : linesSpec t tr = [t] := by
  unfold linesSpec
  rw [show splitLines t = splitLinesAux [] t from rfl, splitAux_noNL t [] h]
  have hte : t.isEmpty = false := by cases t <;> simp_all
  have hnl : endsWithNL t = false := by
    unfold endsWithNL
    cases hl : t.getLast? with
    | none => rfl
    | some c =>
      have : c ≠ NL := fun e => List.idxOf?_eq_none_iff.1 h (e ▸ List.mem_of_getLast? hl)
      simpa using this
  simp [hte, hnl]

theorem idxOf_append (x y : Text) :
    (x ++ y).idxOf? NL = (x.idxOf? NL).or ((y.idxOf? NL).map (· + x.length)) := List.findIdx?_append

end Rope
end Rs
