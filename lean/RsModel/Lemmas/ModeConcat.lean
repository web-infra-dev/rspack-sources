import RsModel.Lemmas.ConcatTables
import RsModel.Lemmas.ConcatBounds
/-!
# ConcatSource: the text-less stream attributes every character as the normal stream does

Given children whose two streams agree (`ChildOK`), the two concatenated streams agree at every character position
(`concatGo_modes`).  What the text-less walk needs beyond the per-child lookup equations is `NCInv`, the pending-close invariant.
-/
namespace Rs

/-- when no close is pending, nothing delivered so far attributes the rest of the current line -/
def NCInv (st : CSt) (prev : List Mapping) : Prop :=
  st.needClose = false → ∀ C, st.colOff ≤ C → (lookupGo (st.lineOff + 1) C none prev).join = none

/-- a mapped answer at or after the end of a list whose lines do not go backwards comes from its last mapping (the others on line
`l` would be overridden by it, and if it is on an earlier line, so are all): `last_mapping_line` is then `l` -/
theorem lastML_of_look (l c ce : Nat) (hc : ce ≤ c) (ms : List Mapping) (l0 init : Nat) (hl : linesOK l0 ms)
    (hb : ∀ m ∈ ms, m.gl < l ∨ (m.gl = l ∧ m.gc ≤ ce)) (o : Orig) (h : lookupGo l c none ms = some (some o)) : lastML init ms = l := by
  rcases List.eq_nil_or_concat ms with rfl | ⟨ms', z, rfl⟩
  · cases h
  · rw [List.concat_eq_append] at hl hb h ⊢
    have hz := hb z (by simp)
    have hp := (List.pairwise_append.1 ((linesOK_iff _ _).1 hl).2).2.2
    rw [lookupGo_append] at h
    simp only [lookupGo] at h
    unfold lastML
    rw [List.getLast?_concat]
    simp only
    by_cases hzl : z.gl = l
    · rw [if_pos ⟨hzl, by omega⟩] at h
      rw [Option.some.inj h]
      exact hzl
    · rw [if_neg fun h => hzl h.1, lookupGo_skip l c ms' none fun m hm h => by have := hp m hm z (by simp); omega] at h
      cases h

/-- a child whose own mappings have no answer on its first line lets a pending close through: its first chunk, if it has one, is
not at its origin -/
theorem closes_of_none (st : CSt) (c : SResult) (c' : Nat) (hnc : st.needClose = true)
    (hinfo : hasChunk c.evs = false → (c.info.line != 1 || c.info.col != 0) = true)
    (hr : lookupGo 1 c' none (trMs true (childStart st) c.evs) = none) : closes st c := by
  refine ⟨hnc, ?_⟩
  cases hch : hasChunk c.evs with
  | false => exact Or.inr ⟨rfl, hinfo hch⟩
  | true =>
    cases hfo : firstOff c.evs with
    | true => exact Or.inl rfl
    | false => exact absurd hr (trMs_first true c' c.evs _ hch hfo)

/-- a position of a child that the child's own mappings do not answer is unmapped, if a pending close is delivered whenever
the position is on the child's first line: either the close answers, or nothing delivered before does -/
theorem inside_none (st : CSt) (P : Pos) (hrel : FRel st P) (prev : List Mapping) (hb : Bound prev P) (hinv : NCInv st prev)
    (c : SResult) (l' c' : Nat) (hl : 1 ≤ l') (hcl : st.needClose = true → l' = 1 → closes st c) :
    (if closes st c ∧ l' = 1 then some none else lookupGo (shiftL st l') (shiftC st l' c') none prev).join = none := by
  by_cases h1 : l' = 1
  · subst h1
    by_cases hnc : st.needClose = true
    · rw [if_pos ⟨hcl hnc rfl, rfl⟩]; rfl
    · rw [if_neg fun h => hnc h.1.1]
      have := hinv (by simpa using hnc) (shiftC st 1 c') (by unfold shiftC; simp)
      unfold shiftL
      rw [Nat.add_comm]
      exact this
  · rw [if_neg fun h => h1 h.2, bound_none_above prev P hb _ _ (by unfold shiftL; rw [← hrel.1]; omega)]
    rfl

theorem shiftC_onto (st : CSt) (l col C : Nat) (hl : 1 ≤ l) (hC : (if l > 1 then col else st.colOff + col) ≤ C) :
    ∃ c', shiftC st l c' = C ∧ col ≤ c' := by
  unfold shiftC
  split at hC
  · exact ⟨C, if_neg (Nat.ne_of_gt ‹_›), hC⟩
  · obtain ⟨k, rfl⟩ := Nat.exists_eq_add_of_le hC
    exact ⟨col + k, by rw [if_pos (Nat.le_antisymm (Nat.le_of_not_lt ‹_›) hl)]; omega, Nat.le_add_right _ _⟩

theorem ncinv_step (st : CSt) (gpre T : Text) (hrel : FRel st (adv startPos gpre)) (prev : List Mapping)
    (hb : Bound prev (adv startPos gpre)) (hinv : NCInv st prev) (c : SResult) (hf : FinOK T c) (hlines : linesOK 1 (chunkMs c.evs)) :
    NCInv (concatChild true st c).1 (prev ++ chunkMs (concatChild true st c).2) := by
  obtain ⟨t1, t2, t3, _⟩ := concatChild_state true st c
  have hgl : 1 ≤ c.info.line := isPos_line_ge T c.info (by rw [hf.2]; exact isPos_end T)
  intro hnc C hC
  rw [t2] at hC
  rw [t3] at hnc
  -- the local position the lookup corresponds to: on the child's last line, at or after its last column
  obtain ⟨c', hc1, hc2⟩ := shiftC_onto st c.info.line c.info.col C hgl hC
  have hL : st.lineOff + (c.info.line - 1) + 1 = shiftL st c.info.line := by unfold shiftL; omega
  have hlo := trMs_linesOK true c.evs (childStart st) 1 hlines
  have hbnd := trMs_all true (fun gl gc => posLe ⟨gl, gc⟩ c.info) c.evs (childStart st) fun m hm =>
    hf.2 ▸ (isPos_bounds T _ (finOK_ms T c hf m hm)).2
  rw [t1, hL, ← hc1, lookupGo_append, concatChild_look]
  cases hr : lookupGo c.info.line c' none (trMs true (childStart st) c.evs) with
  | some x =>
    -- a mapped answer there is the child's last chunk: `last_mapping_line` = the last line, a close would be pending
    cases x with
    | none => rfl
    | some o =>
      rw [lastML_of_look c.info.line c' c.info.col hc2 _ 1 0 hlo hbnd o hr] at hnc
      simp at hnc
  | none =>
    refine inside_none st _ hrel prev hb hinv c _ c' hgl fun hn h1 => closes_of_none st c c' hn (fun hch => ?_) (h1 ▸ hr)
    -- no chunk: a close that was pending and is not pending afterwards has been delivered
    rw [hch, hn] at hnc
    cases hi : (c.info.line != 1 || c.info.col != 0) with
    | true => rfl
    | false => rw [hi] at hnc; simp at hnc

structure ChildOK (cf cn : SResult) (T : Text) : Prop where
  finF : FinOK T cf
  finN : FinOK T cn
  lines : linesOK 1 (chunkMs cf.evs)
  tiles : ∀ j, j < T.length → lookupGo (adv startPos (T.take j)).line (adv startPos (T.take j)).col none (chunkMs cn.evs) ≠ none
  declF : DeclOK 0 0 cf.evs
  declN : DeclOK 0 0 cn.evs
  decls : declsOf cf.evs = declsOf cn.evs
  look : LookEq T (chunkMs cf.evs) (chunkMs cn.evs)

inductive ChildrenOK : List SResult → List SResult → List Text → Prop where
  | nil : ChildrenOK [] [] []
  | cons (cf cn : SResult) (T : Text) (cfs cns : List SResult) (Ts : List Text) :
      ChildOK cf cn T → ChildrenOK cfs cns Ts → ChildrenOK (cf :: cfs) (cn :: cns) (T :: Ts)

theorem ChildrenOK.all {cfs cns : List SResult} {Ts : List Text} (h : ChildrenOK cfs cns Ts) : FinAll cfs Ts ∧ FinAll cns Ts := by
  induction h with
  | nil => exact ⟨.nil, .nil⟩
  | cons cf cn T cfs cns Ts hc _ ih => exact ⟨.cons _ _ _ _ hc.finF ih.1, .cons _ _ _ _ hc.finN ih.2⟩

/-- the answer inside one child, text-less mode: it is the child's own (translated) answer -/
theorem child_lookF (stF : CSt) (gpre T : Text) (hrel : FRel stF (adv startPos gpre)) (prevF : List Mapping)
    (hb : Bound prevF (adv startPos gpre)) (hinv : NCInv stF prevF) (cf : SResult) (hf : FinOK T cf) (j : Nat) (hj : j < T.length) :
    (lookupGo (adv startPos (gpre ++ T.take j)).line (adv startPos (gpre ++ T.take j)).col (lookupGo (adv startPos (gpre ++ T.take j)).line (adv startPos (gpre ++ T.take j)).col none prevF)
        (chunkMs (concatChild true stF cf).2)).join
      = (lookupGo (adv startPos (T.take j)).line (adv startPos (T.take j)).col none (trMs true (childStart stF) cf.evs)).join := by
  rw [shift_pos stF gpre hrel (T.take j)]
  simp only
  rw [concatChild_look]
  cases hr : lookupGo (adv startPos (T.take j)).line (adv startPos (T.take j)).col none (trMs true (childStart stF) cf.evs) with
  | some x => rfl
  | none =>
    simp only
    have hl : 1 ≤ (adv startPos (T.take j)).line := isPos_line_ge T _ ⟨j, Nat.le_of_lt hj, rfl⟩
    -- the child has text, so it does not end where it starts
    have hinfo : (cf.info.line != 1 || cf.info.col != 0) = true := by
      cases hi : (cf.info.line != 1 || cf.info.col != 0) with
      | true => rfl
      | false =>
        simp only [Bool.or_eq_false_iff, bne_eq_false_iff_eq] at hi
        have : adv startPos T = ⟨1, 0⟩ := by rw [← hf.2, ← hi.1, ← hi.2]
        rw [(adv_eq_start T).1 this] at hj
        cases hj
    exact inside_none stF _ hrel prevF hb hinv cf _ _ hl fun hnc h1 => closes_of_none stF cf _ hnc (fun _ => hinfo) (h1 ▸ hr)

/-- … and in normal mode, for a child whose chunks cover its text -/
theorem child_lookN (stN : CSt) (gpre T : Text) (hrel : FRel stN (adv startPos gpre)) (acc : Option (Option Orig)) (cn : SResult) (j : Nat)
    (hr : lookupGo (adv startPos (T.take j)).line (adv startPos (T.take j)).col none (trMs false (childStart stN) cn.evs) ≠ none) :
    (lookupGo (adv startPos (gpre ++ T.take j)).line (adv startPos (gpre ++ T.take j)).col acc (chunkMs (concatChild false stN cn).2)).join
      = (lookupGo (adv startPos (T.take j)).line (adv startPos (T.take j)).col none (trMs false (childStart stN) cn.evs)).join := by
  rw [shift_pos stN gpre hrel (T.take j)]
  simp only
  rw [concatChild_look]
  cases h : lookupGo (adv startPos (T.take j)).line (adv startPos (T.take j)).col none (trMs false (childStart stN) cn.evs) with
  | some x => rfl
  | none => exact absurd h hr

theorem flatten_take_in (T : Text) (Ts : List Text) (j : Nat) (hj : j < T.length) : ((T :: Ts).flatten).take j = T.take j := by
  simp only [List.flatten_cons]
  exact List.take_append_of_le_length (by omega)

theorem flatten_take_after (T : Text) (Ts : List Text) (j : Nat) (hj : T.length ≤ j) : ((T :: Ts).flatten).take j = T ++ (Ts.flatten).take (j - T.length) := by
  simp only [List.flatten_cons]
  have : j = T.length + (j - T.length) := by omega
  conv => lhs; rw [this]
  exact List.take_length_add_append _

theorem concatGo_modes : ∀ (cfs cns : List SResult) (Ts : List Text), ChildrenOK cfs cns Ts →
    ∀ (stF stN : CSt) (gpre : Text) (prevF prevN : List Mapping),
    FRel stF (adv startPos gpre) → FRel stN (adv startPos gpre) → stF.sourceMapping = stN.sourceMapping → stF.nameMapping = stN.nameMapping →
    Bound prevF (adv startPos gpre) → Bound prevN (adv startPos gpre) → NCInv stF prevF → stN.needClose = false →
    ∀ j, j < Ts.flatten.length →
      (lookupGo (adv startPos (gpre ++ Ts.flatten.take j)).line (adv startPos (gpre ++ Ts.flatten.take j)).col none (prevF ++ chunkMs (concatGo true stF cfs).2)).join
      = (lookupGo (adv startPos (gpre ++ Ts.flatten.take j)).line (adv startPos (gpre ++ Ts.flatten.take j)).col none (prevN ++ chunkMs (concatGo false stN cns).2)).join := by
  intro cfs cns Ts h
  induction h with
  | nil => intro _ _ _ _ _ _ _ _ _ _ _ _ _ j hj; simp at hj
  | cons cf cn T cfs cns Ts hc hrest ih =>
    intro stF stN gpre prevF prevN hrF hrN hsm hnm hbF hbN hinv hncN j hj
    have frF := hrF.concatChild true hc.finF.2
    have frN := hrN.concatChild false hc.finN.2
    have htb := concatEvs_tb_modes cf.evs cn.evs (childStart stF) (childStart stN) (tb_child stF stN hsm hnm) hc.decls
    -- a position inside this child is answered by this child's mappings alone, in either mode: those of the later children stand after
    -- it (`later_skip`), those delivered before do not win over a hit (`child_lookF`, `child_lookN`), and on its own mappings the child's
    -- contract `hc.look` applies once the index translation is seen to be the same (`htb`); a later position goes to `ih`
    by_cases hin : j < T.length
    · rw [flatten_take_in T Ts j hin]
      simp only [concatGo, chunkMs_append, lookupGo_append]
      have hq := charPos_lt_end' (adv startPos gpre) T j hin
      rw [← adv_append, ← adv_append] at hq
      rw [later_skip true cfs Ts hrest.all.1 _ (gpre ++ T) frF _ hq, later_skip false cns Ts hrest.all.2 _ (gpre ++ T) frN _ hq]
      rw [child_lookF stF gpre T hrF prevF hbF hinv cf hc.finF j hin]
      have hNne : lookupGo (adv startPos (T.take j)).line (adv startPos (T.take j)).col none (trMs false (childStart stN) cn.evs) ≠ none := by
        rw [trMs_lookup false cn.evs stN hc.declN]
        exact fun h => hc.tiles j hin (Option.map_eq_none_iff.1 h)
      rw [child_lookN stN gpre T hrN _ cn j hNne]
      rw [trMs_look true cf.evs stF hc.declF, trMs_look false cn.evs stN hc.declN]
      have hs : (concatEvs true (childStart stF) cf.evs).1.sim = (concatEvs false (childStart stN) cn.evs).1.sim := congrArg Tb.sim htb.1
      have hn : (concatEvs true (childStart stF) cf.evs).1.nim = (concatEvs false (childStart stN) cn.evs).1.nim := congrArg Tb.nim htb.1
      rw [hs, hn, hc.look j hin]
    · have hge : T.length ≤ j := by omega
      rw [flatten_take_after T Ts j hge, ← List.append_assoc]
      simp only [concatGo, chunkMs_append]
      rw [← List.append_assoc, ← List.append_assoc]
      obtain ⟨_, _, t3N, _⟩ := concatChild_state false stN cn
      obtain ⟨_, hsm', hnm'⟩ := concatChild_decls cf cn stF stN hsm hnm hc.decls
      apply ih (concatChild true stF cf).1 (concatChild false stN cn).1 (gpre ++ T) _ _ frF frN hsm' hnm'
      · exact hbF.child true hrF hc.finF
      · exact hbN.child false hrN hc.finN
      · exact ncinv_step stF gpre T hrF prevF hbF hinv cf hc.finF hc.lines
      · rw [t3N, hncN]; simp
      · simp only [List.flatten_cons, List.length_append] at hj; omega

theorem concatGo_decls : ∀ (cfs cns : List SResult) (Ts : List Text), ChildrenOK cfs cns Ts → ∀ (stF stN : CSt),
    stF.sourceMapping = stN.sourceMapping → stF.nameMapping = stN.nameMapping →
    declsOf (concatGo true stF cfs).2 = declsOf (concatGo false stN cns).2 := by
  intro cfs cns Ts h
  induction h with
  | nil => intro _ _ _ _; rfl
  | cons cf cn T cfs cns Ts hc _ ih =>
    intro stF stN h1 h2
    obtain ⟨a, b, c⟩ := concatChild_decls cf cn stF stN h1 h2 hc.decls
    simp only [concatGo, declsOf_append]
    rw [a, ih _ _ b c]

end Rs
