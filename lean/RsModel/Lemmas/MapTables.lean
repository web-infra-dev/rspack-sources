import RsModel.Lemmas.DeclMap
import RsModel.Lemmas.ModeLeaves
import RsModel.Lemmas.ReplaceKeeps
/-!
# From a chunk stream to the SourceMap `get_map` builds from it: the tables

`evs` is any stream that announces every source and name index before use, densely from zero (`DeclOK`); only the lemmas that
`AllContent` is kept are about particular kinds of source (`streamRaw_allContent`, `streamOriginal_allContent`,
`concatStream_allContent`, `replaceStream_allContent`, and for trees `Src.allContent_facts`).

* Which chunk a byte lies in (`attrOf_at`, `attrOf_mem`); the locations chunks carry have announced indices, so two ways of
  resolving locations need only agree on those (`attrOf_map_congr`).
* `attrN` (a consumer resolves each chunk with the tables announced so far) is `attrOf` resolved with the tables the stream ends with
  (`attrN_end_tables`): later announcements never change an index already used.
* `AllContent`: every announced file carries its content; it is a property of the single events, kept by every composite.
* The fold of `get_map` (`mapAccEv`) builds exactly those end tables (`TblRel`, `mapAcc_tblRel`; with `AllContent`, since a missing
  content leaves `sourcesContent` unaligned; file names and names alone need no such hypothesis: `mapAcc_tblRelF` in DeclMap), and
  they depend on the announcements alone (`mapAcc_decls`), so the map built from the text-less stream has the tables of the normal
  stream (`mapOfEvs_tablesOf`; `mapOfEvs_endTables`, `mapOfEvs_file`).
* `resolveM sm`: what a consumer of the map resolves a location to; `attrN_mapTables`: the attribution of the normal stream is its
  index-level attribution resolved that way.  With C03 at index level in front (`getMap_attr`) this is C03 at the level of names and
  contents (`getMap_resolveM` in ProvOrigTree; `getMap_names` in NameLevel for names alone, without `AllContent`).
-/
namespace Rs

theorem attrOf_at (evs : List Ev) (i : Nat) (a : Option Orig) (h : (attrOf evs)[i]? = some a) :
    ∃ t m d, Ev.chunk (some t) m ∈ evs ∧ d < t.length ∧ a = m.orig ∧ (evsText evs)[i]? = t[d]? := by
  obtain ⟨A, t, m, B, d, rfl, rfl, hd, ha⟩ := attrOf_split evs i (by rw [← attrOf_length]; exact (List.getElem?_eq_some_iff.1 h).1)
  exact ⟨t, m, d, by simp, hd, Option.some.inj (h.symm.trans ha), cover_byte A B t m hd⟩

theorem attrOf_mem (evs : List Ev) : ∀ a ∈ attrOf evs, ∃ m ∈ chunkMs evs, a = m.orig := fun a ha => by
  obtain ⟨i, hi⟩ := List.getElem?_of_mem ha
  obtain ⟨t, m, d, hm, _, e, _⟩ := attrOf_at evs i a hi
  exact ⟨m, mem_chunkMs_of_mem _ _ _ hm, e⟩

/-- every location a chunk carries has announced indices, so two readings of the locations that agree on announced indices agree on
the whole stream -/
theorem attrOf_map_congr {β} (evs : List Ev) (hd : DeclOK 0 0 evs) (f g : Orig → β)
    (h : ∀ o, IdxLt (cntS evs) (cntN evs) o → f o = g o) : (attrOf evs).map (Option.map f) = (attrOf evs).map (Option.map g) := by
  refine List.map_congr_left fun a ha => ?_
  obtain ⟨m, hm, rfl⟩ := attrOf_mem _ a ha
  refine Option.map_congr fun o ho => h o ?_
  have := declOK_chunkMs _ 0 0 hd m hm o ho
  rwa [Nat.zero_add, Nat.zero_add] at this

theorem attrN_chunkonly {P : Orig → Prop} (S : SrcTbl) (N : NameTbl) : ∀ (evs : List Ev), ChunkOrigs P evs →
    attrN S N evs = (attrOf evs).map (Option.map (resolveO S N)) := by
  intro evs
  induction evs with
  | nil => intro _; rfl
  | cons e es ih =>
    intro h
    obtain ⟨t, m, rfl, _⟩ := h e (by simp)
    have := ih (fun x hx => h x (by simp [hx]))
    cases t with
    | none => simp only [attrN, attrOf]; exact this
    | some t => simp only [attrN, attrOf, List.map_append, List.map_replicate, this]

/-- a location is resolved through the tables at its own indices only -/
theorem resolveO_congr {S S' : SrcTbl} {N N' : NameTbl} {ns nn : Nat} (hS : ∀ i, i < ns → S i = S' i) (hN : ∀ k, k < nn → N k = N' k)
    {o : Orig} (h : IdxLt ns nn o) : resolveO S N o = resolveO S' N' o := by
  unfold resolveO
  rw [hS _ h.1, Option.map_congr fun k hk => hN k (h.2 k hk)]

/-- a `DeclOK` stream announces the indices from `ns` up to `ns + cntS evs` and no other: the table is what it was outside them -/
theorem tblS_stable : ∀ (evs : List Ev) (ns nn : Nat) (S : SrcTbl), DeclOK ns nn evs → ∀ i, i < ns ∨ ns + cntS evs ≤ i → tblS S evs i = S i := by
  intro evs
  induction evs with
  | nil => intro ns nn S _ i _; rfl
  | cons e es ih =>
    intro ns nn S hd i hi
    cases e with
    | chunk t m => exact ih ns nn S hd.2 i hi
    | source k s c =>
      obtain ⟨rfl, hd⟩ := hd
      simp only [cntS] at hi
      exact (ih (k + 1) nn _ hd i (by omega)).trans (if_neg (by omega))
    | name k n => exact ih ns (nn + 1) S hd.2 i hi

theorem tblN_stable : ∀ (evs : List Ev) (ns nn : Nat) (N : NameTbl), DeclOK ns nn evs → ∀ i, i < nn → tblN N evs i = N i := by
  intro evs
  induction evs with
  | nil => intro ns nn N _ i _; rfl
  | cons e es ih =>
    intro ns nn N hd i hi
    cases e with
    | chunk t m => exact ih ns nn N hd.2 i hi
    | source k s c => exact ih (ns + 1) nn N hd.2 i hi
    | name k n => exact (ih ns (nn + 1) _ hd.2 i (by omega)).trans (if_neg (by have := hd.1; omega))

theorem attrN_end_tables : ∀ (evs : List Ev) (ns nn : Nat) (S : SrcTbl) (N : NameTbl), DeclOK ns nn evs →
    attrN S N evs = (attrOf evs).map (Option.map (resolveO (tblS S evs) (tblN N evs))) := by
  intro evs
  induction evs with
  | nil => intro ns nn S N _; rfl
  | cons e es ih =>
    intro ns nn S N hd
    cases e with
    | chunk t m =>
      obtain ⟨hm, hr⟩ := hd
      cases t with
      | none => exact ih ns nn S N hr
      | some t =>
        simp only [attrN, attrOf, tblS, tblN, List.map_append, List.map_replicate]
        rw [ih ns nn S N hr]
        congr 2
        exact Option.map_congr fun o ho => resolveO_congr (fun i hi => (tblS_stable es ns nn S hr i (Or.inl hi)).symm)
          (fun k hk => (tblN_stable es ns nn N hr k hk).symm) (hm o ho)
    | source k s c => exact ih (ns + 1) nn _ N hd.2
    | name k n => exact ih ns (nn + 1) S _ hd.2

def AllContent : List Ev → Prop
  | [] => True
  | .source _ _ c :: es => c.isSome = true ∧ AllContent es
  | _ :: es => AllContent es

theorem allContent_iff : ∀ (evs : List Ev), AllContent evs ↔ ∀ i s c, Ev.source i s c ∈ evs → c.isSome = true := by
  intro evs
  induction evs with
  | nil => simp [AllContent]
  | cons e es ih =>
    cases e with
    | chunk t m => simp only [AllContent, ih, List.mem_cons, reduceCtorEq, false_or]
    | name i n => simp only [AllContent, ih, List.mem_cons, reduceCtorEq, false_or]
    | source i s c =>
      simp only [AllContent, ih, List.mem_cons, Ev.source.injEq]
      constructor
      · rintro ⟨h1, h2⟩ i' s' c' (⟨_, _, rfl⟩ | h)
        · exact h1
        · exact h2 i' s' c' h
      · intro h
        exact ⟨h i s c (Or.inl ⟨rfl, rfl, rfl⟩), fun i' s' c' hm => h i' s' c' (Or.inr hm)⟩

theorem allContent_append (a b : List Ev) : AllContent (a ++ b) ↔ AllContent a ∧ AllContent b := by
  simp only [allContent_iff, List.mem_append]
  exact ⟨fun h => ⟨fun i s c hm => h i s c (Or.inl hm), fun i s c hm => h i s c (Or.inr hm)⟩,
    fun h i s c hm => hm.elim (h.1 i s c) (h.2 i s c)⟩

theorem allContent_chunks (P : Orig → Prop) (evs : List Ev) (h : ChunkOrigs P evs) : AllContent evs := by
  rw [allContent_iff]
  intro i s c hm
  obtain ⟨_, _, e, _⟩ := h _ hm
  cases e

theorem concatStream_allContent (final : Bool) (cs : List SResult) (h : ∀ c ∈ cs, AllContent c.evs) : AllContent (concatStream final cs).evs :=
  (allContent_iff _).2 fun _ _ _ hs => by
    obtain ⟨c, hc, j, hj⟩ := concatStream_source hs
    exact (allContent_iff _).1 (h c hc) j _ _ hj

theorem streamRaw_allContent (t : Text) (o : Opts) : AllContent (streamRaw t o).evs := by
  simp only [streamRaw]; split
  · trivial
  · exact allContent_chunks (fun _ => True) _ (rawChunks_origs _ _ _)

theorem streamOriginal_allContent (t name : Text) (o : Opts) : AllContent (streamOriginal t name o).evs := by
  obtain ⟨rest, e, h⟩ := streamOriginal_evs t name o
  rw [e]
  exact ⟨rfl, allContent_chunks _ _ h⟩

theorem replaceStream_allContent (sorted : List Repl) (r : SResult) (h : AllContent r.evs) : AllContent (replaceStream sorted r).evs :=
  (allContent_iff _).2 fun i s c hs => (allContent_iff _).1 h i s c (((replaceStream_keeps sorted r).2 i s c).1 hs)

theorem Src.allContent_facts {H : Src → Prop} (hsms : ∀ t name map origSrc inner remove, ¬ H (.sms t name map origSrc inner remove))
    (hcached : ∀ id inner, ¬ H (.cached id inner)) :
    Src.StreamFacts H (fun _ _ r => AllContent r.evs) (fun _ _ rs => ∀ r ∈ rs, AllContent r.evs) :=
  .all (R := fun _ r => AllContent r.evs) streamRaw_allContent (fun t name o _ => streamOriginal_allContent t name o)
    (fun _ _ _ _ _ _ h => (hsms _ _ _ _ _ _ h).elim) (fun _ _ _ _ _ _ _ h => (hsms _ _ _ _ _ _ h).elim)
    (fun _ _ _ _ h => concatStream_allContent _ _ h) (fun _ _ _ r _ h => replaceStream_allContent _ r h)
    (fun _ _ _ _ h => (hcached _ _ h).elim)

def TblRel (a : MapAcc) (S : SrcTbl) (N : NameTbl) (ns nn : Nat) : Prop :=
  a.sources.length = ns ∧ a.contents.length = ns ∧ a.names.length = nn
  ∧ (∀ i, i < ns → S i = (a.sources[i]?).map fun f => (f, a.contents[i]?))
  ∧ (∀ i, i < nn → N i = a.names[i]?)

theorem getElem?_concat_of (α) (l : List α) (v : α) (i : Nat) (hi : i < l.length + 1) :
    (l ++ [v])[i]? = if i = l.length then some v else l[i]? := by
  by_cases h : i = l.length
  · rw [if_pos h, h]; exact List.getElem?_concat_length
  · rw [if_neg h, List.getElem?_append_left (by omega)]

/-- an announcement with the next index: the fold appends to its lists what the consumer enters in its table -/
theorem TblRel.source {a : MapAcc} {S : SrcTbl} {N : NameTbl} {ns nn : Nat} (h : TblRel a S N ns nn) (s cc : Text) :
    TblRel (mapAccEv a (.source ns s (some cc))) (upd S ns (s, some cc)) N (ns + 1) nn := by
  obtain ⟨h1, h2, h3, h4, h5⟩ := h
  have t1 : tblSet a.sources ns s = a.sources ++ [s] := h1 ▸ tblSet_next _ _
  have t2 : tblSet a.contents ns cc = a.contents ++ [cc] := h2 ▸ tblSet_next _ _
  simp only [mapAccEv, t1, t2]
  refine ⟨by rw [List.length_append, h1]; rfl, by rw [List.length_append, h2]; rfl, h3, fun i hi => ?_, h5⟩
  rw [getElem?_concat_of _ _ _ i (by omega), getElem?_concat_of _ _ _ i (by omega), h1, h2]
  unfold upd
  split
  · rfl
  · exact h4 i (by omega)

theorem TblRel.name {a : MapAcc} {S : SrcTbl} {N : NameTbl} {ns nn : Nat} (h : TblRel a S N ns nn) (n : Text) :
    TblRel (mapAccEv a (.name nn n)) S (upd N nn n) ns (nn + 1) := by
  obtain ⟨h1, h2, h3, h4, h5⟩ := h
  have t1 : tblSet a.names nn n = a.names ++ [n] := h3 ▸ tblSet_next _ _
  simp only [mapAccEv, t1]
  refine ⟨h1, h2, by rw [List.length_append, h3]; rfl, h4, fun i hi => ?_⟩
  rw [getElem?_concat_of _ _ _ i (by omega), h3]
  unfold upd
  split
  · rfl
  · exact h5 i (by omega)

theorem mapAcc_tblRel : ∀ (evs : List Ev) (ns nn : Nat) (a : MapAcc) (S : SrcTbl) (N : NameTbl), DeclOK ns nn evs → AllContent evs →
    TblRel a S N ns nn → TblRel (evs.foldl mapAccEv a) (tblS S evs) (tblN N evs) (ns + cntS evs) (nn + cntN evs) := by
  intro evs
  induction evs with
  | nil => intro ns nn a S N _ _ h; exact h
  | cons e es ih =>
    intro ns nn a S N hd hc h
    cases e with
    | chunk t m => exact ih ns nn _ S N hd.2 hc h
    | source k s c =>
      obtain ⟨rfl, hr⟩ := hd
      obtain ⟨cc, rfl⟩ := Option.isSome_iff_exists.1 hc.1
      have := ih (k + 1) nn _ _ N hr hc.2 (h.source s cc)
      rwa [Nat.add_right_comm] at this
    | name k n =>
      obtain ⟨rfl, hr⟩ := hd
      have := ih ns (k + 1) _ S _ hr hc (h.name n)
      rwa [Nat.add_right_comm] at this
/-- a chunk touches only `ms`: accumulators with the same tables keep the same tables -/
theorem mapAcc_decls_of : ∀ (evs : List Ev) (a b : MapAcc), a.sources = b.sources → a.contents = b.contents → a.names = b.names →
    (evs.foldl mapAccEv a).sources = ((declsOf evs).foldl mapAccEv b).sources
    ∧ (evs.foldl mapAccEv a).contents = ((declsOf evs).foldl mapAccEv b).contents
    ∧ (evs.foldl mapAccEv a).names = ((declsOf evs).foldl mapAccEv b).names := by
  intro evs
  induction evs with
  | nil => intro a b h1 h2 h3; exact ⟨h1, h2, h3⟩
  | cons e es ih =>
    intro a b h1 h2 h3
    cases e with
    | chunk t m => exact ih _ b h1 h2 h3
    | source i s c =>
      refine ih _ _ ?_ ?_ h3
      · simp only [mapAccEv, h1]
      · simp only [mapAccEv, h2]
    | name i n =>
      refine ih _ _ h1 h2 ?_
      simp only [mapAccEv, h3]
theorem mapAcc_decls : ∀ (evs : List Ev) (a : MapAcc),
    (evs.foldl mapAccEv a).sources = ((declsOf evs).foldl mapAccEv a).sources
    ∧ (evs.foldl mapAccEv a).contents = ((declsOf evs).foldl mapAccEv a).contents
    ∧ (evs.foldl mapAccEv a).names = ((declsOf evs).foldl mapAccEv a).names :=
  fun evs a => mapAcc_decls_of evs a a rfl rfl rfl

/-- the tables of the map built from `F` are those the fold leaves on any stream `N` that announces the same (the normal stream,
when `F` is the text-less one) -/
theorem mapOfEvs_tablesOf {c : Bool} {F N : List Ev} {sm : SMap} (hdecls : declsOf F = declsOf N) (hm : mapOfEvs c F = some sm) :
    sm.sources = (N.foldl mapAccEv {}).sources ∧ sm.sourcesContent = (N.foldl mapAccEv {}).contents
    ∧ sm.names = (N.foldl mapAccEv {}).names := by
  obtain ⟨_, s1, s2, s3, _⟩ := mapOfEvs_some c F sm hm
  obtain ⟨d1, d2, d3⟩ := mapAcc_decls F {}
  obtain ⟨e1, e2, e3⟩ := mapAcc_decls N {}
  exact ⟨by rw [s1, d1, hdecls, e1], by rw [s2, d2, hdecls, e2], by rw [s3, d3, hdecls, e3]⟩

theorem mapOfEvs_endTables (c : Bool) (F N : List Ev) (hdecls : declsOf F = declsOf N) (hd : DeclOK 0 0 N) (hAC : AllContent N)
    (sm : SMap) (hm : mapOfEvs c F = some sm) :
    (∀ i, i < cntS N → tblS emptyS N i = (sm.sources[i]?).map fun f => (f, sm.sourcesContent[i]?))
    ∧ (∀ i, i < cntN N → tblN emptyN N i = sm.names[i]?) := by
  obtain ⟨s1, s2, s3⟩ := mapOfEvs_tablesOf hdecls hm
  obtain ⟨_, _, _, r4, r5⟩ := mapAcc_tblRel N 0 0 {} emptyS emptyN hd hAC ⟨rfl, rfl, rfl, fun i hi => by omega, fun i hi => by omega⟩
  simp only [Nat.zero_add] at r4 r5
  rw [s1, s2, s3]
  exact ⟨r4, r5⟩

theorem mapOfEvs_file (c : Bool) (F N : List Ev) (hdecls : declsOf F = declsOf N) (hd : DeclOK 0 0 N) (hAC : AllContent N)
    (sm : SMap) (hm : mapOfEvs c F = some sm) (i : Nat) (hi : i < cntS N) (name T : Text)
    (hS : tblS emptyS N i = some (name, some T)) :
    sm.sources[i]? = some name ∧ sm.sourcesContent[i]? = some T := by
  have hfile := (mapOfEvs_endTables c F N hdecls hd hAC sm hm).1 i hi
  obtain ⟨f, hq, e⟩ := Option.map_eq_some_iff.1 (hfile.symm.trans hS)
  obtain ⟨rfl, h2⟩ := Prod.mk.inj e
  exact ⟨hq, h2⟩

/-- what a consumer of the SourceMap resolves an original location to -/
def resolveM (sm : SMap) (o : Orig) : RLoc :=
  ⟨(sm.sources[o.src]?).map fun f => (f, sm.sourcesContent[o.src]?), o.line, o.col, o.name.map fun k => sm.names[k]?⟩

/-- **the step from index level to the map's own tables**: the attribution of a stream `N`, each chunk resolved through the
announcements before it, is its index-level attribution resolved by a consumer of the map built from a stream that announces the
same — file names, contents and names included -/
theorem attrN_mapTables (c : Bool) (F N : List Ev) (hdecls : declsOf F = declsOf N) (hd : DeclOK 0 0 N) (hAC : AllContent N)
    (sm : SMap) (hm : mapOfEvs c F = some sm) : attrN emptyS emptyN N = (attrOf N).map (Option.map (resolveM sm)) := by
  obtain ⟨r4, r5⟩ := mapOfEvs_endTables c F N hdecls hd hAC sm hm
  rw [attrN_end_tables _ 0 0 emptyS emptyN hd]
  exact attrOf_map_congr N hd _ _ fun o ho => resolveO_congr r4 r5 ho

end Rs
