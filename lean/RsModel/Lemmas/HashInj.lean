import RsModel.Model.EqHash
/-! # The hasher input separates: self-delimiting records, contexts at every depth -/
namespace Rs

theorem hStr_inj (a b : Text) (x y : List HCall) (h : hStr a ++ x = hStr b ++ y) : a = b ∧ x = y := by
  simp [hStr] at h; exact h

theorem hBytes_inj (a b : Text) (x y : List HCall) (h : hBytes a ++ x = hBytes b ++ y) : a = b ∧ x = y := by
  simp [hBytes] at h; exact ⟨h.2.1, h.2.2⟩

/-- an `Option` is self-delimiting when its payload is (`hf`, before the continuations at hand): the two tags differ -/
theorem hOpt_inj {α} {f : α → List HCall} {x y : List HCall} (hf : ∀ a b, f a ++ x = f b ++ y → a = b ∧ x = y)
    (a b : Option α) (h : hOpt f a ++ x = hOpt f b ++ y) : a = b ∧ x = y := by
  cases a <;> cases b
  · exact ⟨rfl, (List.cons.inj h).2⟩
  · cases (List.cons.inj h).1
  · cases (List.cons.inj h).1
  · obtain ⟨e, h'⟩ := hf _ _ (List.cons.inj h).2
    exact ⟨congrArg some e, h'⟩

theorem hOpt_hStr_inj (a b : Option Text) (x y : List HCall) (h : hOpt hStr a ++ x = hOpt hStr b ++ y) : a = b ∧ x = y :=
  hOpt_inj (hStr_inj · · x y) a b h

theorem hStrList_inj : ∀ (a b : List Text) (x y : List HCall), hStrList a ++ x = hStrList b ++ y → a = b ∧ x = y := by
  intro a b x y h
  simp only [hStrList, List.cons_append, List.cons.injEq, HCall.usize.injEq] at h
  obtain ⟨hl, h⟩ := h
  induction a generalizing b with
  | nil =>
    cases b with
    | nil => exact ⟨rfl, by simpa using h⟩
    | cons _ _ => simp at hl
  | cons s a ih =>
    cases b with
    | nil => simp at hl
    | cons s' b =>
      simp only [List.map_cons, List.flatten_cons, List.append_assoc] at h
      obtain ⟨e1, e2⟩ := hStr_inj _ _ _ _ h
      obtain ⟨e3, e4⟩ := ih b (by simpa using hl) e2
      exact ⟨by rw [e1, e3], e4⟩

/-- not a `write(&[u8])` call at the head -/
def NoBytesHead (x : List HCall) : Prop := ∀ b t, x ≠ .bytes b :: t

theorem hSMap_inj (m m' : SMap) (x y : List HCall) (hx : NoBytesHead x) (hy : NoBytesHead y)
    (h : hSMap m ++ x = hSMap m' ++ y) : m = m' ∧ x = y := by
  obtain ⟨mp, so, sc, na, fi, ro, db⟩ := m
  obtain ⟨mp', so', sc', na', fi', ro', db'⟩ := m'
  simp only [hSMap, List.append_assoc] at h
  obtain ⟨e1, h1⟩ := hOpt_hStr_inj _ _ _ _ h
  obtain ⟨e2, h2⟩ := hStr_inj _ _ _ _ h1
  obtain ⟨e3, h3⟩ := hStrList_inj _ _ _ _ h2
  obtain ⟨e4, h4⟩ := hStrList_inj _ _ _ _ h3
  obtain ⟨e5, h5⟩ := hStrList_inj _ _ _ _ h4
  obtain ⟨e6, h6⟩ := hOpt_hStr_inj _ _ _ _ h5
  clear h h1 h2 h3 h4 h5
  subst e1 e2 e3 e4 e5 e6
  -- `debug_id` is the one optional field hashed without an `Option` tag: present or absent is told apart only by what follows,
  -- which is why the continuations must not begin with a `write` of bytes
  cases db with
  | none =>
    cases db' with
    | none => exact ⟨rfl, by simpa using h6⟩
    | some d' => exact absurd h6 (hx _ _)
  | some d =>
    cases db' with
    | none => exact absurd h6.symm (hy _ _)
    | some d' =>
      obtain ⟨e7, h7⟩ := hStr_inj _ _ _ _ h6
      subst e7; exact ⟨rfl, h7⟩

theorem noBytesHead_hOpt (o : Option Text) (z : List HCall) : NoBytesHead (hOpt hStr o ++ z) := by
  cases o <;> nofun

theorem noBytesHead_u8 (n : Nat) : NoBytesHead [.u8 n] := by
  intro b t h; cases h

theorem hRepl_inj (r r' : Repl) (x y : List HCall) (h : hRepl r ++ x = hRepl r' ++ y) : r = r' ∧ x = y := by
  obtain ⟨s, e', c, n, f⟩ := r
  obtain ⟨s', e'', c', n', f'⟩ := r'
  simp only [hRepl, List.cons_append, List.nil_append, List.append_assoc, List.cons.injEq, HCall.u32.injEq] at h
  obtain ⟨h1, h2, h3⟩ := h
  obtain ⟨h4, h3⟩ := hStr_inj _ _ _ _ h3
  obtain ⟨h5, h3⟩ := hOpt_hStr_inj _ _ _ _ h3
  simp only [List.cons.injEq, HCall.isize.injEq] at h3
  exact ⟨by simp [h1, h2, h4, h5, h3.1], h3.2⟩

/-- not a `write_u32` call at the head (what follows the replacement records is the inner source's tag or a cached hash) -/
def NoU32Head (x : List HCall) : Prop := ∀ n t, x ≠ .u32 n :: t

theorem hRepls_inj : ∀ (l l' : List Repl) (x y : List HCall), NoU32Head x → NoU32Head y →
    (l.map hRepl).flatten ++ x = (l'.map hRepl).flatten ++ y → l = l' ∧ x = y := by
  intro l
  induction l with
  | nil =>
    intro l' x y hx hy h
    cases l' with
    | nil => exact ⟨rfl, by simpa using h⟩
    | cons r' l' => exact absurd h (hx _ _)
  | cons r l ih =>
    intro l' x y hx hy h
    cases l' with
    | nil => exact absurd h.symm (hy _ _)
    | cons r' l' =>
      simp only [List.map_cons, List.flatten_cons, List.append_assoc] at h
      obtain ⟨e1, h⟩ := hRepl_inj _ _ _ _ h
      obtain ⟨e2, h⟩ := ih l' x y hx hy h
      exact ⟨by rw [e1, e2], h⟩

theorem calls_noU32Head (fxh : List HCall → Nat) (s : Src) : NoU32Head (s.calls fxh) := by
  cases s <;> nofun

def SrcList.append : SrcList → SrcList → SrcList
  | .nil, b => b
  | .cons s r, b => .cons s (r.append b)

theorem SrcList.callsL_append (fxh : List HCall → Nat) : (a b : SrcList) → (a.append b).callsL fxh = a.callsL fxh ++ b.callsL fxh
  | .nil, _ => rfl
  | .cons s r, b => by simp [SrcList.append, SrcList.callsL, SrcList.callsL_append fxh r b]

inductive Ctx where
  | hole
  | concat (pre : SrcList) (c : Ctx) (post : SrcList)
  | replace (c : Ctx) (rs : List Repl)
  | cached (id : Nat) (c : Ctx)

def Ctx.fill : Ctx → Src → Src
  | .hole, s => s
  | .concat pre c post, s => .concat (pre.append (.cons (c.fill s) post))
  | .replace c rs, s => .replace (c.fill s) rs
  | .cached id c, s => .cached id (c.fill s)

/-- what surrounds a child of a ConcatSource does not depend on the child: the tag and the siblings' calls cancel on both sides -/
theorem concat_calls_cancel (fxh : List HCall → Nat) (pre post : SrcList) (a b : Src)
    (h : (Src.concat (pre.append (.cons a post))).calls fxh = (Src.concat (pre.append (.cons b post))).calls fxh) :
    a.calls fxh = b.calls fxh := by
  simp only [Src.calls, SrcList.callsL_append, SrcList.callsL] at h
  exact List.append_cancel_right (List.append_cancel_left (List.append_cancel_left h))

/-- an edit anywhere in a tree shows in the hasher input of the whole tree (`fxh` without collisions: the property's proviso) -/
theorem ctx_calls_inj (fxh : List HCall → Nat) (hinj : ∀ x y, fxh x = fxh y → x = y) (a b : Src) :
    ∀ (c : Ctx), (c.fill a).calls fxh = (c.fill b).calls fxh → a.calls fxh = b.calls fxh := by
  intro c
  induction c with
  | hole => intro h; exact h
  | concat pre c post ih => exact fun h => ih (concat_calls_cancel fxh pre post _ _ h)
  | replace c rs ih =>
    intro h
    simp only [Ctx.fill, Src.calls, List.append_assoc] at h
    exact ih (List.append_cancel_left (List.append_cancel_left h))
  | cached id c ih =>
    intro h
    simp only [Ctx.fill, Src.calls, List.cons.injEq, HCall.u64.injEq, and_true] at h
    exact ih (hinj _ _ h)

end Rs
