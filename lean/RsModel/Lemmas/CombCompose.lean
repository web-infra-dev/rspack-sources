import RsModel.Lemmas.CombModes
import RsModel.Lemmas.ModeLeaves
import RsModel.Lemmas.CombTables
/-!
# C09: composed chunks, for the whole stream, in terms of the inner map

What the combinator knows about the inner map — the per-line segment data, the inner source / name value tables, the inner
source contents and the index of the inner source among the outer sources — is written when the inner source is announced and
never afterwards (`CombSt.stat`).  After the announcements of the outer stream it is exactly what the inner map's own stream
delivered (`InnerRec`, `combEnd_rec`).  With the table invariant `KInv` and the search lemma (`findInner_lookup`) this turns the
per-chunk composition into a statement about the whole stream in terms of lookups in the inner map.

Both column settings go the same way: `comb_ev_at` places every delivered event at one outer chunk, in a state described by
`ChunkState`, and `combOnChunk_at` reads `combOnChunk_sem` there; what differs is what the search finds (`findInner_innerMap_gc`
here, `findInner_innerLines` in CombComposeL).
-/
namespace Rs

/-- the part of the state that only an announcement of the inner source changes -/
def CombSt.stat (st : CombSt) : List LineData × List (Text × Option Text) × List Text × List (Option Text) × Int × Option Text :=
  (st.lineData, st.innerSourceIndexValueMapping, st.innerNameIndexValueMapping, st.innerSourceContents, st.innerSourceIndex, st.innerSource)

theorem CombSt.Frame.stat {st st' : CombSt} (fr : st.Frame st') : st'.stat = st.stat := by
  unfold CombSt.stat
  rw [fr.lines, fr.isrcs, fr.inames, fr.conts, fr.isi, fr.isrc]

theorem combOnChunk_keeps (cfg : CombCfg) (st : CombSt) (chunk : Option Text) (m : Mapping) :
    (combOnChunk cfg st chunk m).1.stat = st.stat
    ∧ ∀ S N OS, KInv cfg st S N OS → ∀ i s cc, Ev.source i s cc ∈ (combOnChunk cfg st chunk m).2 →
        (s = cfg.innerName ∧ cc = st.innerSource) ∨ (s, cc) ∈ st.innerSourceIndexValueMapping := by
  rcases combOnChunk_cases cfg st m with ⟨idx, _, hfi, hge, e⟩ | ⟨_, _, e⟩ | ⟨_, e⟩
  · obtain ⟨st', anns, o, e', fr, ha⟩ := combFound_walk st m _ ((st.lineData.getD (m.ol.toNat - 1) {}).chunks.getD idx []) m.oc m.ni
    rw [e chunk, e' chunk]
    refine ⟨fr.stat, fun S N OS h i s cc hm => Or.inr ?_⟩
    -- the segment found was recorded, so its source index is one of the inner map's
    obtain ⟨f1, f2⟩ := findInner_mem st m.ol m.oc idx hfi
    have g1 := (h.segs _ f1 _ f2).1
    have hlen : st.innerSourceIndexMapping.length = st.innerSourceIndexValueMapping.length := by simpa using h.isim.1
    have hsc := ha.source_snoc hm
    rw [List.getElem?_eq_getElem (by omega)] at hsc
    exact hsc ▸ List.getElem_mem _
  · obtain ⟨st', anns, o, e', fr, ha⟩ := combNoInner_walk cfg st m m.si m.ol m.oc m.ni
    rw [e chunk, e' chunk]
    exact ⟨fr.stat, fun _ _ _ _ i s cc hm => Or.inl (ha.source_snoc hm)⟩
  · obtain ⟨st', anns, o, e', fr, ha, _⟩ := combPass_walk st m m.si m.ol m.oc m.ni
    rw [e chunk, e' chunk]
    exact ⟨fr.stat, fun _ _ _ _ i s cc hm => (ha.source_snoc hm).elim⟩

theorem combOnName_stat (st : CombSt) (i : Nat) (n : Text) : (combOnName st i n).stat = st.stat := rfl

theorem combOnSource_stat (cfg : CombCfg) (st : CombSt) (i : Nat) (s : Text) (c : Option Text) (h : (s == cfg.innerName) = false) :
    (combOnSource cfg st i s c).1.stat = st.stat := by
  unfold combOnSource
  rw [if_neg (by simp [h])]
  rfl

structure InnerRec (st : CombSt) (k : Nat) (innerEvs : List Ev) (osrc : Option Text) : Prop where
  isi : st.innerSourceIndex = k
  segs : ∀ L, 1 ≤ L → segsAt st.lineData L = ((chunkMs innerEvs).filter fun m => m.gl == L).map toSeg
  names : st.innerNameIndexValueMapping = annN innerEvs
  pairs : st.innerSourceIndexValueMapping = annSC innerEvs
  isrc : st.innerSource = osrc
  conts : st.innerSourceContents = (annSC innerEvs).map (·.2)

theorem InnerRec.srcs {st : CombSt} {k : Nat} {innerEvs : List Ev} {osrc : Option Text} (r : InnerRec st k innerEvs osrc) :
    st.innerSourceIndexValueMapping.map (·.1) = annS innerEvs := by
  rw [r.pairs]
  exact annSC_fst _

theorem innerRec_of_stat (st st' : CombSt) (k : Nat) (E : List Ev) (osrc : Option Text) (h : st'.stat = st.stat) (r : InnerRec st k E osrc) : InnerRec st' k E osrc := by
  simp only [CombSt.stat, Prod.mk.injEq] at h
  obtain ⟨h1, h2, h3, h4, h5, h6⟩ := h
  exact ⟨h5 ▸ r.isi, h1 ▸ r.segs, h3 ▸ r.names, h2 ▸ r.pairs, h6 ▸ r.isrc, h4 ▸ r.conts⟩

theorem innerFold_tables : ∀ (evs : List Ev) (st : CombSt),
    DeclOK st.innerSourceIndexValueMapping.length st.innerNameIndexValueMapping.length evs →
    st.innerSourceContents.length = st.innerSourceIndexValueMapping.length →
    (evs.foldl combInnerEv st).innerSourceIndexValueMapping = st.innerSourceIndexValueMapping ++ annSC evs
    ∧ (evs.foldl combInnerEv st).innerNameIndexValueMapping = st.innerNameIndexValueMapping ++ annN evs
    ∧ (evs.foldl combInnerEv st).innerSourceContents = st.innerSourceContents ++ (annSC evs).map (·.2) := by
  intro evs
  induction evs with
  | nil => intro st _ _; simp [annSC, annN]
  | cons e es ih =>
    intro st hd hc
    rw [List.foldl_cons]
    cases e with
    | chunk t m => exact ih _ hd.2 hc
    | source i s c =>
      obtain ⟨rfl, hd2⟩ := hd
      have e1 : lmInsert none st.innerSourceContents st.innerSourceIndexValueMapping.length c = st.innerSourceContents ++ [c] := by
        rw [← hc]; exact lmInsert_at_length _ _ _
      have := ih (combInnerEv st (.source st.innerSourceIndexValueMapping.length s c))
      simp only [combInnerEv, e1, lmInsert_at_length, List.length_append, List.length_singleton] at this ⊢
      obtain ⟨i1, i2, i3⟩ := this hd2 (by rw [hc])
      rw [i1, i2, i3]
      simp [annSC, annN]
    | name i n =>
      obtain ⟨rfl, hd2⟩ := hd
      have := ih (combInnerEv st (.name st.innerNameIndexValueMapping.length n))
      simp only [combInnerEv, lmInsert_at_length, List.length_append, List.length_singleton] at this ⊢
      obtain ⟨i1, i2, i3⟩ := this hd2 hc
      rw [i1, i2, i3]
      simp [annSC, annN]

theorem combInnerFold_keepSrc : ∀ (evs : List Ev) (st : CombSt), (evs.foldl combInnerEv st).innerSource = st.innerSource := by
  intro evs
  induction evs with
  | nil => intro st; rfl
  | cons e es ih =>
    intro st
    rw [List.foldl_cons, ih]
    cases e <;> rfl

/-- the announcements before the first chunk of the outer stream name the file `n` exactly once: the inner map is attached to one source
of the outer map -/
def OnceInner (n : Text) : List Ev → Prop
  | [] => False
  | .source _ s _ :: es => (s = n ∧ ∀ i s' c, Ev.source i s' c ∈ es → s' ≠ n) ∨ (s ≠ n ∧ OnceInner n es)
  | .name _ _ :: es => OnceInner n es
  | .chunk _ _ :: _ => False

theorem combEnd_stat_keep (cfg : CombCfg) : ∀ (evs : List Ev) (st : CombSt),
    (∀ i s c, Ev.source i s c ∈ evs → s ≠ cfg.innerName) → (combEnd cfg st evs).stat = st.stat := by
  intro evs
  induction evs with
  | nil => intro st _; rfl
  | cons e es ih =>
    intro st hn
    simp only [combEnd]
    rw [ih _ (fun i s c hx => hn i s c (List.mem_cons_of_mem _ hx))]
    cases e with
    | chunk t m => exact (combOnChunk_keeps cfg st t m).1
    | source i s c => exact combOnSource_stat cfg st i s c (by simpa using hn i s c List.mem_cons_self)
    | name i n => rfl

theorem combEnd_rec (cfg : CombCfg) (hI : MapIdxOK cfg.innerMap) (os : Option Text) : ∀ (evs : List Ev) (st : CombSt),
    st.stat = ({ innerSource := os } : CombSt).stat → OnceInner cfg.innerName evs →
    ∃ k c, Ev.source k cfg.innerName c ∈ evs ∧
      InnerRec (combEnd cfg st evs) k (streamSM ((os.or c).getD []) cfg.innerMap ⟨cfg.columns, false⟩).evs (os.or c) := by
  intro evs
  induction evs with
  | nil => intro st _ h; exact h.elim
  | cons e es ih =>
    intro st hst ho
    cases e with
    | chunk t m => exact ho.elim
    | name i n =>
      obtain ⟨k, c, h1, h3⟩ := ih (combOnName st i n) hst ho
      exact ⟨k, c, List.mem_cons_of_mem _ h1, h3⟩
    | source i s c =>
      rcases ho with ⟨hs, hrest⟩ | ⟨hs, hrest⟩
      · subst hs
        simp only [CombSt.stat, Prod.mk.injEq] at hst
        obtain ⟨f1, f2, f3, f4, _, rfl⟩ := hst
        refine ⟨i, c, List.mem_cons_self, ?_⟩
        apply innerRec_of_stat _ _ _ _ _ (combEnd_stat_keep cfg es _ hrest)
        simp only [combStep, combOnSource, beq_self_eq_true, if_true]
        have hd := streamSM_declOK ((st.innerSource.or c).getD []) cfg.innerMap ⟨cfg.columns, false⟩ hI
        obtain ⟨t1, t2, t3⟩ := innerFold_tables _
          { st with innerSourceIndex := i, innerSource := st.innerSource.or c, sourceIndexMapping := lmInsert 0 st.sourceIndexMapping i (-2) }
          (by rw [f2, f3]; exact hd) (by simp [f2, f4])
        refine ⟨by rw [combInnerFold_keep], fun L hL => ?_, by rw [t2, f3]; rfl, by rw [t1, f2]; rfl,
          by rw [combInnerFold_keepSrc], by rw [t3, f4]; rfl⟩
        rw [fold_segs _ _ L hL (streamSM_gl _ _ _)]
        simp [segsAt, f1]
      · obtain ⟨k, c', h1, h3⟩ := ih _ ((combOnSource_stat cfg st i s c (by simpa using hs)).trans hst) hrest
        exact ⟨k, c', List.mem_cons_of_mem _ h1, h3⟩

theorem findInner_recorded (st : CombSt) (ms : List Mapping) (hsort : ms.Pairwise mle) (L C : Nat) (hL : 1 ≤ L)
    (hseg : segsAt st.lineData L = (ms.filter fun m => m.gl == L).map toSeg) :
    (∀ o', (lookupGo L C none ms).join = some o' →
      ∃ idx mm', findInner st L C = some idx ∧ (segsAt st.lineData L).getD idx default = toSeg mm' ∧ mm'.orig = some o'
        ∧ mm'.gc ≤ C)
    ∧ ((lookupGo L C none ms).join = none →
        ∀ idx, findInner st L C = some idx → ((segsAt st.lineData L).getD idx default).src < 0) := by
  have hfind := findInner_lookup st ms hsort L C hL hseg
  cases hf : findInner st L C with
  | none =>
    rw [hf] at hfind
    rw [hfind]
    exact ⟨nofun, nofun⟩
  | some idx =>
    rw [hf] at hfind
    obtain ⟨_, hsegeq, hlook, hgc⟩ := hfind
    generalize (ms.filter fun m => m.gl == L).getD idx default = mm at hsegeq hlook hgc
    rw [hlook]
    refine ⟨fun o' ho' => ⟨idx, mm, rfl, hsegeq, ho', hgc⟩, fun hnone idx' hf' => ?_⟩
    cases hf'
    rw [hsegeq]
    simp only [toSeg, show mm.orig = none from hnone]
    omega

theorem streamSM_chunkMs_sorted (Tin : Text) (Min : SMap) (ha : IsAscii Tin) (hl : Tin.length ≤ USIZE_MAX) (hin : MapInside Tin Min) :
    sortedFrom 1 0 (chunkMs (streamSM Tin Min ⟨true, false⟩).evs) :=
  chunkMs_sorted _ [] (streamSM_posOK Tin Min true ha hl (fun _ => hin)).1 (streamSM_tl Tin Min true)

theorem findInner_innerMap_gc (st : CombSt) (Tin : Text) (Min : SMap) (ha : IsAscii Tin) (hl : Tin.length ≤ USIZE_MAX)
    (hs : sortedFrom 1 0 (decode Min.mappings))
    (hsegok : ∀ x ∈ decode Min.mappings, SegOK (splitLines Tin) (adv startPos Tin).line (adv startPos Tin).col x)
    (hrec : ∀ L, 1 ≤ L → segsAt st.lineData L = ((chunkMs (streamSM Tin Min ⟨true, false⟩).evs).filter fun x => x.gl == L).map toSeg)
    (l c j : Nat) (hj : j < Tin.length) (hpos : adv startPos (Tin.take j) = ⟨l, c⟩) :
    (∀ o', lookupCols (decode Min.mappings) l c = some o' →
      ∃ idx mm', findInner st l c = some idx ∧ (st.lineData.getD (l - 1) {}).segs.getD idx default = toSeg mm' ∧ mm'.orig = some o'
        ∧ mm'.gc ≤ c)
    ∧ (lookupCols (decode Min.mappings) l c = none →
        ∀ idx, findInner st l c = some idx → ((st.lineData.getD (l - 1) {}).segs.getD idx default).src < 0) := by
  have hsorted := streamSM_chunkMs_sorted Tin Min ha hl (fun x hx => (hsegok x hx).1)
  have hcm : lookupCols (chunkMs (streamSM Tin Min ⟨true, false⟩).evs) l c = lookupCols (decode Min.mappings) l c := by
    have := streamSMFull_lookEq Tin Min ha hl hs hsegok j hj
    rw [hpos] at this
    exact this
  have hL : 1 ≤ l := by
    have e1 : startPos.line = 1 := rfl
    have := adv_ge (Tin.take j) startPos
    rw [hpos] at this
    rcases this with g | g <;> simp only at g <;> omega
  rw [← hcm]
  exact findInner_recorded st _ ((sortedFrom_iff _ _ _).1 hsorted).2 l c hL (hrec l hL)

/-- **C09, the search in terms of the inner map**: when the line data is what was recorded from the inner map's stream, `find_inner_mapping`
at the position of a character of the inner text finds the segment recorded for what the inner map assigns there, and a mapped
segment only if it assigns something (`findInner_innerMap_gc` adds that the segment starts at or before the column) -/
theorem findInner_innerMap (st : CombSt) (Tin : Text) (Min : SMap) (ha : IsAscii Tin) (hl : Tin.length ≤ USIZE_MAX)
    (hs : sortedFrom 1 0 (decode Min.mappings))
    (hsegok : ∀ x ∈ decode Min.mappings, SegOK (splitLines Tin) (adv startPos Tin).line (adv startPos Tin).col x)
    (hrec : ∀ L, 1 ≤ L → segsAt st.lineData L = ((chunkMs (streamSM Tin Min ⟨true, false⟩).evs).filter fun x => x.gl == L).map toSeg)
    (l c j : Nat) (hj : j < Tin.length) (hpos : adv startPos (Tin.take j) = ⟨l, c⟩) :
    (∀ o', lookupCols (decode Min.mappings) l c = some o' →
      ∃ idx mm', findInner st l c = some idx ∧ (st.lineData.getD (l - 1) {}).segs.getD idx default = toSeg mm' ∧ mm'.orig = some o')
    ∧ (lookupCols (decode Min.mappings) l c = none →
        ∀ idx, findInner st l c = some idx → ((st.lineData.getD (l - 1) {}).segs.getD idx default).src < 0) := by
  obtain ⟨F1, F2⟩ := findInner_innerMap_gc st Tin Min ha hl hs hsegok hrec l c j hj hpos
  exact ⟨fun o' ho' => (F1 o' ho').imp fun idx h => h.imp fun mm' h => ⟨h.1, h.2.1, h.2.2.1⟩, F2⟩

theorem onceInner_unique (n : Text) : ∀ (evs : List Ev), OnceInner n evs → ∀ (i j : Nat), (annS evs)[i]? = some n → (annS evs)[j]? = some n → i = j := by
  intro evs
  induction evs with
  | nil => intro h; exact h.elim
  | cons e es ih =>
    intro h i j hi hj
    cases e with
    | chunk t m => exact h.elim
    | name i0 n0 => exact ih h i j hi hj
    | source i0 s c =>
      simp only [annS] at hi hj
      rcases h with ⟨hs, hrest⟩ | ⟨hs, hrest⟩
      · have hno : n ∉ annS es := fun hq => by
          obtain ⟨i', c', hm⟩ := annS_mem es n hq
          exact hrest i' n c' hm rfl
        match i, j, hi, hj with
        | 0, 0, _, _ => rfl
        | i + 1, _, hi, _ => exact absurd (List.mem_of_getElem? (l := annS es) hi) hno
        | _, j + 1, _, hj => exact absurd (List.mem_of_getElem? (l := annS es) hj) hno
      · match i, j, hi, hj with
        | 0, _, hi, _ => cases hi; exact absurd rfl hs
        | _, 0, _, hj => cases hj; exact absurd rfl hs
        | i + 1, j + 1, hi, hj => rw [ih hrest i j hi hj]

/-- the state `st` in which the outer chunk `(t, m)` made the combinator deliver the event `e`: the table invariant over the outer
sources `OS`, with the global tables `S`, `N` of that moment inside the final ones `Sf`, `Nf`; the knowledge recorded from the
inner stream `E`; the outer names `ON`; and `k`, the one place of the inner source among the outer sources -/
structure ChunkState (cfg : CombCfg) (OS ON : List Text) (E : List Ev) (osrc : Option Text) (Sf Nf : List Text)
    (t : Option Text) (m : Mapping) (e : Ev) (st : CombSt) (S N : List Text) (k : Nat) : Prop where
  inv : KInv cfg st S N OS
  known : InnerRec st k E osrc
  names : st.nameIndexValueMapping = ON
  inner : OS[k]? = some cfg.innerName
  uniq : ∀ i, OS[i]? = some cfg.innerName → i = k
  emitted : e ∈ (combOnChunk cfg st t m).2
  prefS : (S ++ annS (combOnChunk cfg st t m).2) <+: Sf
  prefN : (N ++ annN (combOnChunk cfg st t m).2) <+: Nf
  nameBound : ∀ o, m.orig = some o → ∀ kk, o.name = some kk → kk < st.nameIndexValueMapping.length

/-- `hev` is the shape `streamSM_outer` gives for either column setting: nothing, or the announcements `P` followed by the chunks `C` -/
theorem comb_ev_at (cfg : CombCfg) (hI : MapIdxOK cfg.innerMap) (os : Option Text) (evs P C : List Ev) (Tin : Text)
    (hev : evs = [] ∨ evs = P ++ C) (hP : ∀ e ∈ P, e.isChunk = false) (cN : ∀ e ∈ C, e.isChunk = true) (hdecl : DeclOK 0 0 evs)
    (honce : OnceInner cfg.innerName P) (hTin : ∀ k c, Ev.source k cfg.innerName c ∈ P → (os.or c).getD [] = Tin) :
    ∀ e ∈ combFold cfg { innerSource := os } evs,
      e.AnnOf (fun s cc => ∃ j, Ev.source j s cc ∈ evs ∧ s ≠ cfg.innerName)
      ∨ ∃ t m st S N k c, Ev.chunk t m ∈ evs ∧ Ev.source k cfg.innerName c ∈ evs
        ∧ ChunkState cfg (annS evs) (annN evs) (streamSM Tin cfg.innerMap ⟨cfg.columns, false⟩).evs (os.or c)
            (annS (combFold cfg { innerSource := os } evs)) (annN (combFold cfg { innerSource := os } evs)) t m e st S N k := by
  intro e hmem
  rcases hev with rfl | rfl
  · cases hmem
  obtain ⟨dP, dC⟩ := (declOK_append P C 0 0).1 hdecl
  obtain ⟨k1, k2, _⟩ := combEnd_inv cfg hI P { innerSource := os } [] [] [] (kinv_init cfg os) dP
  simp only [List.nil_append] at k1 k2
  obtain ⟨k, c, hkmem, hrec⟩ := combEnd_rec cfg hI os P _ rfl honce
  rw [hTin k c hkmem] at hrec
  rw [combFold_append] at hmem ⊢
  rcases List.mem_append.1 hmem with hmem | hmem
  · exact Or.inl ((combFold_ann cfg P _ hP).mono (fun _ _ ⟨j, hj, hne⟩ => ⟨j, List.mem_append_left _ hj, hne⟩) e hmem)
  · right
    have hdC : DeclOK (annS P).length (combEnd cfg { innerSource := os } P).nameIndexValueMapping.length C := by
      rw [k2]
      simpa [annS_length, annN_length] using dC
    obtain ⟨pre, x, post, rfl, hx, b2, b4, dX, b6, b7⟩ := combFold_at cfg hI k1 hdC hmem
    have hp : ∀ e ∈ pre, e.isChunk = true := fun e he => cN e (List.mem_append_left _ he)
    rw [annS_chunks pre hp, List.append_nil] at b2
    rw [annN_chunks pre hp, List.append_nil] at b4
    have hR := innerRec_of_stat _ _ k _ _ (combEnd_stat_keep cfg pre _ fun i s c hm => nomatch hp _ hm) hrec
    have hkn : (annS P)[k]? = some cfg.innerName := (b2.inner_at (i := k) (by omega) hR.isi.symm).2
    simp only [annS_append, annN_append, annS_chunks _ cN, annN_chunks _ cN, List.append_nil]
    cases x with
    | chunk t m =>
      exact ⟨t, m, _, _, _, k, c, List.mem_append_right _ (List.mem_append_right _ List.mem_cons_self), List.mem_append_left _ hkmem, b2, hR,
        b4.trans k2, hkn, fun i hi => onceInner_unique _ P honce i k hi hkn, hx, b6, b7, fun o ho => (dX.1 o ho).2⟩
    | source i s c => cases cN _ (List.mem_append_right _ List.mem_cons_self)
    | name i n => cases cN _ (List.mem_append_right _ List.mem_cons_self)

theorem comb_chunk_at_of_shape (cfg : CombCfg) (hI : MapIdxOK cfg.innerMap) (os : Option Text) (evs P C : List Ev) (Tin : Text)
    (hev : evs = [] ∨ evs = P ++ C) (hP : ∀ e ∈ P, e.isChunk = false) (cN : ∀ e ∈ C, e.isChunk = true) (hdecl : DeclOK 0 0 evs)
    (honce : OnceInner cfg.innerName P) (hTin : ∀ k c, Ev.source k cfg.innerName c ∈ P → (os.or c).getD [] = Tin) :
    ∀ t' mm, Ev.chunk t' mm ∈ combFold cfg { innerSource := os } evs →
      ∃ m st S N k c, Ev.chunk t' m ∈ evs ∧ mm.gl = m.gl ∧ mm.gc = m.gc
        ∧ ChunkState cfg (annS evs) (annN evs) (streamSM Tin cfg.innerMap ⟨cfg.columns, false⟩).evs (os.or c)
            (annS (combFold cfg { innerSource := os } evs)) (annN (combFold cfg { innerSource := os } evs))
            t' m (.chunk t' mm) st S N k := by
  intro t' mm hmem
  rcases comb_ev_at cfg hI os evs P C Tin hev hP cN hdecl honce hTin _ hmem with h | ⟨t, m, st, S, N, k, c, b1, _, h⟩
  · exact False.elim h
  · have hk := mem_keys _ t' mm h.emitted
    rw [combOnChunk_keys, List.mem_singleton, Prod.mk.injEq, Prod.mk.injEq] at hk
    obtain ⟨rfl, hgl', hgc'⟩ := hk
    exact ⟨m, st, S, N, k, c, b1, hgl', hgc', h⟩

theorem comb_chunk_at (cfg : CombCfg) (hI : MapIdxOK cfg.innerMap) (os : Option Text) (P C : List Ev) (Tin : Text)
    (hP : ∀ e ∈ P, e.isChunk = false) (cN : ∀ e ∈ C, e.isChunk = true) (hdecl : DeclOK 0 0 (P ++ C))
    (honce : OnceInner cfg.innerName P) (hTin : ∀ k c, Ev.source k cfg.innerName c ∈ P → (os.or c).getD [] = Tin)
    (hgl : ∀ m ∈ chunkMs (streamSM Tin cfg.innerMap ⟨cfg.columns, false⟩).evs, 1 ≤ m.gl) :
    ∀ t' mm, Ev.chunk t' mm ∈ combFold cfg { innerSource := os } (P ++ C) →
      ∃ m st' S0 N0 k c, Ev.chunk t' m ∈ C ∧ mm.gl = m.gl ∧ mm.gc = m.gc
        ∧ KInv cfg st' S0 N0 (annS P) ∧ InnerRec st' k (streamSM Tin cfg.innerMap ⟨cfg.columns, false⟩).evs (os.or c)
        ∧ st'.nameIndexValueMapping = annN P
        ∧ (annS P)[k]? = some cfg.innerName
        ∧ Ev.chunk t' mm ∈ (combOnChunk cfg st' t' m).2
        ∧ (S0 ++ annS (combOnChunk cfg st' t' m).2) <+: annS (combFold cfg { innerSource := os } (P ++ C))
        ∧ (N0 ++ annN (combOnChunk cfg st' t' m).2) <+: annN (combFold cfg { innerSource := os } (P ++ C))
        ∧ (∀ o, m.orig = some o → ∀ kk, o.name = some kk → kk < st'.nameIndexValueMapping.length) := by
  intro t' mm hmem
  obtain ⟨m, st, S, N, k, c, b1, hgl', hgc', h⟩ :=
    comb_chunk_at_of_shape cfg hI os (P ++ C) P C Tin (Or.inr rfl) hP cN hdecl honce hTin t' mm hmem
  rw [annS_append, annN_append, annS_chunks C cN, annN_chunks C cN, List.append_nil, List.append_nil] at h
  exact ⟨m, st, S, N, k, c, (List.mem_append.1 b1).resolve_left (fun hp => nomatch hP _ hp), hgl', hgc',
    h.inv, h.known, h.names, h.inner, h.emitted, h.prefS, h.prefN, h.nameBound⟩

theorem comb_sources_at_of_shape (cfg : CombCfg) (hI : MapIdxOK cfg.innerMap) (os : Option Text) (evs P C : List Ev) (Tin : Text)
    (hev : evs = [] ∨ evs = P ++ C) (hP : ∀ e ∈ P, e.isChunk = false) (cN : ∀ e ∈ C, e.isChunk = true) (hdecl : DeclOK 0 0 evs)
    (honce : OnceInner cfg.innerName P) (hTin : ∀ k c, Ev.source k cfg.innerName c ∈ P → (os.or c).getD [] = Tin) :
    ∀ i s cc, Ev.source i s cc ∈ combFold cfg { innerSource := os } evs →
      (∃ j, Ev.source j s cc ∈ evs ∧ s ≠ cfg.innerName)
      ∨ (s = cfg.innerName ∧ ∃ k c, Ev.source k cfg.innerName c ∈ evs ∧ cc = os.or c)
      ∨ (∃ j, Ev.source j s cc ∈ (streamSM Tin cfg.innerMap ⟨cfg.columns, false⟩).evs) := by
  intro i s cc hmem
  rcases comb_ev_at cfg hI os evs P C Tin hev hP cN hdecl honce hTin _ hmem with h | ⟨t, m, st, S, N, k, c, _, hkmem, h⟩
  · exact Or.inl h
  · rcases (combOnChunk_keeps cfg st t m).2 S N _ h.inv i s cc h.emitted with ⟨q1, q2⟩ | q
    · exact Or.inr (Or.inl ⟨q1, k, c, hkmem, q2.trans h.known.isrc⟩)
    · rw [h.known.pairs] at q
      exact Or.inr (Or.inr (annSC_mem _ s cc q))

theorem comb_sources_at (cfg : CombCfg) (hI : MapIdxOK cfg.innerMap) (os : Option Text) (P C : List Ev) (Tin : Text)
    (hP : ∀ e ∈ P, e.isChunk = false) (cN : ∀ e ∈ C, e.isChunk = true) (hdecl : DeclOK 0 0 (P ++ C))
    (honce : OnceInner cfg.innerName P) (hTin : ∀ k c, Ev.source k cfg.innerName c ∈ P → (os.or c).getD [] = Tin)
    (hgl : ∀ m ∈ chunkMs (streamSM Tin cfg.innerMap ⟨cfg.columns, false⟩).evs, 1 ≤ m.gl) :
    ∀ i s cc, Ev.source i s cc ∈ combFold cfg { innerSource := os } (P ++ C) →
      (∃ j, Ev.source j s cc ∈ P ∧ s ≠ cfg.innerName)
      ∨ (s = cfg.innerName ∧ ∃ k c, Ev.source k cfg.innerName c ∈ P ∧ cc = os.or c)
      ∨ (∃ j, Ev.source j s cc ∈ (streamSM Tin cfg.innerMap ⟨cfg.columns, false⟩).evs) := by
  intro i s cc hmem
  have inP : ∀ {j s c}, Ev.source j s c ∈ P ++ C → Ev.source j s c ∈ P := fun h =>
    (List.mem_append.1 h).resolve_right fun hc => nomatch cN _ hc
  exact (comb_sources_at_of_shape cfg hI os (P ++ C) P C Tin (Or.inr rfl) hP cN hdecl honce hTin i s cc hmem).imp
    (fun ⟨j, hj, hne⟩ => ⟨j, inP hj, hne⟩) (Or.imp (fun ⟨hs, k, c, hk, hc⟩ => ⟨hs, k, c, inP hk, hc⟩) id)

/-- the original text of `len` bytes at (line, col) of a file given by its lines -/
def origTextAt (lines : List Text) (line col len : Nat) : Text :=
  if line = 0 then [] else match lines[line - 1]? with | some ln => csub ln col (col + len) | none => []

theorem combOrigName_toSeg (lines : List Text) (mm' : Mapping) (o' : Orig) (h : mm'.orig = some o') (ioc : Int) (len : Nat) :
    combOrigName lines (toSeg mm') ioc len = origTextAt lines o'.line ioc.toNat len := by
  unfold combOrigName origTextAt
  simp only [toSeg, h]
  by_cases h0 : o'.line = 0
  · simp [h0]
  · have : ¬ ((o'.line : Int) ≤ 0) := by omega
    simp only [this, h0, if_false, Int.toNat_natCast]
    split <;> rename_i heq <;> simp [heq]

/-- the column advanced by the offset into the segment, read in `Nat` (apart, so that `omega` sees this fact only) -/
theorem advCol_nat (oc ac gc : Nat) (h : gc ≤ ac) : ((oc : Int) + ((ac : Int) - gc)).toNat = oc + (ac - gc) := by
  omega

/-- `combOnChunk_sem` at a delivered chunk `mm` whose outer chunk (original location `a`) points into the inner source, read in the
final announcements (`Sf`, `Nf`) and in the inner stream's own (`E`) -/
theorem combOnChunk_at {cfg : CombCfg} {OS ON : List Text} {E : List Ev} {osrc : Option Text} {Sf Nf : List Text} {t : Option Text}
    {m mm : Mapping} {st : CombSt} {S N : List Text} {k : Nat} (h : ChunkState cfg OS ON E osrc Sf Nf t m (.chunk t mm) st S N k)
    (a : Orig) (hmo : m.orig = some a) (hOS : OS[a.src]? = some cfg.innerName) :
    (∀ idx mm' o', findInner st a.line a.col = some idx → (st.lineData.getD (a.line - 1) {}).segs.getD idx default = toSeg mm' →
      mm'.orig = some o' → ∀ y, mm.orig = some y →
        Sf[y.src]? = (annS E)[o'.src]? ∧ o'.src < (annS E).length ∧ y.line = o'.line
        ∧ (y.col = o'.col ∨ (mm'.gc < a.col ∧ y.col = o'.col + (a.col - mm'.gc)))
        ∧ ∀ kk, y.name = some kk →
            (∃ i, o'.name = some i ∧ y.col = o'.col ∧ Nf[kk]? = (annN E)[i]? ∧ i < (annN E).length)
            ∨ (∃ i nm c, a.name = some i ∧ ON[i]? = some nm ∧ Nf[kk]? = some nm
                ∧ ((annSC E)[o'.src]?).map (·.2) = some (some c) ∧ nm = origTextAt (splitLines c) o'.line y.col nm.length))
    ∧ ((∀ idx, findInner st a.line a.col = some idx → ((st.lineData.getD (a.line - 1) {}).segs.getD idx default).src < 0) →
        (cfg.remove = true → mm.orig = none)
        ∧ ∀ y, mm.orig = some y → Sf[y.src]? = some cfg.innerName ∧ y.line = a.line ∧ y.col = a.col) := by
  have hsi : (a.src : Int) = st.innerSourceIndex := by rw [h.known.isi, h.uniq a.src hOS]
  obtain ⟨sem1, sem2⟩ := combOnChunk_sem cfg st S N OS h.inv t m h.nameBound
  simp only [Mapping.si, Mapping.ol, Mapping.oc, Mapping.ni, hmo, Int.toNat_natCast] at sem1 sem2
  constructor
  · intro idx mm' o' hfi hseg ho' y hy
    have hf := sem1 idx hsi hfi (by rw [hseg]; simp only [toSeg, ho']; exact Int.natCast_nonneg _)
    rw [hseg] at hf
    obtain ⟨_, _, _, q⟩ := hf _ mm h.emitted
    obtain ⟨q1, q2, q3, q4, qn⟩ := q y hy
    simp only [toSeg, ho', Int.toNat_natCast] at q1 q2 q3 q4
    rw [h.known.srcs] at q1
    have hlen : o'.src < (annS E).length := by rw [← h.known.srcs, List.length_map]; exact q2
    refine ⟨?_, hlen, q3, ?_, fun kk hkk => ?_⟩
    · exact prefix_get_eq h.prefS hlen q1
    · rcases q4 with q4 | ⟨q4, q5⟩
      · exact Or.inl q4
      · have hlt : mm'.gc < a.col := Int.ofNat_lt.1 (Int.sub_pos.1 q4)
        exact Or.inr ⟨hlt, q5.trans (advCol_nat _ _ _ (Nat.le_of_lt hlt))⟩
    · rcases qn kk hkk with ⟨r0, r1, r2, r3⟩ | ⟨r0, r2, r3, ioc, r4, lines, r5, r6⟩
      · simp only [toSeg, ho'] at r0 r1 r2 r3
        cases hon : o'.name with
        | none => rw [hon] at r0; exact absurd r0 (by decide)
        | some i =>
          rw [hon] at r2 r3
          simp only [Int.toNat_natCast, h.known.names] at r1 r2 r3
          exact Or.inl ⟨i, rfl, r1, prefix_get_eq h.prefN r3 r2, r3⟩
      · cases han : a.name with
        | none => rw [han] at r0; exact absurd r0 (by decide)
        | some i =>
          rw [han] at r2 r3 r6
          simp only [Int.toNat_natCast, h.names] at r2 r3 r6
          have hnm : ON[i]? = some ON[i] := List.getElem?_eq_getElem r3
          rw [List.getD_eq_getElem?_getD, hnm, Option.getD_some, combOrigName_toSeg _ mm' o' ho', ← r4] at r6
          rw [hnm] at r2
          unfold innerContentLines at r5
          simp only [toSeg, ho', Int.toNat_natCast, h.known.conts] at r5
          split at r5
          · rename_i c hc
            cases r5
            exact Or.inr ⟨i, _, c, rfl, hnm, prefix_get _ _ h.prefN _ _ r2, by rw [← List.getElem?_map]; exact hc, r6⟩
          · cases r5
  · intro hnone
    obtain ⟨hpass, hrem⟩ := sem2 (fun _ => hnone)
    refine ⟨fun hr => hrem hsi hr _ mm h.emitted, fun y hy => ?_⟩
    obtain ⟨_, _, _, q⟩ := hpass _ mm h.emitted
    obtain ⟨_, q2, _, q4, q5, _⟩ := q y hy
    rw [Int.toNat_natCast, hOS] at q2
    exact ⟨prefix_get _ _ h.prefS _ _ q2, q4, q5⟩

/-- `c09_stream_compose` (Props/C09), where the statement is explained -/
theorem streamCombined_compose (t : Text) (sm : SMap) (n : Text) (os : Option Text) (im : SMap) (rm : Bool) (Tin : Text)
    (h1 : MapIdxOK sm) (h2 : MapIdxOK im) (honce : OnceInner n (smSourceEvs sm ++ smNameEvs sm))
    (hTin : ∀ k c, Ev.source k n c ∈ smSourceEvs sm ++ smNameEvs sm → (os.or c).getD [] = Tin)
    (ha : IsAscii Tin) (hl : Tin.length ≤ USIZE_MAX) (hs : sortedFrom 1 0 (decode im.mappings))
    (hseg : ∀ x ∈ decode im.mappings, SegOK (splitLines Tin) (adv startPos Tin).line (adv startPos Tin).col x) :
    ∀ t' mm, Ev.chunk t' mm ∈ (streamCombined t sm n os im rm ⟨true, false⟩).evs →
      ∃ m, Ev.chunk t' m ∈ (streamSM t sm ⟨true, false⟩).evs ∧ mm.gl = m.gl ∧ mm.gc = m.gc ∧
        ∀ a, m.orig = some a → (annS (streamSM t sm ⟨true, false⟩).evs)[a.src]? = some n →
          ∀ j, j < Tin.length → adv startPos (Tin.take j) = ⟨a.line, a.col⟩ →
            (∀ o', lookupCols (decode im.mappings) a.line a.col = some o' → ∀ y, mm.orig = some y →
                (annS (streamCombined t sm n os im rm ⟨true, false⟩).evs)[y.src]? = (annS (streamSM Tin im ⟨true, false⟩).evs)[o'.src]?
                ∧ o'.src < (annS (streamSM Tin im ⟨true, false⟩).evs).length
                ∧ y.line = o'.line ∧ (y.col = o'.col ∨ ∃ g, g < a.col ∧ y.col = o'.col + (a.col - g)))
            ∧ (lookupCols (decode im.mappings) a.line a.col = none →
                (rm = true → mm.orig = none)
                ∧ ∀ y, mm.orig = some y → (annS (streamCombined t sm n os im rm ⟨true, false⟩).evs)[y.src]? = some n ∧ y.line = a.line ∧ y.col = a.col) := by
  intro t' mm hmem
  obtain ⟨C, hev, hP, cN⟩ := streamSM_outer t sm true
  obtain ⟨m, st, S, N, k, c, b1, hgl', hgc', h⟩ := comb_chunk_at_of_shape ⟨t, n, im, rm, true⟩ h2 os _ _ C Tin hev hP cN (streamSM_declOK t sm _ h1)
    honce hTin t' mm hmem
  refine ⟨m, b1, hgl', hgc', fun a hmo hOS j hj hpos => ?_⟩
  obtain ⟨F1, F2⟩ := findInner_innerMap_gc st Tin im ha hl hs hseg h.known.segs a.line a.col j hj hpos
  obtain ⟨sem1, sem2⟩ := combOnChunk_at h a hmo hOS
  refine ⟨fun o' ho' y hy => ?_, fun hnone => sem2 (F2 hnone)⟩
  obtain ⟨idx, mm', hfi, hsegeq, hmm', _⟩ := F1 o' ho'
  obtain ⟨q1, q2, q3, q4, _⟩ := sem1 idx mm' o' hfi hsegeq hmm' y hy
  exact ⟨q1, q2, q3, q4.imp_right fun h => ⟨mm'.gc, h⟩⟩

/-- `c09_names` (Props/C09), where the statement is explained -/
theorem streamCombined_names (t : Text) (sm : SMap) (n : Text) (os : Option Text) (im : SMap) (rm : Bool) (Tin : Text)
    (h1 : MapIdxOK sm) (h2 : MapIdxOK im) (honce : OnceInner n (smSourceEvs sm ++ smNameEvs sm))
    (hTin : ∀ k c, Ev.source k n c ∈ smSourceEvs sm ++ smNameEvs sm → (os.or c).getD [] = Tin)
    (ha : IsAscii Tin) (hl : Tin.length ≤ USIZE_MAX) (hs : sortedFrom 1 0 (decode im.mappings))
    (hseg : ∀ x ∈ decode im.mappings, SegOK (splitLines Tin) (adv startPos Tin).line (adv startPos Tin).col x) :
    ∀ t' mm, Ev.chunk t' mm ∈ (streamCombined t sm n os im rm ⟨true, false⟩).evs →
      ∃ m, Ev.chunk t' m ∈ (streamSM t sm ⟨true, false⟩).evs ∧ mm.gl = m.gl ∧ mm.gc = m.gc ∧
        ∀ a, m.orig = some a → (annS (streamSM t sm ⟨true, false⟩).evs)[a.src]? = some n →
          ∀ j, j < Tin.length → adv startPos (Tin.take j) = ⟨a.line, a.col⟩ →
            ∀ o', lookupCols (decode im.mappings) a.line a.col = some o' → ∀ y, mm.orig = some y → ∀ k, y.name = some k →
              (∃ i, o'.name = some i ∧ y.col = o'.col
                  ∧ (annN (streamCombined t sm n os im rm ⟨true, false⟩).evs)[k]? = (annN (streamSM Tin im ⟨true, false⟩).evs)[i]?
                  ∧ i < (annN (streamSM Tin im ⟨true, false⟩).evs).length)
              ∨ (∃ i nm c, a.name = some i ∧ (annN (streamSM t sm ⟨true, false⟩).evs)[i]? = some nm
                  ∧ (annN (streamCombined t sm n os im rm ⟨true, false⟩).evs)[k]? = some nm
                  ∧ ((annSC (streamSM Tin im ⟨true, false⟩).evs)[o'.src]?).map (·.2) = some (some c)
                  ∧ nm = origTextAt (splitLines c) o'.line y.col nm.length) := by
  intro t' mm hmem
  obtain ⟨C, hev, hP, cN⟩ := streamSM_outer t sm true
  obtain ⟨m, st, S, N, k, c, b1, hgl', hgc', h⟩ := comb_chunk_at_of_shape ⟨t, n, im, rm, true⟩ h2 os _ _ C Tin hev hP cN (streamSM_declOK t sm _ h1)
    honce hTin t' mm hmem
  refine ⟨m, b1, hgl', hgc', fun a hmo hOS j hj hpos o' ho' y hy kk hkk => ?_⟩
  obtain ⟨idx, mm', hfi, hsegeq, hmm', _⟩ := (findInner_innerMap_gc st Tin im ha hl hs hseg h.known.segs a.line a.col j hj hpos).1 o' ho'
  exact ((combOnChunk_at h a hmo hOS).1 idx mm' o' hfi hsegeq hmm' y hy).2.2.2.2 kk hkk

/-- `c09_contents` (Props/C09), where the statement is explained -/
theorem streamCombined_contents (t : Text) (sm : SMap) (n : Text) (os : Option Text) (im : SMap) (rm : Bool) (Tin : Text)
    (h1 : MapIdxOK sm) (h2 : MapIdxOK im) (honce : OnceInner n (smSourceEvs sm ++ smNameEvs sm))
    (hTin : ∀ k c, Ev.source k n c ∈ smSourceEvs sm ++ smNameEvs sm → (os.or c).getD [] = Tin)
    (ha : IsAscii Tin) (hl : Tin.length ≤ USIZE_MAX) (hseg : MapInside Tin im) :
    ∀ i s cc, Ev.source i s cc ∈ (streamCombined t sm n os im rm ⟨true, false⟩).evs →
      (∃ j, Ev.source j s cc ∈ (streamSM t sm ⟨true, false⟩).evs ∧ s ≠ n)
      ∨ (s = n ∧ ∃ k c, Ev.source k n c ∈ (streamSM t sm ⟨true, false⟩).evs ∧ cc = os.or c)
      ∨ (∃ j, Ev.source j s cc ∈ (streamSM Tin im ⟨true, false⟩).evs) := by
  obtain ⟨C, hev, hP, cN⟩ := streamSM_outer t sm true
  exact comb_sources_at_of_shape ⟨t, n, im, rm, true⟩ h2 os _ _ C Tin hev hP cN (streamSM_declOK t sm _ h1) honce hTin

end Rs
