import RsModel.Lemmas.NameLevel
import RsModel.Lemmas.AttrTree
/-!
# C13 through `map()`: the attribution of a ConcatSource tree depends only on its sequence of leaves

`leaves s` flattens every nesting of ConcatSource.  For trees whose leaves are well declared (`Src.WD`), the resolved per-byte
attribution of the chunk stream — and hence, by C03, of `map()` — is the concatenation of what the leaves attribute on their own.
-/
namespace Rs

mutual
def Src.leaves : Src → List Src
  | .concat cs => cs.leavesL
  | s => [s]
def SrcList.leavesL : SrcList → List Src
  | .nil => []
  | .cons s r => s.leaves ++ r.leavesL
end

mutual
theorem Src.wd_nc (cons : Text → Option Text) : ∀ (s : Src), Src.WD cons true s → s.NoCached
  | .raw .. | .rawStr .. | .rawBuf .. | .orig .. | .sms .. => fun _ => trivial
  | .concat cs => SrcList.wd_ncL cons cs
  | .replace .. => fun h => h.1
  | .cached .. => fun h => h.elim
theorem SrcList.wd_ncL (cons : Text → Option Text) : ∀ (l : SrcList), SrcList.WD cons true l → l.NoCachedL
  | .nil => fun _ => trivial
  | .cons s r => fun h => ⟨Src.wd_nc cons s h.1, SrcList.wd_ncL cons r h.2⟩
end

mutual
theorem Src.attr_leaves (cons : Text → Option Text) : ∀ (s : Src), Src.WD cons true s → ∀ σ,
    s.attr true σ = (s.leaves.map fun l => l.attr true σ).flatten
  | .raw .. | .rawStr .. | .rawBuf .. | .orig .. | .sms .. | .replace .. => fun _ _ => by simp [Src.leaves]
  | .concat cs => fun h σ => by
    rw [Src.attr_concat cons true cs h σ]
    exact SrcList.attr_leavesL cons cs h σ
  | .cached .. => fun h => h.elim
theorem SrcList.attr_leavesL (cons : Text → Option Text) : ∀ (l : SrcList), SrcList.WD cons true l → ∀ σ,
    ((l.streams ⟨true, false⟩ σ).1.map fun r => attrN emptyS emptyN r.evs).flatten = (l.leavesL.map fun x => x.attr true σ).flatten
  | .nil => fun _ _ => rfl
  | .cons s r => fun h σ => by
    simp only [SrcList.streams, SrcList.leavesL, List.map_cons, List.flatten_cons, List.map_append, List.flatten_append]
    rw [(Src.stream_nc s ⟨true, false⟩ σ (Src.wd_nc cons s h.1)).1, SrcList.attr_leavesL cons r h.2 σ, ← Src.attr_leaves cons s h.1 σ]
    rfl
end

/-- `c13_same_leaves_stream` (Props/C13.lean) says what this claims; here the proof: a tree attributes as the flat list of its leaves
does (`Src.attr_leaves`) -/
theorem attr_same_leaves (cons : Text → Option Text) (a b : Src) (ha : Src.WD cons true a) (hb : Src.WD cons true b) (h : a.leaves = b.leaves) (σ : Store) :
    a.attr true σ = b.attr true σ := by
  rw [Src.attr_leaves cons a ha σ, Src.attr_leaves cons b hb σ, h]

theorem map_same_leaves (cons : Text → Option Text) (a b : Src) (ha : Src.WD cons true a) (hb : Src.WD cons true b) (h : a.leaves = b.leaves)
    (hma : a.ModeHypC) (hmb : b.ModeHypC) (hsrc : a.src = b.src) (final : Bool)
    (hsa : ∀ m ∈ chunkMs (a.stream ⟨true, true⟩ []).1.evs, m.small) (hsb : ∀ m ∈ chunkMs (b.stream ⟨true, true⟩ []).1.evs, m.small)
    (sma smb : SMap) (h1 : (getMap a ⟨true, final⟩ []).1 = some sma) (h2 : (getMap b ⟨true, final⟩ []).1 = some smb) :
    (attrFrom (decode sma.mappings) startPos a.src).map (Option.map (resolveMF sma))
      = (attrFrom (decode smb.mappings) startPos a.src).map (Option.map (resolveMF smb)) := by
  rw [getMap_names a hma (Src.nc_nodup a (Src.wd_nc cons a ha)) [] [] (cold_nil _) (cold_nil _) final hsa sma h1, hsrc,
    getMap_names b hmb (Src.nc_nodup b (Src.wd_nc cons b hb)) [] [] (cold_nil _) (cold_nil _) final hsb smb h2]
  exact congrArg (List.map (Option.map RLoc.toN)) (attr_same_leaves cons a b ha hb h [])

-- kept from unfolding: against `WellDecl … (stream of a given ReplaceSource)` Lean evaluates the stream to see how far `WellDecl` computes
attribute [local irreducible] WellDecl in
/-- `c13_replace_leaf` (Props/C13.lean) says what this is for (the ConcatSource law of C06 uses it in the same way); here the proof: a
ReplaceSource passes the announcements of its inner stream through and keeps them dense -/
theorem Src.wd_replace (cons : Text → Option Text) (inner : Src) (rs : List Repl) (hw : Src.WD cons true inner) (hi : inner.IdxHyp) :
    Src.WD cons true (.replace inner rs) := by
  have hnc := Src.wd_nc cons inner hw
  refine ⟨hnc, fun σ => ?_⟩
  simp only [Src.stream]
  exact replaceStream_wellDecl cons _ _ (Src.stream_wd cons true inner hw σ) (Src.declOK_nc inner hnc hi _ σ)

end Rs
