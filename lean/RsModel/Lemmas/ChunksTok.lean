import RsModel.Lemmas.TreeWalk
import RsModel.Lemmas.ReplaceWalk
import RsModel.Lemmas.CombWalk
import RsModel.Lemmas.ConcatWalk
import RsModel.Lemmas.Pos
import RsModel.Lemmas.SMWalk
/-! # every chunk any stream delivers is a token: at most one line break, and only as its last byte -/
namespace Rs

theorem LeafChunk.tok {txt x : Text} {m : Mapping} (h : LeafChunk txt (some x) m) : TokOK x := by
  have hl := tokOK_of_lines _ (lines_of_splitLines txt)
  cases h with
  | line hx => exact hl x hx
  | token hx => exact tokens_ok txt x hx
  | stretch l a hx =>
    rcases hx with rfl | ⟨b, rfl⟩
    · exact tokOK_getD _ hl l
    · exact tokOK_csub _ (tokOK_getD _ hl l) a b

theorem streamRaw_tok (t : Text) (c : Bool) : ChunksTok (streamRaw t ⟨c, false⟩).evs := fun _ _ h => (streamRaw_chunk h).tok

theorem streamOriginal_tok (t name : Text) (c : Bool) : ChunksTok (streamOriginal t name ⟨c, false⟩).evs :=
  fun _ _ h => (streamOriginal_chunk h).tok

theorem streamSM_tok (t : Text) (sm : SMap) (c : Bool) : ChunksTok (streamSM t sm ⟨c, false⟩).evs := fun _ _ h => (streamSM_chunk h).tok

theorem streamCombined_tok (t : Text) (sm : SMap) (n : Text) (os : Option Text) (im : SMap) (rm : Bool) (c : Bool) :
    ChunksTok (streamCombined t sm n os im rm ⟨c, false⟩).evs :=
  fun x _ h => let ⟨m, hm, _⟩ := streamCombined_chunk h; streamSM_tok t sm c x m hm

theorem concatStream_tok (children : List SResult) (h : ∀ c ∈ children, ChunksTok c.evs) : ChunksTok (concatStream false children).evs := by
  intro t m hm
  obtain ⟨e, _⟩ | ⟨c, hc, t0, m0, _, hm0, e, _⟩ := concatStream_chunk hm
  · cases e
  · exact h c hc t m0 (e ▸ hm0)

theorem replaceStream_tok (sorted : List Repl) (inner : SResult) (h : ChunksTok inner.evs) : ChunksTok (replaceStream sorted inner).evs := by
  intro x mm hm
  rcases replaceStream_piece hm with ⟨t, m, p, q, he, _, _, e⟩ | ⟨T, cl, hcl, e⟩ <;> cases e
  · exact tokOK_bsub t (h t m he) p q
  · exact tokOK_of_lines _ (lines_of_splitLines T) x hcl

theorem Src.tok_facts : Src.StreamFacts (fun _ => True) (fun _ o r => o.final = false → ChunksTok r.evs)
    (fun _ o rs => ∀ r ∈ rs, o.final = false → ChunksTok r.evs) :=
  .allNormal (R := fun _ r => ChunksTok r.evs) streamRaw_tok (fun t name c _ => streamOriginal_tok t name c)
    (fun t _ map _ _ c _ => streamSM_tok t map c) (fun t name map origSrc im remove c _ => streamCombined_tok t map name origSrc im remove c)
    (fun _ _ rs _ => concatStream_tok rs) (fun _ rs _ r _ => replaceStream_tok (sortRepls rs) r) (fun _ inner m c _ => streamSM_tok inner.src m c)

theorem Src.stream_tok : ∀ (s : Src) (c : Bool) (σ : Store), ChunksTok (s.stream ⟨c, false⟩ σ).1.evs :=
  fun s c σ => Src.stream_induct .true Src.tok_facts s ⟨c, false⟩ σ trivial rfl

theorem SrcList.streams_tok : ∀ (l : SrcList) (c : Bool) (σ : Store), ∀ r ∈ (l.streams ⟨c, false⟩ σ).1, ChunksTok r.evs :=
  fun l c σ r hr => SrcList.streams_induct .true Src.tok_facts l ⟨c, false⟩ σ trivial r hr rfl

end Rs
