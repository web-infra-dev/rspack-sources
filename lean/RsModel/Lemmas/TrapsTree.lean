import RsModel.Lemmas.TrapsDomain
import RsModel.Lemmas.TrapsConcat
import RsModel.Lemmas.ColdStrip
/-!
# No trap in `source()` and in the checked parts of `stream_chunks`, for whole trees

`Src.srcC` and `Src.streamC` (Model/Checked.lean) are `source()` and the stream with the crate's checked operations as partial ones.  Defined here, each
by recursion on the tree: `Src.ReplDom` (replacement positions on char boundaries, edited texts below 4 GiB), under which `srcC`
succeeds and is `src` (`Src.srcC_eq`); `Src.SizeOK` (the text of every leaf, and an attached mappings string, below 4 GiB) and
`Src.NoSat o` (no ConcatSource node overflows or saturates), under which `streamC` succeeds and is `stream` (`Src.streamC_eq`);
`Src.HalfOK` (every ConcatSource below 2 GiB), which gives `NoSat` in normal mode on the domain of C02 (`Src.noSat_normal`).
-/
namespace Rs

mutual
/-- the documented domain of C17 for `source()`: every replacement position is on a char boundary of the text it edits or beyond
its end, and that text is below 4 GiB -/
def Src.ReplDom : Src → Prop
  | .concat cs => cs.ReplDoms
  | .replace inner rs => inner.ReplDom ∧ inner.src.length < 2 ^ 32 ∧ ∀ r ∈ rs, Chk.PosOKB inner.src r.start ∧ Chk.PosOKB inner.src r.stop
  | .cached _ inner => inner.ReplDom
  | _ => True
def SrcList.ReplDoms : SrcList → Prop
  | .nil => True
  | .cons s r => s.ReplDom ∧ r.ReplDoms
end

mutual
theorem Src.srcC_eq : ∀ (s : Src), s.ReplDom → s.srcC = some s.src
  | .raw .. | .rawStr .. | .rawBuf .. | .orig .. | .sms .. => fun _ => rfl
  | .concat cs => SrcList.srcsC_eq cs
  | .replace inner rs => fun h => by
    rw [Src.srcC, Src.srcC_eq inner h.1]
    exact Chk.replaceSourceC_eq inner.src h.2.1 rs h.2.2
  | .cached _ inner => Src.srcC_eq inner
theorem SrcList.srcsC_eq : ∀ (l : SrcList), l.ReplDoms → l.srcsC = some l.srcs
  | .nil => fun _ => rfl
  | .cons s r => fun h => by
    rw [SrcList.srcsC, Src.srcC_eq s h.1, SrcList.srcsC_eq r h.2]
    rfl
end

mutual
def Src.SizeOK : Src → Prop
  | .raw _ _ lossy => lossy.length + 2 < 2 ^ 32
  | .rawStr t => t.length + 2 < 2 ^ 32
  | .rawBuf _ lossy => lossy.length + 2 < 2 ^ 32
  | .orig t _ => t.length + 1 < 2 ^ 32
  | .sms t _ map _ _ _ => t.length + 2 < 2 ^ 32 ∧ map.mappings.length + 1 < 2 ^ 32
  | .concat cs => cs.SizesOK
  | .replace inner _ => inner.SizeOK
  | .cached _ inner => inner.SizeOK
def SrcList.SizesOK : SrcList → Prop
  | .nil => True
  | .cons s r => s.SizeOK ∧ r.SizesOK
end

mutual
/-- no ConcatSource node of the tree overflows or saturates: at each one the checked stream (every `u32` addition of the
bookkeeping as a partial operation, the column sum saturating: fix F16) succeeds and is the model's unbounded stream
(`Src.noSat_normal` discharges this for trees honouring C02 below 2 GiB) -/
def Src.NoSat (o : Opts) : Src → Prop
  | .concat cs => cs.NoSats o ∧ Chk.concatStreamC o.final (cs.streams o []).1 = some (concatStream o.final (cs.streams o []).1)
      ∧ Chk.concatStreamS o.final (cs.streams o []).1 = concatStream o.final (cs.streams o []).1
  | .replace inner _ => inner.NoSat ⟨o.columns, false⟩
  | .cached _ inner => inner.NoSat o
  | _ => True
def SrcList.NoSats (o : Opts) : SrcList → Prop
  | .nil => True
  | .cons s r => s.NoSat o ∧ r.NoSats o
end

mutual
theorem Src.streamC_eq (ovf : Bool) : ∀ (s : Src) (o : Opts) (σ : Store), s.NoCached → s.SizeOK → s.NoSat o → s.streamC ovf o σ = some (s.stream o σ)
  | .raw _ _ t | .rawStr t | .rawBuf _ t => fun o _ _ h _ => by
    simp only [Src.streamC, Src.stream, Chk.streamRawC_total t o (Nat.lt_of_succ_lt h)]; rfl
  | .orig t name => fun o _ _ h _ => by
    simp only [Src.streamC, Src.stream, Chk.streamOriginalC_total t name o h]; rfl
  | .sms t name map origSrc inner remove => fun o _ _ h _ => by
    simp only [Src.streamC, Src.stream]
    cases inner with
    | some im => rfl
    | none => simp only [Chk.streamSMC_total t map o h.1 h.2]; rfl
  | .concat .nil => fun _ _ _ _ _ => by cases ovf <;> rfl
  | .concat (.cons s .nil) => fun o σ hn h hs => Src.streamC_eq ovf s o σ hn.1 h.1 hs.1.1
  | .concat (.cons s (.cons s2 rest)) => fun o σ hn h hs => by
    simp only [Src.streamC, Src.stream]
    rw [Src.streamC_eq ovf s o σ hn.1 h.1 hs.1.1]
    dsimp only
    rw [SrcList.streamsC_eq ovf (.cons s2 rest) o _ hn.2 h.2 hs.1.2]
    dsimp only
    -- the children's results do not depend on the store (no CachedSource), so the hypothesis about `[]` applies
    have hsat := hs.2
    rw [← (SrcList.streams_nc (.cons s (.cons s2 rest)) o σ hn).2] at hsat
    simp only [SrcList.streams] at hsat ⊢
    cases ovf
    · simp only [Bool.false_eq_true, if_false]; rw [hsat.2]; rfl
    · simp only [if_true]; rw [hsat.1]; rfl
  | .replace inner rs => fun o σ hn h hs => by
    rw [Src.streamC, Src.streamC_eq ovf inner ⟨o.columns, false⟩ σ hn h hs]
    rfl
  | .cached .. => fun _ _ hn => hn.elim
theorem SrcList.streamsC_eq (ovf : Bool) : ∀ (l : SrcList) (o : Opts) (σ : Store), l.NoCachedL → l.SizesOK → l.NoSats o → l.streamsC ovf o σ = some (l.streams o σ)
  | .nil => fun _ _ _ _ _ => rfl
  | .cons s rest => fun o σ hn h hs => by
    rw [SrcList.streamsC, Src.streamC_eq ovf s o σ hn.1 h.1 hs.1]
    dsimp only
    rw [SrcList.streamsC_eq ovf rest o _ hn.2 h.2 hs.2]
    rfl
end

mutual
/-- every ConcatSource node's text is below 2 GiB -/
def Src.HalfOK : Src → Prop
  | .concat cs => cs.HalfOKs ∧ 2 * cs.srcs.length + 2 < 2 ^ 32
  | .replace inner _ => inner.HalfOK
  | .cached _ inner => inner.HalfOK
  | _ => True
def SrcList.HalfOKs : SrcList → Prop
  | .nil => True
  | .cons s r => s.HalfOK ∧ r.HalfOKs
end

theorem Chk.sumText_eq : ∀ (rs : List SResult), Chk.sumText rs = ((rs.map fun r => evsText r.evs).flatten).length := by
  intro rs
  induction rs with
  | nil => rfl
  | cons r rs ih => simp only [Chk.sumText, List.map_cons, List.flatten_cons, List.length_append, ih]

mutual
/-- **normal mode, trees in the domain of C02** (no CachedSource, ASCII map-driven leaves with maps inside their text, each
ConcatSource below 2 GiB): no ConcatSource node saturates, so the repaired crate and the model stream alike -/
theorem Src.noSat_normal : ∀ (s : Src) (c : Bool), s.NoCached → s.WF → s.PosHyp c → s.HalfOK → s.NoSat ⟨c, false⟩
  | .raw .. | .rawStr .. | .rawBuf .. | .orig .. | .sms .. => fun _ _ _ _ _ => trivial
  | .concat cs => fun c hn hw hp hh => by
    refine ⟨SrcList.noSats_normal cs c hn hw hp hh.1, ?_⟩
    have hnodes := SrcList.nc_nodesL cs hn
    have hpos := SrcList.streams_posOK cs c [] hw hp (by simp [SrcList.idsL, hnodes]) (fun p hp => by rw [hnodes] at hp; cases hp)
    have htl := SrcList.streams_tl cs c []
    have hlen : 2 * Chk.sumText (cs.streams ⟨c, false⟩ []).1 + 2 < 2 ^ 32 := by
      rw [Chk.sumText_eq, SrcList.streams_text cs c [] hw]; exact hh.2
    exact ⟨Chk.concatStreamC_eq_of_posOK false _ (fun r hr => ⟨hpos r hr, htl r hr⟩) hlen,
      Chk.concatStreamS_eq_of_posOK false _ (fun r hr => ⟨hpos r hr, htl r hr⟩) (Nat.lt_of_add_right_lt hlen)⟩
  | .replace inner _ => fun c hn hw hp => Src.noSat_normal inner c hn hw.1 hp.1
  | .cached .. => fun _ hn => hn.elim
theorem SrcList.noSats_normal : ∀ (l : SrcList) (c : Bool), l.NoCachedL → l.WFs → l.PosHyps c → l.HalfOKs → l.NoSats ⟨c, false⟩
  | .nil => fun _ _ _ _ _ => trivial
  | .cons s r => fun c hn hw hp hh => ⟨Src.noSat_normal s c hn.1 hw.1 hp.1 hh.1, SrcList.noSats_normal r c hn.2 hw.2 hp.2 hh.2⟩
end

end Rs
