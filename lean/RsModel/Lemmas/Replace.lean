import RsModel.Spec.ReplRef
import RsModel.Lemmas.Text
/-! # ReplaceSource: sorting, the splice loop, history independence -/
namespace Rs

theorem Repl.le_trans (a b c : Repl) : a.le b = true → b.le c = true → a.le c = true := by
  simp only [Repl.le, Bool.or_eq_true, Bool.and_eq_true, decide_eq_true_eq, beq_iff_eq]
  omega

theorem Repl.le_total (a b : Repl) : (a.le b || b.le a) = true := by
  simp only [Repl.le, Bool.or_eq_true, Bool.and_eq_true, decide_eq_true_eq, beq_iff_eq]
  omega

theorem insertStable_spec (a : Repl) (l₁ l₂ : List Repl) (h1 : ∀ b ∈ l₁, (!a.le b) = true)
    (h2 : ∀ b ∈ l₂, a.le b = true) :
    sortRepls.insertSortedStable a (l₁ ++ l₂) = l₁ ++ a :: l₂ := by
  induction l₁ with
  | nil =>
    cases l₂ with
    | nil => rfl
    | cons x xs => simp [sortRepls.insertSortedStable, h2 x (by simp)]
  | cons x xs ih =>
    have hx : a.le x = false := by simpa using h1 x (by simp)
    simp only [List.cons_append, sortRepls.insertSortedStable, hx, Bool.false_eq_true, if_false]
    rw [ih (fun b hb => h1 b (by simp [hb]))]

/-- the crate's sort (stable, keyed by (start, end, enforce)) is Lean's stable merge sort -/
theorem sortRepls_eq_mergeSort (rs : List Repl) : sortRepls rs = rs.mergeSort Repl.le := by
  induction rs with
  | nil => simp [sortRepls]
  | cons a l ih =>
    obtain ⟨l₁, l₂, h1, h2, h3⟩ := List.mergeSort_cons Repl.le_trans Repl.le_total a l
    have hs := List.pairwise_mergeSort Repl.le_trans Repl.le_total (a :: l)
    rw [h1] at hs
    have h4 : ∀ b ∈ l₂, a.le b = true := by
      intro b hb
      have := (List.pairwise_append.mp hs).2.1
      exact (List.pairwise_cons.mp this).1 b hb
    show sortRepls.insertSortedStable a (sortRepls l) = _
    rw [ih, h2, h1]
    exact insertStable_spec a l₁ l₂ h3 h4

theorem mem_sortRepls (rs : List Repl) (r : Repl) : r ∈ sortRepls rs ↔ r ∈ rs := by
  rw [sortRepls_eq_mergeSort]
  exact (List.mergeSort_perm rs Repl.le).mem_iff

/-- the suffix formulation used by the implementation's loop equals the reference on absolute positions -/
theorem specGo_eq_applyGo (inner : Text) : ∀ (rs : List Repl) (pos : Nat), pos ≤ inner.length →
    specGo pos (inner.drop pos) rs = applyGo inner pos rs := by
  intro rs
  induction rs with
  | nil => intro pos _; rfl
  | cons r rs ih =>
    intro pos hpos
    obtain ⟨e2, e3⟩ := clamp_next inner pos (max pos r.stop) hpos (Nat.le_max_left _ _)
    rw [specGo, applyGo, e2, e3, ih _ (Nat.min_le_right _ _)]
    split
    · rw [take_min]
    · rw [Nat.sub_eq_zero_of_le (Nat.le_of_not_lt ‹_›)]; rfl

/-- without replacements the loop returns the text it is given, so the shortcut of `source()` is not a case apart -/
theorem replaceSource_eq (inner : Text) (rs : List Repl) : replaceSource inner rs = specGo 0 inner (sortRepls rs) := by
  cases rs <;> rfl

theorem replaceSource_eq_applyRepls (inner : Text) (rs : List Repl) :
    replaceSource inner rs = applyRepls inner rs := by
  rw [replaceSource_eq, applyRepls, ← sortRepls_eq_mergeSort]
  exact specGo_eq_applyGo inner _ 0 (Nat.zero_le _)

def histRepls (ops : List ROp) : List Repl := ops.filterMap ROp.repl?

/-- when the flag `is_sorted` is set, the sorted index is the sort of the present replacements -/
def RState.Inv (s : RState) : Prop := s.isSorted = true → s.sorted = sortRepls s.repls

theorem RState.inv_step (s : RState) (op : ROp) (h : s.Inv) : (s.step op).Inv := by
  cases op with
  | replace r => intro h2; simp [RState.step] at h2
  | observe =>
    show (s.sort).Inv
    unfold RState.sort
    by_cases hs : s.isSorted = true
    · simp only [hs, if_true]; exact h
    · simp only [hs, Bool.false_eq_true, if_false]; intro _; rfl
  | clone => exact h

theorem RState.repls_sort (s : RState) : s.sort.repls = s.repls := by
  unfold RState.sort; split <;> rfl

theorem RState.repls_step (s : RState) (op : ROp) :
    (s.step op).repls = s.repls ++ (match op.repl? with | some r => [r] | none => []) := by
  cases op with
  | replace r => simp [RState.step, ROp.repl?]
  | observe => simp [RState.step, ROp.repl?, RState.repls_sort]
  | clone => simp [RState.step, ROp.repl?]

theorem RState.run_inv (ops : List ROp) : ∀ s : RState, s.Inv →
    (ops.foldl RState.step s).Inv ∧ (ops.foldl RState.step s).repls = s.repls ++ histRepls ops := by
  induction ops with
  | nil => intro s h; exact ⟨h, by simp [histRepls]⟩
  | cons op ops ih =>
    intro s h
    obtain ⟨h1, h2⟩ := ih (s.step op) (s.inv_step op h)
    refine ⟨h1, ?_⟩
    rw [List.foldl_cons, h2, RState.repls_step]
    cases op <;> simp [histRepls, ROp.repl?, List.filterMap_cons]

theorem sortRepls_isEmpty (rs : List Repl) : (sortRepls rs).isEmpty = rs.isEmpty := by
  rw [sortRepls_eq_mergeSort]; exact (List.mergeSort_perm rs Repl.le).isEmpty_eq

theorem RState.source_of_inv (inner : Text) (s : RState) (h : s.Inv) :
    s.source inner = replaceSource inner s.repls := by
  have hs : s.sort.sorted = sortRepls s.repls := by
    unfold RState.sort
    split
    · exact h ‹_›
    · rfl
  rw [RState.source, hs, sortRepls_isEmpty, replaceSource]

end Rs
