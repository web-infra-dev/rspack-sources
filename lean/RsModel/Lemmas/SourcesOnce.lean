import RsModel.Lemmas.Tables
import RsModel.Lemmas.ProvOrigTree
/-!
# `sources` lists each file once

A ConcatSource announces a source only when its name is not yet a key of its name-keyed table, and then enters it: whatever its
children stream, every file name is announced at most once, and (the indices being dense: C11) the `sources` table of the
SourceMap built from the stream is exactly that list of announcements.
-/
namespace Rs

def KeysInv (acc : List Ev) (st : CSt) : Prop := st.sourceMapping = (annS acc).zipIdx ∧ (annS acc).Nodup

theorem KeysInv.keep {acc evs : List Ev} {st st' : CSt} (h : KeysInv acc st) (hs : st'.sourceMapping = st.sourceMapping)
    (ha : annS evs = []) : KeysInv (acc ++ evs) st' := by
  unfold KeysInv
  rw [annS_append, ha, List.append_nil, hs]
  exact h

theorem concatEv_keys (final : Bool) (e : Ev) (acc : List Ev) (st : CSt) (h : KeysInv acc st) :
    KeysInv (acc ++ (concatEv final st e).2) (concatEv final st e).1 := by
  cases e with
  | chunk t m => exact h.keep (by rw [concatEv_chunk]) (annS_chunks _ (concatEv_chunk_isChunk final st t m))
  | source i s c =>
    -- the table stays the announced names in their order (`globalSource_spec`); a miss says the name is not among them
    rw [concatEv_source, h.1]
    refine ⟨by rw [annS_append]; exact (globalSource_spec (annS acc) s c 0).1, ?_⟩
    rcases globalSource_cases (annS acc).zipIdx s c with ⟨g, _, hg⟩ | ⟨hn, hg⟩ <;> rw [hg, annS_append]
    · rw [annS, List.append_nil]; exact h.2
    · exact List.nodup_append.2 ⟨h.2, List.nodup_cons.2 ⟨List.not_mem_nil, List.nodup_nil⟩, fun a ha b hb => by
        rw [List.mem_singleton.1 hb]; rintro rfl; exact assoc_zipIdx_none hn ha⟩
  | name i n =>
    rw [concatEv_name]
    rcases globalName_cases st.nameMapping n with ⟨g, _, hg⟩ | ⟨_, hg⟩ <;> rw [hg] <;> exact h.keep rfl rfl

theorem concatChild_keys (final : Bool) (c : SResult) (acc : List Ev) (st : CSt) (h : KeysInv acc st) :
    KeysInv (acc ++ (concatChild final st c).2) (concatChild final st c).1 :=
  concatChild_walk final (Inv := fun _ => KeysInv) c (fun _ _ h => h) (fun e _ => concatEv_keys final e)
    (fun _ st h => h.keep rfl (annS_chunks _ (st.pending_isChunk _))) acc st h

/-- **ConcatSource announces every file name at most once**, whatever its children stream -/
theorem concatStream_annS_nodup (final : Bool) (cs : List SResult) : (annS (concatStream final cs).evs).Nodup :=
  (concatGo_walk final (Out := fun _ => KeysInv) (fun c _ => concatChild_keys final c) cs [] {} ⟨rfl, List.nodup_nil⟩).2

theorem annS_rEvs : ∀ (evs : List Ev) (st : RSt), annS (rEvs st evs).2 = annS evs := by
  intro evs
  induction evs with
  | nil => intro st; rfl
  | cons e es ih =>
    intro st
    simp only [rEvs, annS_append]
    cases e with
    | chunk t m => simp only [rEv, annS]; rw [annS_noSrc _ (rOnChunk_noSrc _ _ _)]; exact ih _
    | name i n => simp only [rEv, annS]; rw [annS_noSrc _ (globalName_noSrc _ _)]; exact ih _
    | source i s c => simp only [rEv, annS]; rw [ih]; rfl

theorem annS_replaceStream (sorted : List Repl) (inner : SResult) : annS (replaceStream sorted inner).evs = annS inner.evs := by
  simp only [replaceStream, annS_append, annS_rEvs]
  rw [annS_noSrc _ (rRemainder_unmapped _ _ _ _).2, List.append_nil]

theorem mapAcc_sources_annS : ∀ (evs : List Ev) (ns nn : Nat) (a : MapAcc), DeclOK ns nn evs → a.sources.length = ns →
    (evs.foldl mapAccEv a).sources = a.sources ++ annS evs := by
  intro evs
  induction evs with
  | nil => intro ns nn a _ _; simp [annS]
  | cons e es ih =>
    intro ns nn a hd hl
    rw [List.foldl_cons]
    cases e with
    | chunk t m => simp only [annS]; exact ih ns nn _ hd.2 (by simpa [mapAccEv] using hl)
    | name i n => simp only [annS]; exact ih ns (nn + 1) _ (by obtain ⟨_, h2⟩ := hd; exact h2) (by simpa [mapAccEv] using hl)
    | source i s c =>
      obtain ⟨rfl, hd2⟩ := hd
      simp only [annS]
      have hs : (mapAccEv a (.source i s c)).sources = a.sources ++ [s] := by
        simp only [mapAccEv]; rw [← hl]; exact tblSet_next _ _
      rw [ih (i + 1) nn _ hd2 (by rw [hs]; simp [hl]), hs, List.append_assoc]
      rfl

theorem annS_chunkOrigs (P : Orig → Prop) (evs : List Ev) (h : ChunkOrigs P evs) : annS evs = [] :=
  annS_chunks evs fun e he => by obtain ⟨_, _, rfl, _⟩ := h e he; rfl

theorem streamRaw_annS (t : Text) (o : Opts) : annS (streamRaw t o).evs = [] :=
  annS_chunkOrigs (fun _ => True) _ (streamRaw_origs _ t o)

theorem streamOriginal_annS (t name : Text) (o : Opts) : annS (streamOriginal t name o).evs = [name] := by
  obtain ⟨body, he, hb⟩ := streamOriginal_evs t name o
  rw [he]
  exact congrArg (name :: ·) (annS_chunkOrigs _ body hb)

theorem Src.origTree_annS_nodup : ∀ (s : Src) (o : Opts) (σ : Store), s.OrigTree → (annS (s.stream o σ).1.evs).Nodup :=
  Src.stream_induct Src.OrigTree.hereditary (.all (R := fun _ r => (annS r.evs).Nodup)
    (fun t o => by rw [streamRaw_annS]; exact List.nodup_nil)
    (fun t name o _ => by rw [streamOriginal_annS]; exact List.nodup_cons.2 ⟨List.not_mem_nil, List.nodup_nil⟩)
    (fun _ _ _ _ _ _ h => h.elim) (fun _ _ _ _ _ _ _ h => h.elim)
    (fun _ o rs _ _ => concatStream_annS_nodup o.final rs)
    (fun _ _ _ _ h => h.elim) (fun _ _ _ _ h => h.elim))

theorem replace_origTree_annS_nodup (inner : Src) (rs : List Repl) (o : Opts) (σ : Store) (h : inner.OrigTree) :
    (annS ((Src.replace inner rs).stream o σ).1.evs).Nodup := by
  simp only [Src.stream]
  rw [annS_replaceStream]
  exact Src.origTree_annS_nodup inner _ σ h

end Rs
