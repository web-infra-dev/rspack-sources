import RsModel.Lemmas.Rope
import RsModel.Lemmas.Text
/-!
# Rope: positions

A place in a multi-piece rope has two addresses: its offset `p` in the flat string, and the pair (piece `k`, offset `j` inside
that piece).  `At ps k j p` relates the two.  The binary searches return such positions (RopeSearch), `get_byte` and `byte_slice`
read and cut at them (RopeSlice), the `Lines` iterator walks along them (RopeLines).  What an operation does to one piece in the
piece's own coordinates is what it does to the flat string in the flat coordinates: `At.getElem?`, `At.bsub`, `At.drop`, and, for
pieces that are `&str`s (`PiecesOK`), `At.isBoundary`, `At.bget`: in a `&str` a char boundary is an offset from which the
rest of the text is a `&str` again (`isBoundary_eq`), and the rest of the flat string begins with the rest of the piece.
Piece `k` begins at offset `total (ps.take k)`; under the invariant that is its recorded offset (`At.get`).
-/
namespace Rs
namespace Rope

theorem total_take_le_total (ps : List (Text × Nat)) (k : Nat) : total (ps.take k) ≤ total ps :=
  Nat.le.intro ((total_append _ _).symm.trans (congrArg total (List.take_append_drop k ps)))

theorem total_take_le (ps : List (Text × Nat)) (a b : Nat) (h : a ≤ b) : total (ps.take a) ≤ total (ps.take b) := by
  have := total_take_le_total (ps.take b) a
  rwa [List.take_take, Nat.min_eq_left h] at this

theorem total_take_succ (ps : List (Text × Nat)) (k : Nat) (hk : k < ps.length) :
    total (ps.take (k + 1)) = total (ps.take k) + (ps.getD k default).1.length := by
  rw [List.take_add_one, total_append]
  simp [total, List.getD_eq_getElem?_getD, List.getElem?_eq_getElem hk]

theorem total_take_all (ps : List (Text × Nat)) (k : Nat) (hk : ps.length ≤ k) : total (ps.take k) = total ps := by
  rw [List.take_of_length_le hk]

theorem start_eq (ps : List (Text × Nat)) (h : OffsOK 0 ps) (k : Nat) (hk : k < ps.length) :
    (ps.getD k default).2 = total (ps.take k) := by
  have h' := ((offsOK_append 0 (ps.take k) (ps.drop k)).1 (by rwa [List.take_append_drop])).2
  rw [List.drop_eq_getElem_cons hk, Nat.zero_add] at h'
  rw [List.getD_eq_getElem?_getD, List.getElem?_eq_getElem hk]
  exact h'.1

theorem total_eq_flat_length (ps : List (Text × Nat)) : total ps = (flat ps).length := (flat_length ps).symm

theorem flat_drop_all (ps : List (Text × Nat)) (n : Nat) (h : total ps ≤ n) : (flat ps).drop n = [] :=
  List.drop_eq_nil_of_le (flat_length ps ▸ h)

theorem flat_split (ps : List (Text × Nat)) (k : Nat) (hk : k < ps.length) :
    flat ps = flat (ps.take k) ++ (ps.getD k default).1 ++ flat (ps.drop (k + 1)) := by
  conv => lhs; rw [← List.take_append_drop k ps]
  rw [flat_append, List.drop_eq_getElem_cons hk]
  simp only [flat, List.map_cons, List.flatten_cons, List.getD_eq_getElem?_getD, List.getElem?_eq_getElem hk, Option.getD_some,
    List.append_assoc]

theorem getElem?_getD (ps : List (Text × Nat)) (i : Nat) (hi : i < ps.length) : ps[i]? = some (ps.getD i default) := by
  simp [List.getD_eq_getElem?_getD, List.getElem?_eq_getElem hi]

/-- a piece is a `&str`: it does not begin inside a character (`startsOK` of SMText says the same of a line, as a `Prop`) -/
def pieceOK (c : Text) : Bool := match c with | [] => true | b :: _ => !isCont b

def PiecesOK (ps : List (Text × Nat)) : Prop := ∀ p ∈ ps, pieceOK p.1 = true

theorem piecesOK_nil : PiecesOK [] := fun _ h => nomatch h

theorem piecesOK_cons (p : Text × Nat) (ps : List (Text × Nat)) : PiecesOK (p :: ps) ↔ pieceOK p.1 = true ∧ PiecesOK ps :=
  List.forall_mem_cons

theorem piecesOK_getD (ps : List (Text × Nat)) (hp : PiecesOK ps) (i : Nat) (hi : i < ps.length) :
    pieceOK (ps.getD i default).1 = true := by
  rw [List.getD_eq_getElem?_getD, List.getElem?_eq_getElem hi]; exact hp _ (List.getElem_mem hi)

theorem pieceOK_append_eq (x y : Text) (hy : pieceOK y = true) : pieceOK (x ++ y) = pieceOK x := by
  cases x with
  | nil => exact hy
  | cons b bs => rfl

theorem pieceOK_flat : ∀ (ps : List (Text × Nat)), PiecesOK ps → pieceOK (flat ps) = true := by
  intro ps
  induction ps with
  | nil => intro _; rfl
  | cons p rest ih =>
    intro h
    obtain ⟨hp, h'⟩ := (piecesOK_cons p rest).1 h
    rw [show flat (p :: rest) = p.1 ++ flat rest from flat_cons p.1 p.2 rest, pieceOK_append_eq _ _ (ih h')]
    exact hp

theorem isBoundary_eq (t : Text) (i : Nat) (h : pieceOK t = true) :
    isBoundary t i = (decide (i ≤ t.length) && pieceOK (t.drop i)) := by
  unfold isBoundary
  split
  · next h0 => subst h0; exact h.symm
  · cases hi : t[i]? with
    | none =>
      have hl := List.getElem?_eq_none_iff.1 hi
      rw [List.drop_eq_nil_of_le hl]
      exact (decide_eq_decide.2 ⟨Nat.le_of_eq, (Nat.le_antisymm · hl)⟩).trans (Bool.and_true _).symm
    | some b =>
      obtain ⟨hl, rfl⟩ := List.getElem?_eq_some_iff.1 hi
      rw [List.drop_eq_getElem_cons hl, decide_eq_true (Nat.le_of_lt hl)]
      rfl

theorem pieceOK_drop (c : Text) (q : Nat) (h : pieceOK c = true) (hb : isBoundary c q = true) : pieceOK (c.drop q) = true :=
  (Bool.and_eq_true_iff.1 ((isBoundary_eq c q h).symm.trans hb)).2

/-- what follows a piece border is the later pieces -/
theorem pieceOK_border (ps : List (Text × Nat)) (hp : PiecesOK ps) (j : Nat) :
    pieceOK ((flat ps).drop (total (ps.take j))) = true := by
  have e : flat ps = flat (ps.take j) ++ flat (ps.drop j) := by rw [← flat_append, List.take_append_drop]
  rw [e, ← flat_length, List.drop_left]
  exact pieceOK_flat _ fun q hq => hp q (List.mem_of_mem_drop hq)

theorem isBoundary_border (ps : List (Text × Nat)) (hp : PiecesOK ps) (j : Nat) :
    isBoundary (flat ps) (total (ps.take j)) = true := by
  rw [isBoundary_eq _ _ (pieceOK_flat ps hp), pieceOK_border ps hp, flat_length, decide_eq_true (total_take_le_total ps j)]
  rfl

theorem pieceOK_take (c : Text) (n : Nat) (h : pieceOK c = true) : pieceOK (c.take n) = true := by
  cases c with
  | nil => simp [pieceOK]
  | cons x xs =>
    cases n with
    | zero => rfl
    | succ n => simpa [pieceOK] using h

theorem pieceOK_bsub (c : Text) (a b : Nat) (h : pieceOK c = true) (hb : isBoundary c a = true) : pieceOK (bsub c a b) = true :=
  pieceOK_take _ _ (pieceOK_drop c a h hb)

/-- Offset `p` of the flat string lies in piece `k`, `j` bytes into it.  `j` may be the length of the piece: the end of a piece
and the start of the next are one offset, seen from two pieces (`At.next`). -/
structure At (ps : List (Text × Nat)) (k j p : Nat) : Prop where
  idx : k < ps.length
  inb : j ≤ (ps.getD k default).1.length
  off : p = total (ps.take k) + j

namespace At
variable {ps : List (Text × Nat)} {k j p j' p' : Nat}

theorem start (hk : k < ps.length) : At ps k 0 (total (ps.take k)) := ⟨hk, Nat.zero_le _, rfl⟩

theorem of_bounds (hk : k < ps.length) (h1 : total (ps.take k) ≤ p) (h2 : p ≤ total (ps.take (k + 1))) :
    At ps k (p - total (ps.take k)) p :=
  ⟨hk, Nat.sub_le_iff_le_add'.2 (total_take_succ ps k hk ▸ h2), (Nat.add_sub_cancel' h1).symm⟩

theorem stop (hk : k < ps.length) : At ps k (ps.getD k default).1.length (total (ps.take (k + 1))) :=
  ⟨hk, Nat.le_refl _, total_take_succ ps k hk⟩

theorem next (h : At ps k (ps.getD k default).1.length p) (hk : k + 1 < ps.length) : At ps (k + 1) 0 p :=
  ⟨hk, Nat.zero_le _, h.off.trans (total_take_succ ps k h.idx).symm⟩

theorem move (h : At ps k j p) {n : Nat} (hn : j + n ≤ (ps.getD k default).1.length) : At ps k (j + n) (p + n) :=
  ⟨h.idx, hn, by rw [h.off, Nat.add_assoc]⟩

theorem sub (h : At ps k j p) : p - total (ps.take k) = j := by rw [h.off, Nat.add_sub_cancel_left]

theorem le_stop (h : At ps k j p) : p ≤ total (ps.take (k + 1)) := by
  rw [h.off, total_take_succ ps k h.idx]; exact Nat.add_le_add_left h.inb _

theorem start_le (h : At ps k j p) {i : Nat} (hi : i ≤ k) : total (ps.take i) ≤ p :=
  h.off ▸ Nat.le_trans (total_take_le ps i k hi) (Nat.le_add_right _ _)

theorem le_total (h : At ps k j p) : p ≤ total ps := Nat.le_trans h.le_stop (total_take_le_total ps (k + 1))

theorem get (hoff : OffsOK 0 ps) (h : At ps k j p) : ps[k]? = some ((ps.getD k default).1, total (ps.take k)) := by
  rw [getElem?_getD ps k h.idx, ← start_eq ps hoff k h.idx]

theorem getElem? (h : At ps k j p) (hj : j < (ps.getD k default).1.length) : (flat ps)[p]? = (ps.getD k default).1[j]? := by
  rw [h.off, ← flat_length (ps.take k), flat_split ps k h.idx, List.append_assoc,
    List.getElem?_append_right (Nat.le_add_right _ _), Nat.add_sub_cancel_left, List.getElem?_append_left hj]

theorem bsub (h : At ps k j p) (h' : At ps k j' p') (hjj : j ≤ j') :
    bsub (flat ps) p p' = Rs.bsub (ps.getD k default).1 j j' := by
  rw [h.off, h'.off, ← flat_length (ps.take k), flat_split ps k h.idx,
    bsub_mid _ _ _ _ _ (Nat.le_add_right _ _) (Nat.add_le_add_left hjj _) (Nat.add_le_add_left h'.inb _),
    Nat.add_sub_cancel_left, Nat.add_sub_cancel_left]

theorem drop (h : At ps k j p) :
    (flat ps).drop p = (ps.getD k default).1.drop j ++ (flat ps).drop (total (ps.take (k + 1))) := by
  rw [← bsub_append_drop (flat ps) p _ h.le_stop, h.bsub (stop h.idx) h.inb, bsub_to_end]

theorem isBoundary (hp : PiecesOK ps) (h : At ps k j p) : isBoundary (ps.getD k default).1 j = Rs.isBoundary (flat ps) p := by
  -- what follows the position in its piece begins a char exactly when what follows it in the flat string does
  rw [isBoundary_eq _ _ (piecesOK_getD ps hp k h.idx), isBoundary_eq _ _ (pieceOK_flat ps hp), h.drop,
    pieceOK_append_eq _ _ (pieceOK_border ps hp (k + 1)), decide_eq_true h.inb, flat_length, decide_eq_true h.le_total]

theorem bget (hp : PiecesOK ps) (h : At ps k j p) (h' : At ps k j' p') (hjj : j ≤ j') :
    bget (ps.getD k default).1 j j'
      = if Rs.isBoundary (flat ps) p && Rs.isBoundary (flat ps) p' then some (Rs.bsub (flat ps) p p') else none := by
  rw [bget_eq _ _ _ hjj h'.inb, h.isBoundary hp, h'.isBoundary hp, h.bsub h' hjj]

theorem bget_from (hp : PiecesOK ps) (h : At ps k j p) :
    Rs.bget (ps.getD k default).1 j (ps.getD k default).1.length
      = if Rs.isBoundary (flat ps) p then some (Rs.bsub (flat ps) p (total (ps.take (k + 1)))) else none := by
  rw [h.bget hp (stop h.idx) h.inb, isBoundary_border ps hp (k + 1), Bool.and_true]

theorem bget_to (hp : PiecesOK ps) (h : At ps k j p) :
    Rs.bget (ps.getD k default).1 0 j
      = if Rs.isBoundary (flat ps) p then some (Rs.bsub (flat ps) (total (ps.take k)) p) else none := by
  rw [(start h.idx).bget hp h (Nat.zero_le _), isBoundary_border ps hp k, Bool.true_and]

end At

theorem bsub_piece_cons (ps : List (Text × Nat)) (i b : Nat) (hi : i < ps.length) (hb : total (ps.take (i + 1)) ≤ b) :
    bsub (flat ps) (total (ps.take i)) b = (ps.getD i default).1 ++ bsub (flat ps) (total (ps.take (i + 1))) b := by
  rw [bsub_split (flat ps) _ _ b (total_take_le ps _ _ (Nat.le_succ i)) hb, (At.start hi).bsub (At.stop hi) (Nat.zero_le _),
    bsub_whole]

end Rope
end Rs
