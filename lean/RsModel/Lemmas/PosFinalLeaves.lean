import RsModel.Lemmas.PosFinal
/-!
# C02, text-less mode, for the leaves (`FinOK`)

A leaf that reports lines reports starts of lines of its text (`mappedLines_pos`).  An OriginalSource with columns reports, token by
token, places where its normal stream has a chunk (`origTok_fin`), and that stream reports true positions.  The text-less splitter
with columns reports the segments of the map that lie before the end of the text: positions of the text when it is ASCII and the
map lies inside it (`isPos_inside`).  The combinator reports what the stream beneath it reports (`streamCombined_finOK`).
-/
namespace Rs

theorem streamRaw_finOK (t : Text) (c : Bool) : FinOK t (streamRaw t ⟨c, true⟩) := by
  simp only [streamRaw, if_true]
  exact ⟨fun k hk => by simp [evsKeys] at hk, genInfo_adv t⟩

theorem origTok_fin : ∀ (toks : List Text) (l c : Nat),
    (origTokChunks true l c toks).2 = (origTokChunks false l c toks).2
    ∧ ∀ k ∈ evsKeys (origTokChunks true l c toks).1, ∃ k' ∈ evsKeys (origTokChunks false l c toks).1, k'.2 = k.2 := by
  intro toks
  induction toks with
  | nil => intro l c; exact ⟨rfl, fun k hk => by simp [origTokChunks, evsKeys] at hk⟩
  | cons tok toks ih =>
    intro l c
    simp only [origTokChunks, if_true, Bool.false_eq_true, if_false]
    -- both modes go on from the same place
    obtain ⟨l', c', hr⟩ : ∃ l' c', ∀ f, (if endsWithNL tok then origTokChunks f (l + 1) 0 toks
        else origTokChunks f l (c + tok.length) toks) = origTokChunks f l' c' toks := by
      split
      · exact ⟨_, _, fun _ => rfl⟩
      · exact ⟨_, _, fun _ => rfl⟩
    rw [hr true, hr false, evsKeys_append, evsKeys_append]
    obtain ⟨i1, i2⟩ := ih l' c'
    refine ⟨i1, fun k hk => ?_⟩
    rcases List.mem_append.1 hk with hk | hk
    · -- the token's own chunk, if final mode has one, stands where the normal-mode chunk stands
      refine ⟨(some tok, l, c), List.mem_append_left _ (by split <;> exact List.mem_singleton_self _), ?_⟩
      split at hk
      · cases hk
      · cases List.mem_singleton.1 hk; rfl
    · obtain ⟨k', h1, h2⟩ := i2 k hk
      exact ⟨k', List.mem_append_right _ h1, h2⟩

theorem mappedLines_pos (t : Text) (g : Nat → Option Orig) (n : Nat) (hn : n ≤ (splitLines t).length) :
    ∀ k ∈ evsKeys (mappedLines g 1 n), IsPos t ⟨k.2.1, k.2.2⟩ := by
  intro k hk
  obtain ⟨e, he, hek⟩ := List.mem_filterMap.1 hk
  obtain ⟨l, o, h1, h2, _, rfl⟩ := mappedLines_mem he
  cases hek
  exact isPos_line_start t l h1 (by omega)

theorem streamOriginal_finOK (t name : Text) (c : Bool) : FinOK t (streamOriginal t name ⟨c, true⟩) := by
  cases c
  · simp only [streamOriginal, Bool.false_eq_true, if_false, if_true, origFinalLines_eq]
    have hfl := finalLine_le t
    split
    · rename_i h0
      rw [if_pos h0] at hfl
      exact ⟨mappedLines_pos t _ _ hfl, genInfo_adv t⟩
    · rename_i h0
      rw [if_neg h0] at hfl
      exact ⟨mappedLines_pos t _ _ hfl, genInfo_adv t⟩
  · have hn := finOK_of_posOK _ (streamOriginal_posOK t name true) (streamOriginal_tl t name true)
    rw [streamOriginal_text] at hn
    apply finOK_sub t _ _ hn
    · simp only [streamOriginal, if_true]; exact (origTok_fin _ _ _).1
    · simp only [streamOriginal, if_true]; exact (origTok_fin _ _ _).2

theorem isPos_inside (t : Text) (ha : IsAscii t) (hl : t.length ≤ USIZE_MAX) (m : Mapping) (hin : Inside (splitLines t) m)
    (hlen : m.gl ≤ (splitLines t).length) : IsPos t ⟨m.gl, m.gc⟩ := by
  have E := env_of_ascii t ha hl
  -- the text emitted before the place is a prefix of the text, and ends at the place
  have hr := flatten_split (splitLines t) (m.gl - 1) (cpos (lineAt (splitLines t) m.gl) m.gc)
  rw [splitLines_join] at hr
  rw [hr, ← valid_pos (splitLines t) E.ls E.ascii m.gl m.gc hin.1 hlen (hin.2 hlen)]
  exact isPos_prefix _ _

/-- a segment that passes the test of `smFinalGo` (it lies before the end of the text) lies on one of the lines -/
theorem before_end_line (t : Text) (m : Mapping)
    (h : (!(m.gl ≥ (genInfo t).line && (m.gc ≥ (genInfo t).col || m.gl > (genInfo t).line))) = true) : m.gl ≤ (splitLines t).length := by
  have hfl := finalLine_le t
  simp only [ge_iff_le, gt_iff_lt, Bool.not_eq_true', Bool.and_eq_false_iff, Bool.or_eq_false_iff, decide_eq_false_iff_not] at h
  split at hfl
  · rename_i h0
    have := beq_iff_eq.1 h0
    omega
  · omega

theorem streamSMFinal_finOK (t : Text) (sm : SMap) (ha : IsAscii t) (hl : t.length ≤ USIZE_MAX) (hm : MapInside t sm) :
    FinOK t (streamSMFinal t sm) := by
  unfold streamSMFinal
  dsimp only
  split
  · exact ⟨fun k hk => by simp [evsKeys] at hk, genInfo_adv t⟩
  · refine ⟨fun k hk => ?_, genInfo_adv t⟩
    rw [evsKeys_append, evsKeys_append, evsKeys_noChunk (smSourceEvs_noChunk sm), evsKeys_noChunk (smNameEvs_noChunk sm)] at hk
    obtain ⟨e, he, hek⟩ := List.mem_filterMap.1 hk
    obtain ⟨m, hmem, rfl, hcond⟩ := smFinalGo_mem he
    cases hek
    exact isPos_inside t ha hl m (hm m hmem) (before_end_line t m hcond)

theorem streamSMLinesFinal_finOK (t : Text) (sm : SMap) : FinOK t (streamSMLinesFinal t sm) := by
  unfold streamSMLinesFinal
  dsimp only
  split
  · rename_i h
    refine ⟨fun k hk => by simp [evsKeys] at hk, ?_⟩
    rw [← genInfo_adv]
    simp only [Bool.and_eq_true, beq_iff_eq] at h
    cases hg : genInfo t with
    | mk l c => rw [hg] at h; simp only at h; rw [h.1, h.2]
  · refine ⟨fun k hk => ?_, genInfo_adv t⟩
    rw [evsKeys_append, evsKeys_noChunk (smSourceEvs_noChunk sm), smLinesFinalGo_eq, Nat.add_sub_cancel] at hk
    exact mappedLines_pos t _ _ (finalLine_le t) k hk

theorem streamSM_finOK (t : Text) (sm : SMap) (c : Bool) (ha : IsAscii t) (hl : t.length ≤ USIZE_MAX) (hm : c = true → MapInside t sm) :
    FinOK t (streamSM t sm ⟨c, true⟩) := by
  cases c
  · exact streamSMLinesFinal_finOK t sm
  · exact streamSMFinal_finOK t sm ha hl (hm rfl)

theorem streamCombined_finOK (t : Text) (sm : SMap) (n : Text) (os : Option Text) (im : SMap) (rm : Bool) (c : Bool)
    (h : FinOK t (streamSM t sm ⟨c, true⟩)) : FinOK t (streamCombined t sm n os im rm ⟨c, true⟩) := by
  refine ⟨fun k hk => ?_, ?_⟩
  · simp only [streamCombined] at hk
    rw [combFold_keys] at hk
    exact h.1 k hk
  · simpa [streamCombined] using h.2

end Rs
