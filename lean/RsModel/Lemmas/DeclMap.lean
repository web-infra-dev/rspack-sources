import RsModel.Lemmas.AttrConcat
import RsModel.Lemmas.Replay
/-!
# C11, map clause: every index of the produced map lies inside its tables

The fold of `get_map` (`mapAccEv`) over a stream that announces every index before use, densely from zero, builds the tables a
consumer of that stream ends with (`mapAcc_tblRelF`: file names and names; `MapTables` adds the contents), and every chunk uses
announced indices only (`declOK_chunkMs`).
-/
namespace Rs

theorem tblSet_next (tbl : List Text) (v : Text) : tblSet tbl tbl.length v = tbl ++ [v] := lmInsert_at_length [] tbl v

/-- the accumulator of `get_map` against the tables `S` / `N` a consumer of the stream keeps, file names and names: below `ns` / `nn`
its lists hold what the tables hold -/
def TblRelF (a : MapAcc) (S : SrcTbl) (N : NameTbl) (ns nn : Nat) : Prop :=
  a.sources.length = ns ∧ a.names.length = nn
  ∧ (∀ i, i < ns → (S i).map (·.1) = a.sources[i]?)
  ∧ (∀ i, i < nn → N i = a.names[i]?)

theorem upd_mirror {α β} (f : α → β) (T : Nat → Option α) (l : List β) (v : α)
    (h : ∀ i, i < l.length → (T i).map f = l[i]?) : ∀ i, i < l.length + 1 → ((upd T l.length v) i).map f = (l ++ [f v])[i]? := by
  intro i hi
  unfold upd
  split
  · rename_i hi'
    rw [hi']
    exact List.getElem?_concat_length.symm
  · rw [h i (by omega), List.getElem?_append_left (by omega)]

/-- an announcement carries the next index (`DeclOK`), so the fold appends it to its list where the consumer enters it in its table -/
theorem mapAcc_tblRelF : ∀ (evs : List Ev) (ns nn : Nat) (a : MapAcc) (S : SrcTbl) (N : NameTbl), DeclOK ns nn evs →
    TblRelF a S N ns nn → TblRelF (evs.foldl mapAccEv a) (tblS S evs) (tblN N evs) (ns + cntS evs) (nn + cntN evs) := by
  intro evs
  induction evs with
  | nil => intro ns nn a S N _ h; exact h
  | cons e es ih =>
    intro ns nn a S N hd h
    rw [List.foldl_cons]
    obtain ⟨h1, h3, h4, h5⟩ := h
    cases e with
    | chunk t m => exact ih ns nn (mapAccEv a (.chunk t m)) S N hd.2 ⟨h1, h3, h4, h5⟩
    | source k s c =>
      obtain ⟨hk, hr⟩ := hd
      have ek : k = a.sources.length := by omega
      subst h1 ek
      have := ih (a.sources.length + 1) nn (mapAccEv a (.source a.sources.length s c)) (upd S a.sources.length (s, c)) N hr
        ⟨by simp only [mapAccEv, tblSet_next, List.length_append, List.length_singleton], h3,
          by simp only [mapAccEv, tblSet_next]; exact upd_mirror (·.1) S a.sources (s, c) h4, h5⟩
      rw [Nat.add_right_comm] at this
      exact this
    | name k n =>
      obtain ⟨hk, hr⟩ := hd
      have ek : k = a.names.length := by omega
      subst h3 ek
      have := ih ns (a.names.length + 1) (mapAccEv a (.name a.names.length n)) S (upd N a.names.length n) hr
        ⟨h1, by simp only [mapAccEv, tblSet_next, List.length_append, List.length_singleton], h4,
          by simpa only [mapAccEv, tblSet_next, Option.map_id_fun, id_eq] using upd_mirror id N a.names n (by simpa only [Option.map_id_fun, id_eq] using h5)⟩
      rw [Nat.add_right_comm] at this
      exact this

/-- from the empty accumulator: the map's `sources` / `names` are the tables the stream ends with -/
theorem mapAcc_tblRelF_empty (evs : List Ev) (hd : DeclOK 0 0 evs) :
    TblRelF (evs.foldl mapAccEv {}) (tblS emptyS evs) (tblN emptyN evs) (cntS evs) (cntN evs) := by
  have := mapAcc_tblRelF evs 0 0 {} emptyS emptyN hd ⟨rfl, rfl, fun _ h => absurd h (Nat.not_lt_zero _), fun _ h => absurd h (Nat.not_lt_zero _)⟩
  rwa [Nat.zero_add, Nat.zero_add] at this

/-- the lengths alone, whatever tables the accumulator is read against -/
theorem mapAcc_tables : ∀ (evs : List Ev) (ns nn : Nat) (a : MapAcc), DeclOK ns nn evs → a.sources.length = ns → a.names.length = nn →
    (evs.foldl mapAccEv a).sources.length = ns + cntS evs ∧ (evs.foldl mapAccEv a).names.length = nn + cntN evs :=
  fun evs ns nn a hd h1 h2 =>
    have h := mapAcc_tblRelF evs ns nn a (fun i => (a.sources[i]?).map (·, none)) (fun i => a.names[i]?) hd
      ⟨h1, h2, fun i _ => by dsimp only; cases a.sources[i]? <;> rfl, fun _ _ => rfl⟩
    ⟨h.1, h.2.1⟩

theorem declOK_chunkMs (evs : List Ev) (ns nn : Nat) (hd : DeclOK ns nn evs) :
    ∀ m ∈ chunkMs evs, ∀ o, m.orig = some o → IdxLt (ns + cntS evs) (nn + cntN evs) o := by
  intro m hm o ho
  -- a chunk uses what is announced before it, and that is counted in the whole
  obtain ⟨t, ht⟩ := chunk_of_mem_chunkMs evs m hm
  obtain ⟨a, b, rfl⟩ := List.append_of_mem ht
  obtain ⟨h1, h2⟩ := ((declOK_append a _ ns nn).1 hd).2.1 o ho
  rw [cntS_append, cntN_append]
  exact ⟨by omega, fun k hk => by have := h2 k hk; omega⟩

/-- every chunk of a stream has its indices inside the tables of the map built from it -/
theorem mapOfEvs_idxLt (c : Bool) (evs : List Ev) (hd : DeclOK 0 0 evs) (sm : SMap) (h : mapOfEvs c evs = some sm) :
    ∀ m ∈ chunkMs evs, ∀ o, m.orig = some o → IdxLt sm.sources.length sm.names.length o := by
  obtain ⟨_, e1, _, e2, _⟩ := mapOfEvs_some c evs sm h
  obtain ⟨t1, t2⟩ := mapAcc_tables evs 0 0 {} hd rfl rfl
  intro m hm o ho
  have := declOK_chunkMs evs 0 0 hd m hm o ho
  rwa [← t1, ← t2, ← e1, ← e2] at this

theorem mapOfEvs_idxOK (evs : List Ev) (hd : DeclOK 0 0 evs) (hs : ∀ m ∈ chunkMs evs, m.small) (hl : linesOK 1 (chunkMs evs))
    (sm : SMap) (h : mapOfEvs true evs = some sm) : MapIdxOK sm := by
  intro m hmem o ho
  rw [mapOfEvs_mappings evs sm h, decode_encode _ hs hl] at hmem
  exact mapOfEvs_idxLt true evs hd sm h m ((keptFrom_sublist _ _).subset hmem) o ho

end Rs
