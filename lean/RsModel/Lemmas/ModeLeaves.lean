import RsModel.Lemmas.PosFinal
import RsModel.Lemmas.Replay
import RsModel.Lemmas.ChunksTok
/-!
# final_source mode attributes like normal mode: the leaves (columns = true)

For every position of a character of the text, the lookup ("last chunk mapping on that line at or before the column") in the
chunk mappings of the text-less stream gives the same original location as in the chunk mappings of the normal stream (`LookEq`).
The text-less OriginalSource and SourceMapSource streams deliver `thin` of a list whose lookups are known (the normal stream's
chunk mappings, `origTok_thin`; the map's segments before the end of the text, `streamSMFinal_ms`), and `thin` changes no lookup
(`thin_look`).  Being selections of sorted lists, they are sorted (`streamOriginal_final_sorted`, `streamSM_final_sorted`).
What the composite nodes ask of a child besides: a normal stream answers at every character of its text (`tiles_of_posOK`), and
`declsOf`, the announcements of a stream.
-/
namespace Rs

def LookEq (T : Text) (A B : List Mapping) : Prop :=
  ∀ j, j < T.length → lookupCols A (adv startPos (T.take j)).line (adv startPos (T.take j)).col
      = lookupCols B (adv startPos (T.take j)).line (adv startPos (T.take j)).col

theorem attrFrom_pointwise (A B : List Mapping) (t : Text) (p : Pos) :
    attrFrom A p t = attrFrom B p t ↔
    ∀ j, j < t.length → lookupCols A (adv p (t.take j)).line (adv p (t.take j)).col = lookupCols B (adv p (t.take j)).line (adv p (t.take j)).col := by
  rw [attrFrom_eq, attrFrom_eq, List.map_inj_left]
  exact forall_congr' fun j => by rw [List.mem_range]

theorem lookEq_iff (T : Text) (A B : List Mapping) : LookEq T A B ↔ attrFrom A startPos T = attrFrom B startPos T :=
  (attrFrom_pointwise A B T startPos).symm

theorem lookEq_refl (T : Text) (A : List Mapping) : LookEq T A A := fun _ _ => rfl

theorem chunkMs_rawChunks (ls : List Text) (l : Nat) : ∀ m ∈ chunkMs (rawChunks l ls), m.orig = none := by
  intro m hm
  obtain ⟨t, ht⟩ := mem_chunkMs.1 hm
  obtain ⟨_, _, e, ho⟩ := rawChunks_origs (fun _ => False) ls l _ ht
  cases e
  exact Option.eq_none_iff_forall_ne_some.2 fun o h => ho o h

theorem streamRaw_lookEq (t : Text) (c : Bool) : LookEq t (chunkMs (streamRaw t ⟨c, true⟩).evs) (chunkMs (streamRaw t ⟨c, false⟩).evs) := by
  intro j _
  simp only [streamRaw, if_true, Bool.false_eq_true, if_false, chunkMs, lookupCols, lookupGo]
  exact (lookupGo_unmapped _ _ _ none (chunkMs_rawChunks _ _) rfl).symm

/-- a token that is a lone line break stands at the start of a line -/
def NLStart : Bool → List Text → Prop
  | _, [] => True
  | s, tok :: rest => (tok = [NL] → s = true) ∧ NLStart (endsWithNL tok) rest

theorem Toks.nlstart {s : Bool} {toks : List Text} (h : Toks s toks) : NLStart s toks := by
  induction h with
  | nil => trivial
  | tok _ hno _ ih => exact ⟨fun e => absurd rfl (hno NL (e ▸ List.mem_singleton_self _)), by rw [endsWithNL_noNL _ hno]; exact ih⟩
  | eol _ hs _ ih => exact ⟨fun e => hs (List.append_left_eq_self.1 e), by rw [endsWithNL_snoc]; exact ih⟩

theorem tokens_nlstart (t : Text) : NLStart true (tokens t) := (tokens_toks t).nlstart

theorem bare_nl (tok : Text) (h1 : endsWithNL tok = true) (h2 : (tok.length == 1) = true) : tok = [NL] := by
  cases tok with
  | nil => simp at h2
  | cons x xs =>
    cases xs with
    | nil => simp [endsWithNL] at h1; rw [h1]
    | cons y ys => simp at h2

/-- thinning changes no answer: a dropped mapping is unmapped and stands on a later line than everything mapped before it, so where
it would answer, the answer was "unmapped" already -/
theorem thin_look (L C : Nat) (ms : List Mapping) : ∀ (act : Nat) (a b : Option (Option Orig)), linesOK act ms →
    a.join = b.join → (a.join ≠ none → L ≤ act) → (lookupGo L C a (thin act ms)).join = (lookupGo L C b ms).join := by
  induction ms with
  | nil => intro _ _ _ _ h _; exact h
  | cons m ms ih =>
    intro act a b ⟨h1, h2⟩ hj hinv
    rw [thin, lookupGo]
    split
    · -- kept: both scans take the same step
      rw [lookupGo]
      refine ih _ _ _ h2 ?_ fun h => ?_
      · split
        · rfl
        · exact hj
      · split at h
        · rename_i hm; exact Nat.le_of_eq hm.1.symm
        · exact Nat.le_trans (hinv h) h1
    · -- dropped: where `m` answers, on a line after `act`, `a` has no mapped answer
      rename_i hk
      refine ih act a _ (linesOK_mono h1 ms h2) ?_ hinv
      split
      · have hu : m.orig = none := by simpa using fun h => hk (Or.inl h)
        rw [hu]
        exact Classical.byContradiction fun h => hk (Or.inr (by have := hinv h; omega))
      · exact hj

theorem lookupCols_thin (ms : List Mapping) (hs : sortedFrom 1 0 ms) (L C : Nat) : lookupCols (thin 0 ms) L C = lookupCols ms L C :=
  thin_look L C ms 0 none none (linesOK_mono (Nat.zero_le 1) _ (linesOK_of_sorted _ _ _ hs)) rfl fun h => absurd rfl h

theorem origTok_thin (toks : List Text) : ∀ (l c act : Nat) (s : Bool), NLStart s toks → (s = true → act < l) →
    chunkMs (origTokChunks true l c toks).1 = thin act (chunkMs (origTokChunks false l c toks).1) := by
  induction toks with
  | nil => intro _ _ _ _ _ _; rfl
  | cons tok toks ih =>
    intro l c act s ⟨hn1, hn2⟩ hact
    cases heol : endsWithNL tok with
    | false => simpa [origTokChunks, chunkMs_append, chunkMs, thin, heol] using ih l _ l false (heol ▸ hn2) (fun h => nomatch h)
    | true =>
      by_cases hlen : (tok.length == 1) = true
      · -- a lone line break stands at the start of its line, below everything mapped: dropped by both
        have := hact (hn1 (bare_nl tok heol hlen))
        simpa [origTokChunks, chunkMs_append, chunkMs, thin, heol, hlen, Nat.ne_of_lt this] using
          ih (l + 1) 0 act true (heol ▸ hn2) (fun _ => by omega)
      · simpa [origTokChunks, chunkMs_append, chunkMs, thin, heol, hlen] using ih (l + 1) 0 l true (heol ▸ hn2) (fun _ => Nat.lt_succ_self l)

theorem streamOriginal_lookEq (t name : Text) :
    LookEq t (chunkMs (streamOriginal t name ⟨true, true⟩).evs) (chunkMs (streamOriginal t name ⟨true, false⟩).evs) := by
  intro j _
  have hs := chunkMs_sorted _ [] (streamOriginal_posOK t name true).1 (streamOriginal_tl t name true)
  simp only [streamOriginal, if_true, chunkMs] at hs ⊢
  rw [origTok_thin (tokens t) 1 0 0 true (tokens_nlstart t) fun _ => Nat.one_pos]
  exact lookupCols_thin _ hs _ _

theorem chunkMs_smSourceEvs (sm : SMap) : chunkMs (smSourceEvs sm) = [] := chunkMs_noChunk _ (smSourceEvs_noChunk sm)

theorem chunkMs_smNameEvs (sm : SMap) : chunkMs (smNameEvs sm) = [] := chunkMs_noChunk _ (smNameEvs_noChunk sm)

theorem adv_eq_start (t : Text) : adv startPos t = ⟨1, 0⟩ ↔ t = [] := by
  constructor
  · intro h
    cases t with
    | nil => rfl
    | cons c cs =>
      exfalso
      have := adv_gt c cs startPos
      rw [h] at this
      rcases this with g | g <;> simp only [startPos] at g <;> omega
  · rintro rfl; rfl

/-- the tests by which the map-driven splitters recognise an empty text -/
theorem genInfo_start_iff (t : Text) : ((genInfo t).line == 1 && (genInfo t).col == 0) = true ↔ t = [] := by
  rw [← adv_eq_start, ← genInfo_adv, Bool.and_eq_true, beq_iff_eq, beq_iff_eq]
  cases genInfo t
  simp only [Pos.mk.injEq]

/-- **the chunk mappings of the text-less stream in closed form**: of the segments of the map that lie before the end of the text, those
that `thin` keeps -/
theorem streamSMFinal_ms (t : Text) (sm : SMap) : chunkMs (streamSMFinal t sm).evs = if t = [] then [] else
    thin 0 ((decode sm.mappings).filter fun m => !(m.gl ≥ (genInfo t).line && (m.gc ≥ (genInfo t).col || m.gl > (genInfo t).line))) := by
  by_cases ht : t = []
  · subst ht; rfl
  · simp only [streamSMFinal, genInfo_start_iff, ht, if_false, chunkMs_append, chunkMs_smSourceEvs, chunkMs_smNameEvs, List.nil_append, smFinalGo_eq,
      chunkMs_map_chunk]

theorem streamSMFinal_lookEq (t : Text) (sm : SMap) (hs : sortedFrom 1 0 (decode sm.mappings)) :
    LookEq t (chunkMs (streamSMFinal t sm).evs) (decode sm.mappings) := by
  intro j hj
  have hlt := charPos_lt_end' startPos t j hj
  rw [← genInfo_adv t] at hlt
  rw [streamSMFinal_ms, if_neg fun h => by rw [h] at hj; cases hj]
  rw [lookupCols_thin _ (sortedFrom_sublist _ _ 1 0 hs List.filter_sublist)]
  -- a segment at or beyond the end of the text answers at no character position
  refine congrArg Option.join (lookupGo_filter _ _ _ _ _ fun m _ hm => ?_)
  simp only [Bool.not_eq_true', Bool.and_eq_false_iff, Bool.or_eq_false_iff, decide_eq_false_iff_not]
  rcases hlt with h | h <;> omega

/-- C08's attribution theorem read as a statement about lookups -/
theorem streamSMFull_lookEq (t : Text) (sm : SMap) (ha : IsAscii t) (hl : t.length ≤ USIZE_MAX) (hs : sortedFrom 1 0 (decode sm.mappings))
    (hseg : ∀ m ∈ decode sm.mappings, SegOK (splitLines t) (adv startPos t).line (adv startPos t).col m) :
    LookEq t (chunkMs (streamSMFull t sm).evs) (decode sm.mappings) := by
  rw [lookEq_iff]
  have hin : MapInside t sm := fun m hm => (hseg m hm).1
  have hp : PosOK (streamSM t sm ⟨true, false⟩) := streamSM_posOK t sm true ha hl (fun _ => hin)
  have hT := streamSM_tok t sm true
  have hTL := streamSM_tl t sm true
  have hx := streamSM_text t sm true (textOK_of_ascii t ha hl)
  have h1 := attr_of_stream _ hp hT hTL
  rw [hx] at h1
  have h2 := streamSMFull_attr t sm ha hl hs hseg
  simp only [streamSM] at h1
  rw [h1, h2]

theorem streamSM_lookEq (t : Text) (sm : SMap) (ha : IsAscii t) (hl : t.length ≤ USIZE_MAX) (hs : sortedFrom 1 0 (decode sm.mappings))
    (hseg : ∀ m ∈ decode sm.mappings, SegOK (splitLines t) (adv startPos t).line (adv startPos t).col m) :
    LookEq t (chunkMs (streamSM t sm ⟨true, true⟩).evs) (chunkMs (streamSM t sm ⟨true, false⟩).evs) := by
  intro j hj
  simp only [streamSM]
  rw [streamSMFinal_lookEq t sm hs j hj, streamSMFull_lookEq t sm ha hl hs hseg j hj]

theorem streamOriginal_final_sorted (t name : Text) : sortedFrom 1 0 (chunkMs (streamOriginal t name ⟨true, true⟩).evs) := by
  have hn := chunkMs_sorted (streamOriginal t name ⟨true, false⟩).evs [] (streamOriginal_posOK t name true).1 (streamOriginal_tl t name true)
  apply sortedFrom_sublist _ _ 1 0 hn
  simp only [streamOriginal, if_true, chunkMs]
  rw [origTok_thin (tokens t) 1 0 0 true (tokens_nlstart t) fun _ => Nat.one_pos]
  exact thin_sublist _ _

theorem streamSM_final_sorted (t : Text) (sm : SMap) (hs : sortedFrom 1 0 (decode sm.mappings)) :
    sortedFrom 1 0 (chunkMs (streamSM t sm ⟨true, true⟩).evs) := by
  simp only [streamSM]
  rw [streamSMFinal_ms]
  split
  · trivial
  · exact sortedFrom_sublist _ _ 1 0 hs ((thin_sublist _ _).trans List.filter_sublist)

theorem covering_chunk : ∀ (evs : List Ev) (pre : Text), posOKT pre evs → ChunksTok evs →
    ∀ j, j < (evsText evs).length →
      ∃ m ∈ chunkMs evs, m.gl = (adv startPos (pre ++ (evsText evs).take j)).line ∧ m.gc ≤ (adv startPos (pre ++ (evsText evs).take j)).col := by
  intro evs pre hp hT j hj
  obtain ⟨A, t, m, B, d, rfl, rfl, hd, _⟩ := attrOf_split evs j hj
  have hm : Ev.chunk (some t) m ∈ A ++ .chunk (some t) m :: B := List.mem_append_right _ List.mem_cons_self
  rw [cover_pos hp (hT t m hm) hd]
  exact ⟨m, mem_chunkMs_of_mem _ _ _ hm, rfl, Nat.le_add_right _ _⟩

theorem tiles_of_posOK (r : SResult) (hp : PosOK r) (hT : ChunksTok r.evs) :
    ∀ j, j < (evsText r.evs).length →
      lookupGo (adv startPos ((evsText r.evs).take j)).line (adv startPos ((evsText r.evs).take j)).col none (chunkMs r.evs) ≠ none := by
  intro j hj
  have := covering_chunk r.evs [] hp.1 hT j hj
  simp only [List.nil_append] at this
  exact lookupGo_some_of_match _ _ _ _ this

def declsOf : List Ev → List Ev
  | [] => []
  | .chunk _ _ :: es => declsOf es
  | e :: es => e :: declsOf es

theorem declsOf_cons_decl (e : Ev) (es : List Ev) (he : e.isChunk = false) : declsOf (e :: es) = e :: declsOf es := by
  cases e with
  | chunk => cases he
  | source | name => rfl

theorem declsOf_append (a b : List Ev) : declsOf (a ++ b) = declsOf a ++ declsOf b := by
  induction a using evs_induction with
  | nil => rfl
  | chunk t m es ih => exact ih
  | decl e es he ih => rw [List.cons_append, declsOf_cons_decl _ _ he, declsOf_cons_decl _ _ he, ih, List.cons_append]

theorem declsOf_noChunk : ∀ (evs : List Ev), (∀ e ∈ evs, e.isChunk = false) → declsOf evs = evs
  | [], _ => rfl
  | e :: es, h => by
    rw [declsOf_cons_decl _ _ (h e List.mem_cons_self), declsOf_noChunk es fun x hx => h x (List.mem_cons_of_mem _ hx)]

theorem declsOf_chunks (evs : List Ev) (h : ∀ e ∈ evs, e.isChunk = true) : declsOf evs = [] := by
  induction evs using evs_induction with
  | nil => rfl
  | chunk t m es ih => exact ih fun e he => h e (List.mem_cons_of_mem _ he)
  | decl e es he => rw [h e List.mem_cons_self] at he; cases he

end Rs
