import RsModel.Lemmas.ProvChunks
import RsModel.Lemmas.Text
/-!
# C04 through `map()`, byte by byte

`attrFrom (decode sm.mappings) startPos src` lists, for every byte of `source()`, what the returned SourceMap resolves its
position to.  `getMap_provQ` says what that is for byte `i`, for any tree whose normal stream has `ProvQ Q`: the location is that
of the chunk the byte was delivered in, its source index names — through the map's own tables — the file that chunk names in the
stream, and `Q` holds of that file's content, the chunk's text and the location's line and column.  `piece_byte` goes from the chunk
to the byte inside it.  `origTree_lines_map` is the statement for columns = false, per generated line.  `same_resolution_at` carries
what is said of one map over to a map that resolves every byte alike (a later `map()` on warm caches).
-/
namespace Rs

theorem piece_byte (T : Text) (q q' d l c : Nat) (hq : q' ≤ T.length) (hd : d < (bsub T q q').length)
    (hadv : ∀ j, j < q' - q → adv startPos (T.take (q + j)) = ⟨l, c + j⟩)
    (htok : ∃ tok k0 l0 c0, TokPos T tok l0 c0 k0 ∧ k0 ≤ q ∧ q' ≤ k0 + tok.length) :
    q + d < T.length ∧ (bsub T q q')[d]? = T[q + d]? ∧ adv startPos (T.take (q + d)) = ⟨l, c + d⟩
      ∧ ∃ tok k0 l0 c0, TokPos T tok l0 c0 k0 ∧ k0 ≤ q ∧ q + d < k0 + tok.length := by
  have hd' : d < q' - q := bsub_length T q q' hq ▸ hd
  have hlt : q + d < q' := Nat.add_lt_of_lt_sub' hd'
  obtain ⟨tok, k0, l0, c0, h1, h2, h3⟩ := htok
  exact ⟨Nat.lt_of_lt_of_le hlt hq, (bsub_get T q q' d hq hd').1, hadv d hd', tok, k0, l0, c0, h1, h2, Nat.lt_of_lt_of_le hlt h3⟩

/-- **C04 through `map()`, byte `i` of `source()`**, for any tree (columns = true, `ModeHyp`, chunk mappings `small`) whose announced
files all carry their content and whose normal stream has `ProvQ Q`: if the returned SourceMap resolves the byte's position to `o`,
then the byte is byte `d` of some text `t` (the chunk it was delivered in), `o` names — through the map's own `sources` /
`sourcesContent` — a file with its exact content `T`, and `Q T t o.line o.col` holds.
Chain: C12 (codec) ∘ C03-T3 (text-less = normal mode) ∘ `attrOf` (bytes of a chunk share its mapping) ∘ the table relation. -/
theorem getMap_provQ (Q : Text → Option Text → Nat → Nat → Prop) (s : Src) (hmode : s.ModeHyp)
    (hAC : AllContent (s.stream ⟨true, false⟩ []).1.evs) (hprov : ProvQ Q emptyS (s.stream ⟨true, false⟩ []).1.evs) (final : Bool)
    (hsmall : ∀ m ∈ chunkMs (s.stream ⟨true, true⟩ []).1.evs, m.small) (sm : SMap) (hm : (getMap s ⟨true, final⟩ []).1 = some sm)
    (i : Nat) (o : Orig) (hget : (attrFrom (decode sm.mappings) startPos s.src)[i]? = some (some o)) :
    ∃ (name T t : Text) (d : Nat), sm.sources[o.src]? = some name ∧ sm.sourcesContent[o.src]? = some T
      ∧ Q T (some t) o.line o.col ∧ d < t.length ∧ s.src[i]? = t[d]? := by
  have hb := Src.base_facts s hmode
  rw [(getMap_attr s hmode final hsmall).1 sm hm] at hget
  obtain ⟨t, m, d, hmem, hd, hmo, hbyte⟩ := attrOf_at _ i (some o) hget
  rw [hb.text] at hbyte
  obtain ⟨name, T, h1, h2, hq⟩ := provP_map _ true _ _ ((provQ_iff Q _ _).1 hprov) hb.declN hAC (Src.m3 s hmode).decls sm hm (some t) m o hmem hmo.symm
  exact ⟨name, T, t, d, h1, h2, hq, hd, hbyte⟩

/-- `c04_lines_map` (Props/C04.lean) says what this claims; here the proof: `getMap_lines`, then `ProvOK` of the lines-mode stream read
through the map's tables (`provP_map`) -/
theorem origTree_lines_map (cons : Text → Option Text) (inner : Src) (ho : inner.OrigTree) (hw : Src.WD cons false inner) (final : Bool)
    (hsmall : ∀ m ∈ chunkMs (inner.stream ⟨false, true⟩ []).1.evs, ∀ o, m.orig = some o → o.src < U31 ∧ o.line < U31)
    (sm : SMap) (hm : (getMap inner ⟨false, final⟩ []).1 = some sm) (L si ol : Nat) (hL : 0 < L)
    (hlook : lookupLines (decode sm.mappings) L = some (si, ol)) :
    lookupLines (chunkMs (inner.stream ⟨false, false⟩ []).1.evs) L = some (si, ol)
    ∧ ∃ (name T ln : Text) (c k : Nat) (m : Mapping), sm.sources[si]? = some name ∧ sm.sourcesContent[si]? = some T
        ∧ Ev.chunk (some ln) m ∈ (inner.stream ⟨false, false⟩ []).1.evs ∧ m.gl = L ∧ TokPos T ln ol c k := by
  have hmode := Src.origTree_modeL inner ho
  have hn := Src.nc_nodup inner (Src.origTree_nc inner ho)
  have hcold := cold_nil inner.ids
  rw [getMap_lines inner hmode hn [] [] hcold hcold final hsmall sm hm L hL] at hlook
  refine ⟨hlook, ?_⟩
  obtain ⟨m, a, hmem, hgl, hmo, rfl, rfl⟩ := lookupLines_some _ L _ _ hlook
  obtain ⟨t, ht⟩ := chunk_of_mem_chunkMs _ m hmem
  -- the tables of the map are the tables the normal stream ends with
  obtain ⟨name, T, h1, h2, tok, k, rfl, h3, _⟩ := provP_map _ false _ _ ((provOK_iff _ _).1 (Src.stream_provOK cons false inner ho hw []))
    (Src.base_factsL inner hmode hn [] [] hcold hcold).declN (Src.origTree_allContent inner ⟨false, false⟩ [] ho) (Src.m3l inner hmode hn [] [] hcold hcold).decls sm hm t m a ht hmo
  exact ⟨name, T, tok, a.col, k, m, h1, h2, ht, hgl, h3⟩

/-- two maps that resolve every byte alike (each through its own `sources`, as a later `map()` of a tree with warm caches and the map
of the cache-free tree do: `getMap_twice`, `history_map_NA`) answer alike at byte `i`: what C04 says of the one carries over -/
theorem same_resolution_at (sm1 sm2 : SMap) (a1 a2 : List (Option Orig))
    (h : a2.map (Option.map (resolveMF sm2)) = a1.map (Option.map (resolveMF sm1))) (i : Nat) (o2 : Orig) (hget : a2[i]? = some (some o2)) :
    ∃ o1, a1[i]? = some (some o1) ∧ sm2.sources[o2.src]? = sm1.sources[o1.src]? ∧ o2.line = o1.line ∧ o2.col = o1.col := by
  have hi := congrArg (fun l => l[i]?) h
  simp only [List.getElem?_map, hget, Option.map_some] at hi
  cases h1i : a1[i]? with
  | none => rw [h1i] at hi; cases hi
  | some x =>
    cases x with
    | none => rw [h1i] at hi; cases hi
    | some o1 =>
      simp only [h1i, Option.map_some, Option.some.injEq, resolveMF, NLoc.mk.injEq] at hi
      exact ⟨o1, rfl, hi.1, hi.2.1, hi.2.2.1⟩

end Rs
