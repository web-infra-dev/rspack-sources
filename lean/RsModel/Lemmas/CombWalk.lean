import RsModel.Lemmas.Tables
/-!
# The combinator: what its closures do with one outer chunk, stated once

The outer `on_chunk` closure (`combOnChunk`) ends in one of three branches (`combFound`, `combNoInner`, `combPass`), and every branch
does the same kind of thing, whatever the chunk's text: it resolves indices in the translation tables (`CombSt.Frame`: nothing else
of the state changes), delivers the announcements that this takes, and then the chunk itself, with its text and generated position
and a new original location.  There is one lemma per closure that says so (`combPass_walk`, `combNoInner_walk`, `combFound_walk`,
`combOnChunk_walk`; `combSrcResolve_walk`, `combNameResolve_walk` for the two resolvers, which deliver no chunk): state and
announcements are given once for all texts, and `Anns P` bounds the files that may be announced.  One case lemma tells which branch
`combOnChunk` takes (`combOnChunk_cases`); `combNoInner_unresolved` writes the one registration that the program spells out in place
as the `globalSource` it is.

How to prove that a chunk keeps something.  If the fact speaks of the state outside the translation tables, of the delivered text
or position, or of announcements as such, take `combOnChunk_walk` apart (`obtain ⟨st', anns, o, e, fr, ha, ho⟩`, then `rw [e chunk]`):
the fields of `fr`, and `ha.noChunk` / `ha.isChunk` / `ha.source_snoc`, are what is needed.  If it depends on the branch, use
`combOnChunk_cases` and the branch's own lemma.  For a whole stream: `combStep_anns` covers the two announcement callbacks, and
`combFold_hom` lifts a reading of event lists (text, positions) from one step to the fold.  For facts that need the state in which
an event was delivered: `combEnd cfg st pre` is the state after the events `pre`, `combFold_append` cuts the fold there and
`combFold_mem` finds, for a delivered event, the step that delivered it.  `combFold_chunk`: every chunk that comes out went in, with its text.
-/
namespace Rs

/-- `st'` agrees with `st` outside the six translation tables (`sourceMapping`, `nameMapping` and the four index mappings): the value
tables, what was recorded of the inner map, and the index and content of the inner source -/
structure CombSt.Frame (st st' : CombSt) : Prop where
  names : st'.nameIndexValueMapping = st.nameIndexValueMapping
  isi : st'.innerSourceIndex = st.innerSourceIndex
  isrc : st'.innerSource = st.innerSource
  isrcs : st'.innerSourceIndexValueMapping = st.innerSourceIndexValueMapping
  conts : st'.innerSourceContents = st.innerSourceContents
  inames : st'.innerNameIndexValueMapping = st.innerNameIndexValueMapping
  lines : st'.lineData = st.lineData

theorem CombSt.Frame.tables (st : CombSt) (sm nm : Assoc) (sim nim isim inim : List Int) :
    st.Frame { st with sourceMapping := sm, nameMapping := nm, sourceIndexMapping := sim, nameIndexMapping := nim,
                       innerSourceIndexMapping := isim, innerNameIndexMapping := inim } :=
  ⟨rfl, rfl, rfl, rfl, rfl, rfl, rfl⟩

theorem CombSt.Frame.refl (st : CombSt) : st.Frame st := ⟨rfl, rfl, rfl, rfl, rfl, rfl, rfl⟩

theorem CombSt.Frame.trans {a b c : CombSt} (h1 : a.Frame b) (h2 : b.Frame c) : a.Frame c :=
  ⟨h2.names.trans h1.names, h2.isi.trans h1.isi, h2.isrc.trans h1.isrc, h2.isrcs.trans h1.isrcs, h2.conts.trans h1.conts,
    h2.inames.trans h1.inames, h2.lines.trans h1.lines⟩

theorem combSrcResolve_walk (st : CombSt) (isi : Nat) :
    st.Frame (combSrcResolve st isi).1
    ∧ Anns (fun s c => (s, c) = (st.innerSourceIndexValueMapping[isi]?).getD ([], none)) (combSrcResolve st isi).2.1 := by
  fun_cases combSrcResolve st isi
  · exact ⟨.tables .., globalSource_annOf _ _ _ rfl⟩
  · exact ⟨.refl st, .nil⟩

theorem combNameResolve_walk (st : CombSt) (isi : Nat) (seg : InnerSeg) (a b c : Int) :
    st.Frame (combNameResolve st isi seg a b c).1 ∧ Anns (fun _ _ => False) (combNameResolve st isi seg a b c).2.1 := by
  -- in the order of the program: by the inner name (registered now, unknown, resolved before), by the outer name (the same three),
  -- and the three ways to no name
  fun_cases combNameResolve st isi seg a b c
  · exact ⟨.tables .., globalName_annOf _ _ _⟩
  · exact ⟨.tables .., .nil⟩
  · exact ⟨.refl st, .nil⟩
  · exact ⟨.tables .., globalName_annOf _ _ _⟩
  · exact ⟨.tables .., .nil⟩
  · exact ⟨.refl st, .nil⟩
  · exact ⟨.refl st, .nil⟩
  · exact ⟨.refl st, .nil⟩
  · exact ⟨.refl st, .nil⟩

theorem combPass_walk (st : CombSt) (m : Mapping) (a b c d : Int) : ∃ st' anns o,
    (∀ chunk, combPass st chunk m a b c d = (st', anns ++ [.chunk chunk ⟨m.gl, m.gc, o⟩]))
    ∧ st.Frame st' ∧ Anns (fun _ _ => False) anns ∧ (o.isSome = true → 0 ≤ a) := by
  -- `v` is the outer source index translated, `-1` when `a < 0`: so `0 ≤ v` gives `0 ≤ a`
  fun_cases combPass st none m a b c d
  case case1 v hv => exact ⟨st, [], none, fun _ => if_pos hv, .refl st, .nil, nofun⟩
  case case2 v hv _ hf _ _ _ =>
    exact ⟨_, _, _, fun _ => (if_neg hv).trans (if_pos hf), .tables .., globalName_annOf _ _ _, fun _ => by omega⟩
  case case3 v hv _ hf => exact ⟨st, [], _, fun _ => (if_neg hv).trans (if_neg hf), .refl st, .nil, fun _ => by omega⟩

theorem combNoInner_unresolved (cfg : CombCfg) (st : CombSt) (chunk : Option Text) (m : Mapping) (a b c d : Int)
    (hrm : ¬ cfg.remove = true) (hun : st.sourceIndexMapping[a.toNat]? = some (-2)) :
    combNoInner cfg st chunk m a b c d =
      let r := globalSource st.sourceMapping cfg.innerName st.innerSource
      let p := combPass { st with sourceMapping := r.1, sourceIndexMapping := lmInsert 0 st.sourceIndexMapping a.toNat r.2.2 } chunk m a b c d
      (p.1, r.2.1 ++ p.2) := by
  unfold combNoInner globalSource
  rw [if_neg hrm, if_pos (beq_iff_eq.2 hun)]
  split <;> rfl

theorem combNoInner_walk (cfg : CombCfg) (st : CombSt) (m : Mapping) (a b c d : Int) : ∃ st' anns o,
    (∀ chunk, combNoInner cfg st chunk m a b c d = (st', anns ++ [.chunk chunk ⟨m.gl, m.gc, o⟩]))
    ∧ st.Frame st' ∧ Anns (fun s cc => s = cfg.innerName ∧ cc = st.innerSource) anns := by
  by_cases hrm : cfg.remove = true
  · exact ⟨st, [], none, fun _ => if_pos hrm, .refl st, .nil⟩
  obtain ⟨st1, pre, fr, hp, e⟩ : ∃ st1 pre, st.Frame st1 ∧ Anns (fun s cc => s = cfg.innerName ∧ cc = st.innerSource) pre
      ∧ ∀ chunk, combNoInner cfg st chunk m a b c d = ((combPass st1 chunk m a b c d).1, pre ++ (combPass st1 chunk m a b c d).2) := by
    by_cases hun : st.sourceIndexMapping[a.toNat]? = some (-2)
    · exact ⟨_, _, .tables .., globalSource_annOf _ _ _ ⟨rfl, rfl⟩, fun chunk => combNoInner_unresolved cfg st chunk m a b c d hrm hun⟩
    · exact ⟨st, [], .refl st, .nil, fun _ => (if_neg hrm).trans (if_neg (mt beq_iff_eq.1 hun))⟩
  obtain ⟨st', anns, o, e', fr', ha, _⟩ := combPass_walk st1 m a b c d
  exact ⟨st', pre ++ anns, o, fun chunk => by rw [e chunk, e' chunk, List.append_assoc], fr.trans fr', hp.append (ha.mono fun _ _ h => h.elim)⟩

theorem combFound_walk (st : CombSt) (m : Mapping) (seg : InnerSeg) (ic : Text) (a b : Int) : ∃ st' anns o,
    (∀ chunk, combFound st chunk m seg ic a b = (st', anns ++ [.chunk chunk ⟨m.gl, m.gc, o⟩]))
    ∧ st.Frame st' ∧ Anns (fun s c => (s, c) = (st.innerSourceIndexValueMapping[seg.src.toNat]?).getD ([], none)) anns :=
  ⟨_, _, _, fun _ => rfl, (combSrcResolve_walk st _).1.trans (combNameResolve_walk _ _ _ _ _ _).1,
    (combSrcResolve_walk st _).2.append ((combNameResolve_walk _ _ _ _ _ _).2.mono fun _ _ h => h.elim)⟩

def Mapping.si (m : Mapping) : Int := match m.orig with | some o => (o.src : Int) | none => -1
def Mapping.ol (m : Mapping) : Int := match m.orig with | some o => (o.line : Int) | none => -1
def Mapping.oc (m : Mapping) : Int := match m.orig with | some o => (o.col : Int) | none => -1
def Mapping.ni (m : Mapping) : Int := match m.orig with | some o => (match o.name with | some n => (n : Int) | none => -1) | none => -1

theorem Mapping.si_cases (m : Mapping) : (m.orig.isSome = true ∧ 0 ≤ m.si) ∨ (m.orig = none ∧ m.si = -1) := by
  unfold Mapping.si
  cases m.orig with
  | none => exact .inr ⟨rfl, rfl⟩
  | some o => exact .inl ⟨rfl, Int.natCast_nonneg _⟩

theorem combOnChunk_cases (cfg : CombCfg) (st : CombSt) (m : Mapping) :
    (∃ idx, m.si = st.innerSourceIndex ∧ findInner st m.ol m.oc = some idx
      ∧ 0 ≤ ((st.lineData.getD (m.ol.toNat - 1) {}).segs.getD idx default).src
      ∧ ∀ chunk, combOnChunk cfg st chunk m = combFound st chunk m ((st.lineData.getD (m.ol.toNat - 1) {}).segs.getD idx default)
          ((st.lineData.getD (m.ol.toNat - 1) {}).chunks.getD idx []) m.oc m.ni)
    ∨ (m.si = st.innerSourceIndex
      ∧ (∀ idx, findInner st m.ol m.oc = some idx → ((st.lineData.getD (m.ol.toNat - 1) {}).segs.getD idx default).src < 0)
      ∧ ∀ chunk, combOnChunk cfg st chunk m = combNoInner cfg st chunk m m.si m.ol m.oc m.ni)
    ∨ (m.si ≠ st.innerSourceIndex ∧ ∀ chunk, combOnChunk cfg st chunk m = combPass st chunk m m.si m.ol m.oc m.ni) := by
  -- in the order of the program; no branch condition looks at the chunk's text
  fun_cases combOnChunk cfg st none m
  case case1 h hf =>
    exact .inr (.inl ⟨beq_iff_eq.1 h, fun _ e => (nomatch hf.symm.trans e), fun _ => (if_pos h).trans (by rw [hf]; rfl)⟩)
  case case2 h idx hf _ _ hge =>
    exact .inl ⟨idx, beq_iff_eq.1 h, hf, hge, fun _ => (if_pos h).trans (by rw [hf]; exact if_pos hge)⟩
  case case3 h idx hf _ _ hge =>
    refine .inr (.inl ⟨beq_iff_eq.1 h, fun idx' e => ?_, fun _ => (if_pos h).trans (by rw [hf]; exact if_neg hge)⟩)
    cases hf.symm.trans e
    exact Int.not_le.1 hge
  case case4 h => exact .inr (.inr ⟨mt beq_iff_eq.2 h, fun _ => if_neg h⟩)

/-- the last disjunct: unmapped chunks would count as chunks of the inner source for `innerSourceIndex = -1`, which no run reaches (`ISI`) -/
theorem combOnChunk_walk (cfg : CombCfg) (st : CombSt) (m : Mapping) : ∃ st' anns o,
    (∀ chunk, combOnChunk cfg st chunk m = (st', anns ++ [.chunk chunk ⟨m.gl, m.gc, o⟩]))
    ∧ st.Frame st' ∧ Anns (fun _ _ => True) anns ∧ (o.isSome = true → m.orig.isSome = true ∨ st.innerSourceIndex = -1) := by
  have hin : m.si = st.innerSourceIndex → m.orig.isSome = true ∨ st.innerSourceIndex = -1 := fun heq =>
    m.si_cases.imp (·.1) fun h => heq ▸ h.2
  rcases combOnChunk_cases cfg st m with ⟨_, heq, _, _, e⟩ | ⟨heq, _, e⟩ | ⟨_, e⟩
  · obtain ⟨st', anns, o, e', fr, ha⟩ := combFound_walk st m _ _ m.oc m.ni
    exact ⟨st', anns, o, fun chunk => (e chunk).trans (e' chunk), fr, ha.mono fun _ _ _ => trivial, fun _ => hin heq⟩
  · obtain ⟨st', anns, o, e', fr, ha⟩ := combNoInner_walk cfg st m m.si m.ol m.oc m.ni
    exact ⟨st', anns, o, fun chunk => (e chunk).trans (e' chunk), fr, ha.mono fun _ _ _ => trivial, fun _ => hin heq⟩
  · obtain ⟨st', anns, o, e', fr, ha, ho⟩ := combPass_walk st m m.si m.ol m.oc m.ni
    refine ⟨st', anns, o, fun chunk => (e chunk).trans (e' chunk), fr, ha.mono fun _ _ h => h.elim, fun hc => ?_⟩
    have := ho hc
    rcases m.si_cases with h | h
    · exact .inl h.1
    · omega

theorem combStep_annOf (cfg : CombCfg) (st : CombSt) {e : Ev} (h : e.isChunk = false) :
    Anns (fun s c => ∃ i, e = .source i s c ∧ s ≠ cfg.innerName) (combStep cfg st e).2 := by
  cases e with
  | chunk t m => cases h
  | source i s c =>
    simp only [combStep, combOnSource]
    split
    · exact .nil
    · rename_i hne
      exact globalSource_annOf _ _ _ ⟨i, rfl, by simpa using hne⟩
  | name i n => exact .nil

theorem combStep_anns (cfg : CombCfg) (st : CombSt) {e : Ev} (h : e.isChunk = false) : Anns (fun _ _ => True) (combStep cfg st e).2 :=
  (combStep_annOf cfg st h).mono fun _ _ _ => trivial

theorem combFold_hom {β} (f : List Ev → β) (op : β → β → β) (happ : ∀ a b, f (a ++ b) = op (f a) (f b)) (cfg : CombCfg)
    (hstep : ∀ st e, f (combStep cfg st e).2 = f [e]) : ∀ (evs : List Ev) (st : CombSt), f (combFold cfg st evs) = f evs
  | [], _ => rfl
  | e :: es, st => by
    show f ((combStep cfg st e).2 ++ combFold cfg (combStep cfg st e).1 es) = f ([e] ++ es)
    rw [happ, happ, hstep, combFold_hom f op happ cfg hstep es]

def combEnd (cfg : CombCfg) : CombSt → List Ev → CombSt
  | st, [] => st
  | st, e :: es => combEnd cfg (combStep cfg st e).1 es

theorem combFold_append (cfg : CombCfg) : ∀ (a b : List Ev) (st : CombSt),
    combFold cfg st (a ++ b) = combFold cfg st a ++ combFold cfg (combEnd cfg st a) b := by
  intro a
  induction a with
  | nil => intro b st; rfl
  | cons e es ih => intro b st; simp only [List.cons_append, combFold, combEnd, ih, List.append_assoc]

theorem combFold_mem (cfg : CombCfg) {e : Ev} : ∀ (evs : List Ev) (st : CombSt), e ∈ combFold cfg st evs →
    ∃ pre x post, evs = pre ++ x :: post ∧ e ∈ (combStep cfg (combEnd cfg st pre) x).2 := by
  intro evs
  induction evs with
  | nil => intro st h; cases h
  | cons x xs ih =>
    intro st h
    rcases List.mem_append.1 h with h | h
    · exact ⟨[], x, xs, rfl, h⟩
    · obtain ⟨pre, y, post, e1, e2⟩ := ih _ h
      exact ⟨x :: pre, y, post, congrArg _ e1, e2⟩

/-- the index of the inner source among the outer sources is the sentinel `-2` or a real index (never the "unmapped" `-1`) -/
def ISI (st : CombSt) : Prop := st.innerSourceIndex = -2 ∨ 0 ≤ st.innerSourceIndex

theorem combInnerFold_keep : ∀ (evs : List Ev) (st : CombSt), (evs.foldl combInnerEv st).innerSourceIndex = st.innerSourceIndex := by
  intro evs
  induction evs with
  | nil => intro st; rfl
  | cons e es ih =>
    intro st
    simp only [List.foldl_cons]
    rw [ih]
    cases e <;> rfl

theorem isi_combStep (cfg : CombCfg) (st : CombSt) (h : ISI st) (e : Ev) : ISI (combStep cfg st e).1 := by
  cases e with
  | chunk t m =>
    obtain ⟨st', _, _, e, fr, _⟩ := combOnChunk_walk cfg st m
    simp only [combStep, e t, ISI, fr.isi]
    exact h
  | source i s c =>
    simp only [combStep]
    unfold combOnSource ISI
    split
    · rw [combInnerFold_keep]; exact Or.inr (by simp only; omega)
    · exact h
  | name i n => exact h

theorem isi_combEnd (cfg : CombCfg) : ∀ (evs : List Ev) (st : CombSt), ISI st → ISI (combEnd cfg st evs)
  | [], _, h => h
  | e :: es, st, h => isi_combEnd cfg es _ (isi_combStep cfg st h e)

theorem combFold_chunk (cfg : CombCfg) (evs : List Ev) (st : CombSt) (hi : ISI st) (t : Option Text) (mm : Mapping)
    (h : Ev.chunk t mm ∈ combFold cfg st evs) :
    ∃ m, Ev.chunk t m ∈ evs ∧ mm.gl = m.gl ∧ mm.gc = m.gc ∧ (mm.orig.isSome = true → m.orig.isSome = true) := by
  obtain ⟨pre, x, post, rfl, hx⟩ := combFold_mem cfg evs st h
  cases x with
  | chunk text m0 =>
    obtain ⟨st', anns, o, e, _, ha, ho⟩ := combOnChunk_walk cfg (combEnd cfg st pre) m0
    simp only [combStep, e text] at hx
    rcases List.mem_append.1 hx with hx | hx
    · exact absurd hx (ha.noChunk t mm)
    · cases List.mem_singleton.1 hx
      exact ⟨m0, List.mem_append_right _ List.mem_cons_self, rfl, rfl,
        fun hc => (ho hc).resolve_right (by rcases isi_combEnd cfg pre st hi with h | h <;> omega)⟩
  | source i s c => exact absurd hx ((combStep_anns cfg _ rfl).noChunk t mm)
  | name i n => exact absurd hx ((combStep_anns cfg _ rfl).noChunk t mm)

theorem streamCombined_chunk {t : Text} {sm : SMap} {n : Text} {os : Option Text} {im : SMap} {rm : Bool} {o : Opts} {x : Option Text}
    {mm : Mapping} (h : Ev.chunk x mm ∈ (streamCombined t sm n os im rm o).evs) :
    ∃ m, Ev.chunk x m ∈ (streamSM t sm o).evs ∧ (mm.orig.isSome = true → m.orig.isSome = true) :=
  let ⟨m, h1, _, _, h4⟩ := combFold_chunk _ _ _ (Or.inl rfl) x mm h
  ⟨m, h1, h4⟩

end Rs
