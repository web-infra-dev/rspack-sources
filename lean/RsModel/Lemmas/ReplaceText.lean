import RsModel.Lemmas.ReplaceWalk
/-!
# ReplaceSource: the streamed chunk texts are the `source()` splice (C01)

A text-only rendering of the callback (`loopR` / `stepR`) is proved to follow `specGo` (the `source()` loop) over one chunk of the
inner text, whatever the chunk and the text behind it (`stepR_spec`); the full callback model is shown to produce exactly that text
(`rOnChunk_sim`).  `rEvs_text` puts them together along the inner stream, for ANY chunking of the inner text.

The callback records lazily that a replacement reaches beyond the walker (the skip mark) and settles the mark later: on entry to the
next chunk, and after each replacement.  That step is stated once on each of the three levels: `rSettle` in the callback
(ReplaceWalk), `settleR` in its text-only rendering (`loopR_cons`, `stepR_eq`), and for the splice `settleR_spec`, which says what
`ppos`/`pend` (the splice's view of a position with a mark) are afterwards.
-/
namespace Rs

/-- text-only rendering of the `while let Some(next_replacement_pos)` loop for one chunk: emitted text, new
`(pos, remaining replacements, replacement_end)` and `some chunk_pos` when control falls through to
"emit remaining chunk", `none` when the callback returned early -/
def loopR (chunk : Text) (endPos : Nat) : List Repl → Nat → Nat → Nat → Text × (Nat × List Repl × Nat) × Option Nat
  | [], cp, pos, re => ([], (pos, [], re), some cp)
  | r :: rs, cp, pos, re =>
    if r.start < endPos then
      let piece := if r.start > pos then (chunk.drop cp).take (r.start - pos) else []
      let cp1 := if r.start > pos then cp + (r.start - pos) else cp
      let pos1 := if r.start > pos then r.start else pos
      let re1 := max re r.stop
      if re1 > pos1 then
        if re1 ≥ endPos then (piece ++ r.content, (endPos, rs, re1), none)
        else
          let res := loopR chunk endPos rs (cp1 + (re1 - pos1)) re1 re1
          (piece ++ r.content ++ res.1, res.2)
      else
        let res := loopR chunk endPos rs cp1 pos1 re1
        (piece ++ r.content ++ res.1, res.2)
    else ([], (pos, r :: rs, re), some cp)

def stepR (st : Nat × List Repl × Nat) (chunk : Text) : Text × (Nat × List Repl × Nat) :=
  let pos := st.1; let rs := st.2.1; let re := st.2.2
  let endPos := pos + chunk.length
  if re > pos ∧ re ≥ endPos then ([], (endPos, rs, re))
  else
    let cp0 := if re > pos then re - pos else 0
    let pos0 := if re > pos then re else pos
    match loopR chunk endPos rs cp0 pos0 re with
    | (o, s, none) => (o, s)
    | (o, (_, rs', re'), some cp) => (o ++ chunk.drop cp, (endPos, rs', re'))

/-- the not-yet-consumed suffix of the inner text, given the lazily recorded skip mark `re` -/
def pend (pos re : Nat) (rest : Text) : Text := rest.drop (max pos re - pos)
def ppos (pos re : Nat) (rest : Text) : Nat := pos + min (max pos re - pos) rest.length

theorem specGo_cons (pos : Nat) (rest : Text) (r : Repl) (rs : List Repl) :
    specGo pos rest (r :: rs)
      = rest.take (r.start - pos) ++ r.content ++ specGo (ppos pos r.stop rest) (pend pos r.stop rest) rs := rfl

theorem pend_eq (pos re : Nat) (rest : Text) : pend pos re rest = rest.drop (re - pos) := by
  rw [pend]
  rcases Nat.le_total pos re with h | h
  · rw [Nat.max_eq_right h]
  · rw [Nat.max_eq_left h, Nat.sub_self, Nat.sub_eq_zero_of_le h]

/-- `ppos` is where `pend` starts: the end of the text stays where it is -/
theorem ppos_end (pos re : Nat) (rest : Text) : ppos pos re rest + (pend pos re rest).length = pos + rest.length := by
  rw [ppos, pend, List.length_drop]
  generalize max pos re - pos = k
  omega

theorem ppos_of_pend {p p' e e' : Nat} {X X' : Text} (h : pend p' e' X' = pend p e X) (hE : p' + X'.length = p + X.length) :
    ppos p' e' X' = ppos p e X ∧ pend p' e' X' = pend p e X := by
  have h1 := ppos_end p e X
  have h2 := ppos_end p' e' X'
  rw [h] at h2
  exact ⟨by omega, h⟩

theorem pend_of_le {pos re : Nat} (rest : Text) (h : re ≤ pos) : ppos pos re rest = pos ∧ pend pos re rest = rest := by
  rw [ppos, pend, Nat.max_eq_left h, Nat.sub_self]
  exact ⟨by rw [Nat.zero_min]; rfl, rfl⟩

theorem pend_append_beyond {pos re : Nat} (a t : Text) (h : pos + a.length ≤ re) :
    ppos pos re (a ++ t) = ppos (pos + a.length) re t ∧ pend pos re (a ++ t) = pend (pos + a.length) re t := by
  refine ppos_of_pend ?_ (by rw [List.length_append, Nat.add_assoc])
  rw [pend_eq, pend_eq, List.drop_append, List.drop_of_length_le (by omega), List.nil_append, Nat.sub_add_eq]

theorem pend_max {pos re : Nat} (e : Nat) (rest : Text) (h : re ≤ pos) :
    ppos pos (max re e) rest = ppos pos e rest ∧ pend pos (max re e) rest = pend pos e rest := by
  rw [ppos, pend, ← Nat.max_assoc, Nat.max_eq_left h]
  exact ⟨rfl, rfl⟩

theorem pend_move {p e d : Nat} (X : Text) (h : d = 0 ∨ p + d ≤ e) (hX : d ≤ X.length) :
    ppos (p + d) e (X.drop d) = ppos p e X ∧ pend (p + d) e (X.drop d) = pend p e X := by
  rcases h with rfl | h
  · exact ⟨rfl, rfl⟩
  · refine ppos_of_pend ?_ (by rw [List.length_drop]; omega)
    rw [pend_eq, pend_eq, List.drop_drop, Nat.sub_add_eq, Nat.add_sub_of_le (Nat.le_sub_of_add_le' h)]

theorem specGo_nil_rest (pos : Nat) (rs : List Repl) : specGo pos [] rs = (rs.map (·.content)).flatten := by
  induction rs generalizing pos with
  | nil => rfl
  | cons r rs ih => simp [specGo, ih]

theorem specGo_shift (a tail : Text) (pos : Nat) (r : Repl) (rs : List Repl)
    (h1 : pos + a.length ≤ r.start) (h2 : r.start ≤ r.stop) :
    specGo pos (a ++ tail) (r :: rs) = a ++ specGo (pos + a.length) tail (r :: rs) := by
  obtain ⟨e1, e2⟩ := pend_append_beyond a tail (Nat.le_trans h1 h2)
  rw [specGo_cons, specGo_cons, e1, e2, List.take_append, List.take_of_length_le (by omega), Nat.sub_add_eq]
  simp only [List.append_assoc]

def afterLoop (chunk tail : Text) (endPos : Nat) (res : Text × (Nat × List Repl × Nat) × Option Nat) : Text :=
  match res.2.2 with
  | none => specGo (ppos res.2.1.1 res.2.1.2.2 tail) (pend res.2.1.1 res.2.1.2.2 tail) res.2.1.2.1
  | some cp' => chunk.drop cp' ++ specGo endPos tail res.2.1.2.1

/-- text-only rendering of settling the skip mark `re` for a walker at `pos`, `cp` bytes into the chunk: `none` when the callback
returns, else the walker's new `(chunk_pos, pos)` -/
def settleR (endPos cp pos re : Nat) : Option (Nat × Nat) :=
  if pos < re then if endPos ≤ re then none else some (cp + (re - pos), re) else some (cp, pos)

theorem settleR_place {endPos cs cp pos re cp' pos' : Nat} (h : settleR endPos cp pos re = some (cp', pos')) (hp : pos = cs + cp) :
    pos' = cs + cp' := by
  unfold settleR at h
  split at h
  · split at h
    · cases h
    · cases h; omega
  · cases h; exact hp

theorem settleR_spec (chunk tail : Text) {cs cp pos : Nat} (re : Nat) (hpos : pos = cs + cp) (hcp : cp ≤ chunk.length) :
    match settleR (cs + chunk.length) cp pos re with
    | none => ppos pos re (chunk.drop cp ++ tail) = ppos (cs + chunk.length) re tail
        ∧ pend pos re (chunk.drop cp ++ tail) = pend (cs + chunk.length) re tail
    | some (cp', pos') => cp' ≤ chunk.length ∧ re ≤ pos'
        ∧ ppos pos re (chunk.drop cp ++ tail) = pos' ∧ pend pos re (chunk.drop cp ++ tail) = chunk.drop cp' ++ tail := by
  have hlen : pos + (chunk.drop cp).length = cs + chunk.length := by rw [List.length_drop]; omega
  by_cases hlt : pos < re
  · by_cases hend : cs + chunk.length ≤ re
    · rw [settleR, if_pos hlt, if_pos hend, ← hlen]
      exact pend_append_beyond _ tail (hlen ▸ hend)
    · rw [settleR, if_pos hlt, if_neg hend]
      obtain ⟨a1, a2⟩ : cp + (re - pos) ≤ chunk.length ∧ re - pos ≤ (chunk.drop cp ++ tail).length := by
        rw [List.length_append]; omega
      have hm := pend_move (p := pos) (e := re) (chunk.drop cp ++ tail) (.inr (Nat.le_of_eq (Nat.add_sub_of_le (Nat.le_of_lt hlt)))) a2
      rw [Nat.add_sub_of_le (Nat.le_of_lt hlt), drop_window chunk tail cp _ a1, (pend_of_le _ (Nat.le_refl re)).1,
        (pend_of_le _ (Nat.le_refl re)).2] at hm
      exact ⟨a1, Nat.le_refl _, hm.1.symm, hm.2.symm⟩
  · rw [settleR, if_neg hlt]
    exact ⟨hcp, Nat.le_of_not_lt hlt, pend_of_le _ (Nat.le_of_not_lt hlt)⟩

theorem ite_adv (a b : Nat) : (if a > b then a else b) = b + (a - b) := by split <;> omega
theorem ite_add_sub (c a b : Nat) : (if a > b then c + (a - b) else c) = c + (a - b) := by split <;> omega
theorem ite_take (l : Text) (a b : Nat) : (if a > b then l.take (a - b) else []) = l.take (a - b) := by
  split
  · rfl
  · rw [Nat.sub_eq_zero_of_le (by omega), List.take_zero]

theorem loopR_cons (chunk : Text) (endPos : Nat) (r : Repl) (rs : List Repl) (cp pos re : Nat) (h : r.start < endPos) :
    loopR chunk endPos (r :: rs) cp pos re =
      match settleR endPos (cp + (r.start - pos)) (pos + (r.start - pos)) (max re r.stop) with
      | none => ((chunk.drop cp).take (r.start - pos) ++ r.content, (endPos, rs, max re r.stop), none)
      | some (cp', pos') => ((chunk.drop cp).take (r.start - pos) ++ r.content ++ (loopR chunk endPos rs cp' pos' (max re r.stop)).1,
          (loopR chunk endPos rs cp' pos' (max re r.stop)).2) := by
  rw [loopR, if_pos h]
  simp only [ite_adv, ite_add_sub, ite_take, settleR]
  by_cases h1 : pos + (r.start - pos) < max re r.stop
  · by_cases h2 : endPos ≤ max re r.stop
    · rw [if_pos h1, if_pos h2, if_pos h1, if_pos h2]
    · rw [if_pos h1, if_neg h2, if_pos h1, if_neg h2]
  · rw [if_neg h1, if_neg h1]

theorem loopR_stop (chunk : Text) (endPos : Nat) (r : Repl) (rs : List Repl) (cp pos re : Nat) (h : ¬ r.start < endPos) :
    loopR chunk endPos (r :: rs) cp pos re = ([], (pos, r :: rs, re), some cp) := by
  rw [loopR, if_neg h]

theorem loopR_early (chunk : Text) (endPos : Nat) : ∀ (rs : List Repl) (cp p r : Nat),
    (loopR chunk endPos rs cp p r).2.2 = none → (loopR chunk endPos rs cp p r).2.1.1 = endPos := by
  intro rs
  induction rs with
  | nil => intro cp p r h; cases h
  | cons x xs ih =>
    intro cp p r
    by_cases h : x.start < endPos
    · rw [loopR_cons chunk endPos x xs cp p r h]
      split
      · exact fun _ => rfl
      · exact ih _ _ _
    · rw [loopR_stop chunk endPos x xs cp p r h]; nofun

theorem loopR_spec (chunk tail : Text) (cs : Nat) (rs : List Repl) (hwf : ∀ r ∈ rs, r.start ≤ r.stop) :
    ∀ (cp pos re : Nat), pos = cs + cp → cp ≤ chunk.length → re ≤ pos →
    specGo pos (chunk.drop cp ++ tail) rs
      = (loopR chunk (cs + chunk.length) rs cp pos re).1
        ++ afterLoop chunk tail (cs + chunk.length) (loopR chunk (cs + chunk.length) rs cp pos re)
    ∧ (∀ cp', (loopR chunk (cs + chunk.length) rs cp pos re).2.2 = some cp' →
        (loopR chunk (cs + chunk.length) rs cp pos re).2.1.2.2 ≤ cs + chunk.length)
    ∧ (∀ x ∈ (loopR chunk (cs + chunk.length) rs cp pos re).2.1.2.1, x ∈ rs) := by
  induction rs with
  | nil =>
    intro cp pos re hpos hcp hre
    exact ⟨rfl, fun _ _ => Nat.le_trans hre (hpos ▸ Nat.add_le_add_left hcp cs), fun _ h => h⟩
  | cons r rs ih =>
    intro cp pos re hpos hcp hre
    have hr : r.start ≤ r.stop := hwf r List.mem_cons_self
    have hlen : pos + (chunk.drop cp).length = cs + chunk.length := by rw [List.length_drop]; omega
    by_cases hlt : r.start < cs + chunk.length
    · -- the walker moves on to the replacement, if that starts beyond it: the splice takes the same text from the chunk, and the walker
      -- does not pass the end of the replacement
      obtain ⟨a1, a2⟩ : r.start - pos ≤ (chunk.drop cp).length ∧ cp + (r.start - pos) ≤ chunk.length := by omega
      have a3 : r.start - pos = 0 ∨ pos + (r.start - pos) ≤ max re r.stop :=
        (Nat.le_total r.start pos).imp Nat.sub_eq_zero_of_le fun h => Nat.add_sub_of_le h ▸ Nat.le_trans hr (Nat.le_max_right _ _)
      have hm := pend_move (chunk.drop cp ++ tail) a3 (by rw [List.length_append]; exact Nat.le_trans a1 (Nat.le_add_right _ _))
      rw [drop_window chunk tail cp _ a2, (pend_max r.stop _ hre).1, (pend_max r.stop _ hre).2] at hm
      have hp : pos + (r.start - pos) = cs + (cp + (r.start - pos)) := by rw [hpos, Nat.add_assoc]
      have hs := settleR_spec chunk tail (max re r.stop) hp a2
      rw [specGo_cons, List.take_append_of_le_length a1, ← hm.1, ← hm.2, loopR_cons chunk _ r rs cp pos re hlt]
      split at hs
      · exact ⟨by rw [hs.1, hs.2]; rfl, nofun, fun x hx => List.mem_cons_of_mem r hx⟩
      · rename_i cp' pos' heq
        obtain ⟨hc, he, h4, h5⟩ := hs
        obtain ⟨h1, h2, h3⟩ := ih (fun x hx => hwf x (List.mem_cons_of_mem r hx)) cp' pos' _ (settleR_place heq hp) hc he
        refine ⟨?_, h2, fun x hx => List.mem_cons_of_mem r (h3 x hx)⟩
        rw [h4, h5, h1, ← List.append_assoc]; rfl
    · rw [loopR_stop chunk _ r rs cp pos re hlt]
      refine ⟨?_, fun _ _ => Nat.le_trans hre (hpos ▸ Nat.add_le_add_left hcp cs), fun _ h => h⟩
      rw [specGo_shift _ tail pos r rs (hlen ▸ Nat.le_of_not_lt hlt) hr, hlen]; rfl

theorem stepR_eq (pos re : Nat) (rs : List Repl) (chunk : Text) :
    stepR (pos, rs, re) chunk =
      match settleR (pos + chunk.length) 0 pos re with
      | none => ([], (pos + chunk.length, rs, re))
      | some (cp0, pos0) =>
        match loopR chunk (pos + chunk.length) rs cp0 pos0 re with
        | (o, s, none) => (o, s)
        | (o, (_, rs', re'), some cp) => (o ++ chunk.drop cp, (pos + chunk.length, rs', re')) := by
  rw [stepR, settleR]
  by_cases h1 : pos < re
  · by_cases h2 : pos + chunk.length ≤ re
    · simp only [h1, h2, and_self, if_true]
    · simp only [h1, h2, and_false, if_true, if_false, Nat.zero_add]
  · simp only [h1, false_and, if_false]

theorem stepR_spec (chunk tail : Text) (pos re : Nat) (rs : List Repl) (hwf : ∀ r ∈ rs, r.start ≤ r.stop) :
    specGo (ppos pos re (chunk ++ tail)) (pend pos re (chunk ++ tail)) rs
      = (stepR (pos, rs, re) chunk).1
        ++ specGo (ppos (stepR (pos, rs, re) chunk).2.1 (stepR (pos, rs, re) chunk).2.2.2 tail)
                  (pend (stepR (pos, rs, re) chunk).2.1 (stepR (pos, rs, re) chunk).2.2.2 tail)
                  (stepR (pos, rs, re) chunk).2.2.1
    ∧ (∀ r ∈ (stepR (pos, rs, re) chunk).2.2.1, r.start ≤ r.stop)
    ∧ (stepR (pos, rs, re) chunk).2.1 = pos + chunk.length := by
  have hs := settleR_spec chunk tail (cs := pos) (cp := 0) (pos := pos) re rfl (Nat.zero_le _)
  rw [List.drop_zero] at hs
  rw [stepR_eq]
  split at hs
  · exact ⟨by rw [hs.1, hs.2]; rfl, hwf, rfl⟩
  · rename_i cp0 pos0 heq
    obtain ⟨hc, he, h4, h5⟩ := hs
    obtain ⟨h1, h2, h3⟩ := loopR_spec chunk tail pos rs hwf cp0 pos0 re (settleR_place heq rfl) hc he
    have hearly := loopR_early chunk (pos + chunk.length) rs cp0 pos0 re
    rw [h4, h5, h1]
    generalize loopR chunk (pos + chunk.length) rs cp0 pos0 re = res at h2 h3 hearly
    obtain ⟨o, ⟨p', rs', re'⟩, _ | cp'⟩ := res
    · exact ⟨hearly rfl ▸ rfl, fun r hr => hwf r (h3 r hr), hearly rfl⟩
    · refine ⟨?_, fun r hr => hwf r (h3 r hr), rfl⟩
      show o ++ (chunk.drop cp' ++ specGo (pos + chunk.length) tail rs') = o ++ chunk.drop cp' ++ specGo _ (pend (pos + chunk.length) re' tail) rs'
      rw [(pend_of_le tail (h2 cp' rfl)).1, (pend_of_le tail (h2 cp' rfl)).2, List.append_assoc]

theorem emitContent_text (gc : Nat) (orig : Option Orig) (lines : List Text) (nameIdx : Option Nat) (st : RSt) (line : Int) :
    evsText (emitContent gc orig lines nameIdx st line).2.1 = lines.flatten := by
  induction lines generalizing nameIdx st line with
  | nil => rfl
  | cons cl cls ih => simp only [emitContent, evsText_cons, Ev.text, List.flatten_cons, ih]

theorem rBefore_spec (chunk : Text) (line : Int) (r : Repl) (st : RSt) (l : LSt) :
    evsText (rBefore chunk line r st l).2.2 = (chunk.drop l.chunkPos).take (r.start - st.pos)
    ∧ (rBefore chunk line r st l).1.pos = st.pos + (r.start - st.pos)
    ∧ (rBefore chunk line r st l).2.1.chunkPos = l.chunkPos + (r.start - st.pos)
    ∧ (rBefore chunk line r st l).1.re = st.re := by
  unfold rBefore
  split
  · rename_i h
    refine ⟨?_, (Nat.add_sub_of_le (Nat.le_of_lt h)).symm, rfl, rfl⟩
    rw [evsText_singleton, Ev.text, bsub, Nat.add_sub_cancel_left]
  · rename_i h
    rw [Nat.sub_eq_zero_of_le (Nat.le_of_not_lt h)]
    exact ⟨rfl, rfl, rfl, rfl⟩

theorem rSettle_sim (chunk : Text) (gl endPos : Nat) (st : RSt) (l : LSt) :
    (rSettle chunk gl endPos st l).Ends
      (fun st' => settleR endPos l.chunkPos st.pos (reOf st) = none ∧ st'.pos = endPos ∧ st'.rest = st.rest ∧ reOf st' = reOf st)
      fun st' l' => settleR endPos l.chunkPos st.pos (reOf st) = some (l'.chunkPos, st'.pos) ∧ st'.rest = st.rest ∧ reOf st' = reOf st := by
  unfold rSettle settleR rSkip
  split
  · rename_i hlt
    split
    · obtain ⟨sp, sr, se, _⟩ := skipWhole_sim st chunk gl l.gc (chunk.length - l.chunkPos) endPos
      exact ⟨rfl, sp, sr, by rw [reOf, se]; rfl⟩
    · obtain ⟨sp, sr, se, _⟩ := colShift_sim { st with pos := st.pos + (reOf st - st.pos) } ((gl : Int) + st.lineOff) ((reOf st - st.pos : Nat) : Int)
      refine ⟨?_, sr, by rw [reOf, se]; rfl⟩
      rw [sp]
      show _ = some (_, st.pos + (reOf st - st.pos))
      rw [Nat.add_sub_of_le (Nat.le_of_lt hlt)]
  · exact ⟨rfl, rfl, rfl⟩

theorem rIter_sim (chunk : Text) (gl cs : Nat) (r : Repl) (rs : List Repl) (st : RSt) (l : LSt) (hpos : st.pos = cs + l.chunkPos) :
    evsText (rIter chunk gl (cs + chunk.length) r rs st l).1 = (chunk.drop l.chunkPos).take (r.start - st.pos) ++ r.content
    ∧ (rIter chunk gl (cs + chunk.length) r rs st l).2.Ends
      (fun st' => settleR (cs + chunk.length) (l.chunkPos + (r.start - st.pos)) (st.pos + (r.start - st.pos)) (max (reOf st) r.stop) = none
        ∧ st'.pos = cs + chunk.length ∧ st'.rest = rs ∧ reOf st' = max (reOf st) r.stop)
      fun st' l' => settleR (cs + chunk.length) (l.chunkPos + (r.start - st.pos)) (st.pos + (r.start - st.pos)) (max (reOf st) r.stop)
          = some (l'.chunkPos, st'.pos)
        ∧ st'.rest = rs ∧ reOf st' = max (reOf st) r.stop := by
  obtain ⟨b1, b2, b3, b4⟩ := rBefore_spec chunk ((gl : Int) + st.lineOff) r st l
  have hre : reOf st = reOf (rBefore chunk ((gl : Int) + st.lineOff) r st l).1 := by rw [reOf, reOf, b4]
  rw [rIter_eq hpos]
  refine ⟨?_, ?_⟩
  · dsimp only
    rw [evsText_append, evsText_append, b1, evsText_anns (rName_noChunk _ _ _), emitContent_text, splitLines_join, List.append_nil]
  · rw [← b3, ← b2, hre, ← (rContent_frame ..).1]
    exact rSettle_sim ..

theorem rLoop_sim (chunk : Text) (gl cs : Nat) (rs : List Repl) (st : RSt) (l : LSt) (hpos : st.pos = cs + l.chunkPos) :
    loopR chunk (cs + chunk.length) rs l.chunkPos st.pos (reOf st)
      = (evsText (rLoop chunk gl (cs + chunk.length) rs st l).2.1,
         ((rLoop chunk gl (cs + chunk.length) rs st l).1.pos, (rLoop chunk gl (cs + chunk.length) rs st l).1.rest,
           reOf (rLoop chunk gl (cs + chunk.length) rs st l).1),
         (rLoop chunk gl (cs + chunk.length) rs st l).2.2.map (·.chunkPos)) := by
  fun_induction rLoop chunk gl (cs + chunk.length) rs st l with
  | case1 st l => rfl
  | case2 r rs st l hlt evs st' heq =>
    obtain ⟨t1, h1, h2, h3, h4⟩ := heq ▸ rIter_sim chunk gl cs r rs st l hpos
    rw [loopR_cons chunk _ r rs _ _ _ hlt, h1, ← t1, ← h2, ← h3, ← h4]; rfl
  | case3 r rs st l hlt evs st' l' heq _ ih =>
    obtain ⟨t1, h1, h3, h4⟩ := heq ▸ rIter_sim chunk gl cs r rs st l hpos
    rw [loopR_cons chunk _ r rs _ _ _ hlt, h1, ← h4]
    dsimp only
    rw [ih (settleR_place h1 (by rw [hpos, Nat.add_assoc])), ← t1, evsText_append]
  | case4 r rs st l hlt => rw [loopR_stop chunk _ r rs _ _ _ hlt]; rfl

theorem rOnChunk_sim (st : RSt) (chunk : Text) (m : Mapping) :
    stepR (st.pos, st.rest, reOf st) chunk
      = (evsText (rOnChunk st chunk m).2, ((rOnChunk st chunk m).1.pos, (rOnChunk st chunk m).1.rest, reOf (rOnChunk st chunk m).1)) := by
  have hs := rSettle_sim chunk m.gl (st.pos + chunk.length) st ⟨0, m.gc, m.orig⟩
  rw [rOnChunk_eq, stepR_eq]
  generalize rSettle chunk m.gl (st.pos + chunk.length) st ⟨0, m.gc, m.orig⟩ = s at hs ⊢
  cases s with
  | done st' =>
    obtain ⟨h1, h2, h3, h4⟩ := hs
    rw [h1]
    dsimp only
    rw [h2, h3, h4]; rfl
  | cont st1 l1 =>
    obtain ⟨h1, h3, h4⟩ := hs
    rw [h1]
    dsimp only
    rw [← h4, rLoop_sim chunk m.gl st.pos st.rest st1 l1 (settleR_place h1 (Nat.add_zero _).symm)]
    generalize rLoop chunk m.gl (st.pos + chunk.length) st.rest st1 l1 = R
    obtain ⟨st2, evs, _ | l2⟩ := R
    · rfl
    · dsimp only [Option.map_some]
      rw [evsText_append]
      congr 2
      split
      · exact (evsText_singleton (.chunk (some _) _)).symm
      · exact List.drop_eq_nil_of_le (Nat.le_of_not_lt ‹_›)

theorem rEvs_text : ∀ (evs : List Ev) (st : RSt), (∀ r ∈ st.rest, r.start ≤ r.stop) →
    evsText (rEvs st evs).2 ++ ((rEvs st evs).1.rest.map (·.content)).flatten
      = specGo (ppos st.pos (reOf st) (evsText evs)) (pend st.pos (reOf st) (evsText evs)) st.rest := by
  intro evs
  induction evs with
  | nil => intro st _; rw [evsText_nil, pend, List.drop_nil, specGo_nil_rest]; rfl
  | cons e es ih =>
    intro st hwf
    show evsText ((rEv st e).2 ++ (rEvs (rEv st e).1 es).2) ++ ((rEvs (rEv st e).1 es).1.rest.map (·.content)).flatten = _
    rw [evsText_append, List.append_assoc, evsText_cons]
    cases e with
    | chunk t m =>
      obtain ⟨h1, h2, _⟩ := stepR_spec (t.getD []) (evsText es) st.pos (reOf st) st.rest hwf
      rw [rOnChunk_sim st (t.getD []) m] at h1 h2
      rw [show (Ev.chunk t m).text = t.getD [] by cases t <;> rfl, h1]
      exact congrArg (_ ++ ·) (ih _ h2)
    | source i src c => exact ih _ hwf
    | name i n => exact (congrArg (· ++ _) (evsText_anns (globalName_anns _ _))).trans (ih _ hwf)

/-- **ReplaceSource streaming emits exactly the replaced text**: whatever the inner stream's chunking and
mappings, the concatenated chunk texts of `replaceStream` are `specGo` applied to the inner text. -/
theorem replaceStream_text (sorted : List Repl) (inner : SResult) (hwf : ∀ r ∈ sorted, r.start ≤ r.stop) :
    evsText (replaceStream sorted inner).evs = specGo 0 (evsText inner.evs) sorted := by
  have h : _ = specGo (ppos 0 0 _) (pend 0 0 _) sorted := rEvs_text inner.evs { rest := sorted } hwf
  rw [(pend_of_le _ (Nat.le_refl 0)).1, (pend_of_le _ (Nat.le_refl 0)).2] at h
  simp only [replaceStream, evsText_append, rRemainder_eq _ _ none, emitContent_text, splitLines_join]
  exact h

end Rs
