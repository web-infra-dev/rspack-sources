import RsModel.Lemmas.NameLevel
/-!
# C08 at name level: a SourceMapSource attributes every byte to the file name, content, line, column and name that looking its
position up in the map gives — resolved through the map's own tables with `sourceRoot` applied
-/
namespace Rs

/-- what a consumer resolves an original location of the map `sm` to: file name with `sourceRoot` applied, its content, line,
column, name -/
def resolveSM (sm : SMap) (o : Orig) : RLoc :=
  ⟨(sm.sources[o.src]?).map fun s => (applyRoot sm.sourceRoot s, sm.sourcesContent[o.src]?), o.line, o.col, o.name.map fun k => sm.names[k]?⟩

theorem smFullGo_cnt (lines : List Text) (fl fc : Nat) (ms : List Mapping) (s : FullSt) :
    cntS (smFullGo lines fl fc s ms) = 0 ∧ cntN (smFullGo lines fl fc s ms) = 0 :=
  chunkOrigs_cnt _ _ (smFullGo_origs (fun _ => True) lines fl fc ms s (fun _ _ => trivial) (fun _ _ _ _ => trivial))

/-- the first disjunct: without text a SourceMapSource delivers nothing at all -/
theorem streamSMFull_tables (t : Text) (sm : SMap) :
    (streamSMFull t sm).evs = []
    ∨ (tblS emptyS (streamSMFull t sm).evs = fun i => (sm.sources[i]?).map fun s => (applyRoot sm.sourceRoot s, sm.sourcesContent[i]?))
      ∧ tblN emptyN (streamSMFull t sm).evs = fun k => sm.names[k]? := by
  unfold streamSMFull
  cases hne : (splitLines t).isEmpty with
  | true => left; simp only [hne, if_true]
  | false =>
    right
    simp only [hne, Bool.false_eq_true, if_false]
    rw [tblS_append, tblS_append, tblS_noSource _ _ (smFullGo_cnt _ _ _ _ _).1, tblS_noSource _ _ (smNameEvs_decl sm 0).2.1,
      tblN_append, tblN_append, tblN_noName _ _ (smFullGo_cnt _ _ _ _ _).2, tblN_noName _ emptyN (smSourceEvs_decl sm 0).2.2]
    unfold smSourceEvs smNameEvs
    rw [List.range_eq_range', List.range_eq_range']
    constructor
    · funext i
      rw [tblS_sourceEvs]
      by_cases h : i < sm.sources.length <;> simp [h, emptyS]
    · funext k
      rw [tblN_nameEvs]
      by_cases h : k < sm.names.length <;> simp [h, emptyN]

/-- **C08, name level, columns = true, normal mode**: every byte of the stream of a SourceMapSource resolves — through the
sources and names the stream itself announces — to the file name (with `sourceRoot` applied), the content, the original line and
column and the name that looking the byte's position up in the map and resolving the indices through the map's own tables gives -/
theorem streamSM_attrN (t : Text) (sm : SMap) (ha : IsAscii t) (hl : t.length ≤ USIZE_MAX) (hsorted : sortedFrom 1 0 (decode sm.mappings))
    (hseg : ∀ m ∈ decode sm.mappings, SegOK (splitLines t) (adv startPos t).line (adv startPos t).col m) (hidx : MapIdxOK sm) :
    attrN emptyS emptyN (streamSM t sm ⟨true, false⟩).evs = (attrFrom (decode sm.mappings) startPos t).map (Option.map (resolveSM sm)) := by
  have hd : DeclOK 0 0 (streamSMFull t sm).evs := streamSM_declOK t sm ⟨true, false⟩ hidx
  show attrN emptyS emptyN (streamSMFull t sm).evs = _
  rw [attrN_end_tables _ 0 0 emptyS emptyN hd, ← streamSMFull_attr t sm ha hl hsorted hseg]
  -- a consumer of the stream resolves a location as a consumer of the map does
  rcases streamSMFull_tables t sm with h | ⟨hS, hN⟩
  · rw [h]; rfl
  · rw [hS, hN]; rfl

/-- … and at the level of names, for a map without `sourceRoot` (what a CachedSource stores): the file name and name a consumer of the
map reads off its `sources` / `names` -/
theorem streamSM_NA (t : Text) (sm : SMap) (ha : IsAscii t) (hl : t.length ≤ USIZE_MAX) (hsorted : sortedFrom 1 0 (decode sm.mappings))
    (hseg : ∀ m ∈ decode sm.mappings, SegOK (splitLines t) (adv startPos t).line (adv startPos t).col m) (hidx : MapIdxOK sm)
    (hroot : sm.sourceRoot = none) :
    NA (streamSM t sm ⟨true, false⟩).evs = (attrFrom (decode sm.mappings) startPos t).map (Option.map (resolveMF sm)) := by
  unfold NA
  rw [streamSM_attrN t sm ha hl hsorted hseg hidx, List.map_map]
  apply List.map_congr_left
  intro a _
  cases a with
  | none => rfl
  | some o =>
    simp only [Function.comp, Option.map_some, resolveSM, resolveMF, RLoc.toN, hroot, applyRoot, Option.some.injEq, NLoc.mk.injEq, and_true]
    cases sm.sources[o.src]? <;> rfl

end Rs
