import RsModel.Model.Json
/-!
# C15 — SourceMap JSON serialisation is valid and round-trips
This file: the document `to_json` writes as a list of optional members (`slots`; `writeSMap_slots`, `toDoc_slots`), and the string
level: escaping is inverted by an RFC 8259 string parser (`parse_escaped`).  JsonDoc parses the written document back.
-/
namespace Rs.Json

/-- the document `to_json` writes, as a value -/
def toDoc (m : SMap) : JVal :=
  .obj ([(k_version, JVal.num [51])] ++
    (match m.file with | some f => [(k_file, JVal.str f)] | none => []) ++
    [(k_sources, JVal.arr (m.sources.map .str))] ++
    (if allEmpty m.sourcesContent then [] else [(k_sourcesContent, JVal.arr (m.sourcesContent.map .str))]) ++
    [(k_names, JVal.arr (m.names.map .str)), (k_mappings, JVal.str m.mappings)] ++
    (match m.sourceRoot with | some f => [(k_sourceRoot, JVal.str f)] | none => []) ++
    (match m.debugId with | some f => [(k_debugId, JVal.str f)] | none => []))

theorem optStrArr_strs (l : List Text) : optStrArr (.arr (l.map .str)) = some l := by
  simp only [optStrArr]
  induction l with
  | nil => rfl
  | cons a as ih => rw [List.map_cons, List.mapM_cons, ih]; rfl

/-- `from_json` as a function of what it looks at: the duplicate check and the seven field lookups -/
def smapOfFields (dup : Bool) (fm ff fr fd fs fc fn : Option JVal) : Option SMap :=
  if dup then none else
  match fm with
  | some (.str mappings) => do
    let file ← match ff with | some v => optStr v | none => some none
    let sourceRoot ← match fr with | some v => optStr v | none => some none
    let debugId ← match fd with | some v => optStr v | none => some none
    let sources ← match fs with | some v => optStrArr v | none => some []
    let sourcesContent ← match fc with | some v => optStrArr v | none => some []
    let names ← match fn with | some v => optStrArr v | none => some []
    pure { mappings, sources, sourcesContent, names, file, sourceRoot, debugId }
  | _ => none

theorem smapOfJson_fields (kvs : List (Text × JVal)) :
    smapOfJson (.obj kvs) = smapOfFields (dupKnown kvs) (field kvs k_mappings) (field kvs k_file) (field kvs k_sourceRoot)
      (field kvs k_debugId) (field kvs k_sources) (field kvs k_sourcesContent) (field kvs k_names) := by
  unfold smapOfJson smapOfFields; rfl

/-- lookups that found what `toDoc` puts there (`c`: `sourcesContent` was omitted) are read back as the map -/
theorem smapOfFields_strs (c : Bool) (mappings : Text) (sources sc names : List Text) (file root dbg : Option Text) :
    smapOfFields false (some (.str mappings)) (file.map .str) (root.map .str) (dbg.map .str) (some (.arr (sources.map .str)))
      (if c then none else some (.arr (sc.map .str))) (some (.arr (names.map .str)))
    = some ⟨mappings, sources, if c then [] else sc, names, file, root, dbg⟩ := by
  cases c <;> simp only [smapOfFields, optStrArr_strs, Bool.false_eq_true, if_false, if_true] <;>
    cases file <;> cases root <;> cases dbg <;> rfl

/-- the members that are present among `slots`: each slot is a key and, when the member is written, what is written -/
def present {α} (slots : List (Text × Option α)) : List (Text × α) :=
  slots.filterMap fun s => s.2.map (s.1, ·)

theorem present_cons_some {α} (k : Text) (v : α) (s) : present ((k, some v) :: s) = (k, v) :: present s := rfl

theorem filter_present_absent {α} (k : Text) : ∀ slots : List (Text × Option α), k ∉ slots.map (·.1) →
    (present slots).filter (·.1 == k) = []
  | [], _ => rfl
  | (k', o) :: s, h => by
    rw [List.map_cons, List.mem_cons, not_or] at h
    have ih := filter_present_absent k s h.2
    cases o with
    | none => exact ih
    | some v => rw [present_cons_some, List.filter_cons_of_neg (by simpa using Ne.symm h.1), ih]

theorem filter_present {α} (k : Text) (o : Option α) : ∀ slots : List (Text × Option α), (slots.map (·.1)).Nodup →
    (k, o) ∈ slots → (present slots).filter (·.1 == k) = (o.map (k, ·)).toList
  | (k', o') :: s, hn, h => by
    rw [List.map_cons, List.nodup_cons] at hn
    rcases List.mem_cons.1 h with heq | hmem
    · cases heq
      have ih := filter_present_absent k s hn.1
      cases o with
      | none => exact ih
      | some v => rw [present_cons_some, List.filter_cons_of_pos (by simp), ih]; rfl
    · have hne : k' ≠ k := fun e => hn.1 (e ▸ List.mem_map_of_mem (f := (·.1)) hmem)
      have ih := filter_present k o s hn.2 hmem
      cases o' with
      | none => exact ih
      | some v => rw [present_cons_some, List.filter_cons_of_neg (by simpa using hne), ih]

/-- a rendering and the value it stands for -/
structure Written where
  w : Text
  v : JVal

def docOf (slots : List (Text × Option Written)) : List (Text × JVal) :=
  (present slots).map fun p => (p.1, p.2.v)

theorem filter_docOf (slots : List (Text × Option Written)) (k : Text) :
    (docOf slots).filter (·.1 == k) = ((present slots).filter (·.1 == k)).map fun p => (p.1, p.2.v) := by
  rw [docOf, List.filter_map]; rfl

theorem field_docOf (slots : List (Text × Option Written)) (hn : (slots.map (·.1)).Nodup) (k : Text)
    (o : Option Written) (h : (k, o) ∈ slots) : field (docOf slots) k = o.map (·.v) := by
  rw [field, ← List.head?_filter, filter_docOf, filter_present k o slots hn h]
  cases o <;> rfl

theorem dupKnown_docOf (slots : List (Text × Option Written)) (hn : (slots.map (·.1)).Nodup) :
    dupKnown (docOf slots) = false := by
  rw [dupKnown, List.any_eq_false]
  intro k _
  rw [filter_docOf, List.length_map]
  by_cases hk : k ∈ slots.map (·.1)
  · obtain ⟨⟨k', o⟩, hmem, rfl⟩ := List.mem_map.1 hk
    rw [filter_present _ o slots hn hmem]
    cases o <;> simp
  · rw [filter_present_absent k slots hk]; simp

/-- the members `to_json` can write, in its order; the optional ones are absent when not set, `sourcesContent` when all
its entries are empty -/
def slots (m : SMap) : List (Text × Option Written) :=
  [(k_version, some ⟨[51], .num [51]⟩), (k_file, m.file.map fun f => ⟨writeStr f, .str f⟩),
   (k_sources, some ⟨writeStrArr m.sources, .arr (m.sources.map .str)⟩),
   (k_sourcesContent, if allEmpty m.sourcesContent then none
      else some ⟨writeStrArr m.sourcesContent, .arr (m.sourcesContent.map .str)⟩),
   (k_names, some ⟨writeStrArr m.names, .arr (m.names.map .str)⟩), (k_mappings, some ⟨writeStr m.mappings, .str m.mappings⟩),
   (k_sourceRoot, m.sourceRoot.map fun f => ⟨writeStr f, .str f⟩), (k_debugId, m.debugId.map fun f => ⟨writeStr f, .str f⟩)]

def memberBytes (p : Text × Written) : Text := key p.1 ++ p.2.w

/-- `writeSMap` writes the renderings of the present slots and `toDoc` lists their values; which optional members are present
decides the shape of both sides, and for each shape they are the same list -/
theorem writeSMap_slots (m : SMap) :
    writeSMap m = [123] ++ sepBy [44] ((present (slots m)).map memberBytes) ++ [125] := by
  obtain ⟨mappings, sources, sc, names, file, root, dbg⟩ := m
  simp only [writeSMap, slots]
  generalize allEmpty sc = c
  cases file <;> cases root <;> cases dbg <;> cases c <;> rfl

theorem toDoc_slots (m : SMap) : toDoc m = .obj (docOf (slots m)) := by
  obtain ⟨mappings, sources, sc, names, file, root, dbg⟩ := m
  simp only [toDoc, slots]
  generalize allEmpty sc = c
  cases file <;> cases root <;> cases dbg <;> cases c <;> rfl

theorem slots_keys_nodup (m : SMap) : ((slots m).map (·.1)).Nodup := by
  show [k_version, k_file, k_sources, k_sourcesContent, k_names, k_mappings, k_sourceRoot, k_debugId].Nodup
  decide

theorem hexVal_hexDigit : ∀ n, n < 16 → hexVal (hexDigit n) = some n := by decide

theorem hex4_ctrl (b : UInt8) (h : b.toNat < 32) (rest : Text) :
    hex4 (48 :: 48 :: hexDigit (b.toNat / 16) :: hexDigit (b.toNat % 16) :: rest) = some (b.toNat, rest) := by
  have h1 := hexVal_hexDigit (b.toNat / 16) (by omega)
  have h2 := hexVal_hexDigit (b.toNat % 16) (by omega)
  have h0 : hexVal 48 = some 0 := by decide
  simp only [hex4, h0, h1, h2, Option.bind_eq_bind, Option.bind_some, Option.pure_def]
  congr 2; omega

theorem escByte_other (b : UInt8) (h : b ∉ [34, 92, 8, 12, 10, 13, 9]) :
    escByte b = if b.toNat < 32 then [92, 117, 48, 48, hexDigit (b.toNat / 16), hexDigit (b.toNat % 16)] else [b] := by
  simp only [List.mem_cons, List.not_mem_nil, or_false, not_or] at h
  simp only [escByte, h, if_false]

theorem escByte_pos (b : UInt8) : 0 < (escByte b).length := by
  by_cases h : b ∈ [34, 92, 8, 12, 10, 13, 9]
  · simp only [List.mem_cons, List.not_mem_nil, or_false] at h
    rcases h with rfl | rfl | rfl | rfl | rfl | rfl | rfl <;> decide
  · rw [escByte_other b h]
    split <;> exact Nat.succ_pos _

theorem escaped_length (t : Text) : t.length ≤ ((t.map escByte).flatten).length := by
  induction t with
  | nil => exact Nat.le_refl 0
  | cons b t ih =>
    have := escByte_pos b
    simp only [List.map_cons, List.flatten_cons, List.length_append, List.length_cons]; omega

theorem parse_escByte (b : UInt8) (fuel : Nat) (acc rest : Text) :
    parseStrBody (fuel + 1) acc (escByte b ++ rest) = parseStrBody fuel (b :: acc) rest := by
  by_cases h : b ∈ [34, 92, 8, 12, 10, 13, 9]
  · simp only [List.mem_cons, List.not_mem_nil, or_false] at h
    rcases h with rfl | rfl | rfl | rfl | rfl | rfl | rfl <;> rfl
  · rw [escByte_other b h]
    simp only [List.mem_cons, List.not_mem_nil, or_false, not_or] at h
    by_cases hlt : b.toNat < 32
    · have hu : ¬ (0xD800 ≤ b.toNat ∧ b.toNat < 0xDC00) := by omega
      have hu2 : ¬ (0xDC00 ≤ b.toNat ∧ b.toNat < 0xE000) := by omega
      have h80 : b.toNat < 0x80 := by omega
      simp +decide only [hlt, if_true, if_false, List.cons_append, List.nil_append, parseStrBody, hex4_ctrl b hlt, hu, hu2,
        utf8, h80, List.reverse_cons, List.reverse_nil, UInt8.ofNat_toNat]
    · simp only [hlt, if_false, List.cons_append, List.nil_append, parseStrBody, h.1, h.2.1]

theorem parse_escaped (t : Text) : ∀ (acc rest : Text) (fuel : Nat), t.length + 1 ≤ fuel →
    parseStrBody fuel acc ((t.map escByte).flatten ++ 34 :: rest) = some (acc.reverse ++ t, rest) := by
  induction t with
  | nil =>
    intro acc rest fuel h
    obtain ⟨f, rfl⟩ : ∃ f, fuel = f + 1 := ⟨fuel - 1, by omega⟩
    simp [parseStrBody]
  | cons b t ih =>
    intro acc rest fuel h
    obtain ⟨f, rfl⟩ : ∃ f, fuel = f + 1 := ⟨fuel - 1, by simp at h; omega⟩
    simp only [List.map_cons, List.flatten_cons, List.append_assoc]
    rw [parse_escByte, ih _ _ _ (by simp at h; omega)]
    simp

theorem writeStr_append (t rest : Text) : writeStr t ++ rest = 34 :: ((t.map escByte).flatten ++ 34 :: rest) := by
  simp only [writeStr, List.append_assoc, List.cons_append, List.nil_append]

/-- the body of a written string, after the opening quote, with the fuel `parseVal` and `parseMembers` give it -/
theorem parseStr_escaped (t rest : Text) :
    parseStrBody (((t.map escByte).flatten ++ 34 :: rest).length + 1) [] ((t.map escByte).flatten ++ 34 :: rest)
      = some (t, rest) := by
  have := escaped_length t
  rw [parse_escaped t [] rest _ (by rw [List.length_append, List.length_cons]; omega)]
  rfl

theorem parseVal_writeStr (t rest : Text) (fuel : Nat) :
    parseVal (fuel + 1) (writeStr t ++ rest) = some (.str t, rest) := by
  rw [writeStr_append, parseVal, skipWs, if_neg (by decide)]
  simp only [parseStr_escaped, Option.map_some]

end Rs.Json
