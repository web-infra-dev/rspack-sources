import RsModel.Lemmas.AttrStream
import RsModel.Lemmas.Replay
/-!
# C09: the recorded inner line data and the search in it

`combInnerEv` records, per generated line of the inner stream, the chunk mappings of that line in stream order (`fold_segs`).
`find_inner_mapping` then answers exactly the lookup "last chunk mapping on that line at or before the column" (`findInner_lookup`).
-/
namespace Rs

def toSeg (m : Mapping) : InnerSeg :=
  { gc := m.gc
    src := match m.orig with | some o => o.src | none => -1
    line := match m.orig with | some o => o.line | none => -1
    col := match m.orig with | some o => o.col | none => -1
    name := match m.orig with | some o => (match o.name with | some n => (n : Int) | none => -1) | none => -1 }

/-- the segments recorded for generated line `L`.  The model spells the body out: `combOnChunk` as it stands here, `findInner` with
`default` for `{}` (the same value); statements about those two that keep the model's spelling follow from the ones about `segsAt` by unfolding -/
def segsAt (ld : List LineData) (L : Nat) : List InnerSeg := (ld.getD (L - 1) {}).segs

theorem getD_set_self {α} (l : List α) (i : Nat) (v d : α) (h : i < l.length) : (l.set i v).getD i d = v := by
  rw [List.getD_eq_getElem?_getD, List.getElem?_set_self h]; rfl

theorem getD_set_other {α} (l : List α) (i j : Nat) (v d : α) (h : i ≠ j) : (l.set i v).getD j d = l.getD j d := by
  rw [List.getD_eq_getElem?_getD, List.getD_eq_getElem?_getD, List.getElem?_set_ne h]

theorem getD_append_replicate (l : List LineData) (k j : Nat) : (l ++ List.replicate k ({} : LineData)).getD j ({} : LineData) = l.getD j ({} : LineData) := by
  rw [List.getD_eq_getElem?_getD, List.getD_eq_getElem?_getD]
  rcases Nat.lt_or_ge j l.length with h | h
  · rw [List.getElem?_append_left h]
  · rw [List.getElem?_append_right h, List.getElem?_replicate, List.getElem?_eq_none h]
    split <;> rfl

/-- `on_chunk` of the inner stream. The program pads the table only if it is shorter than `m.gl + 1` lines; that test only spares an
empty padding, so the padding stands here without it -/
theorem combInnerEv_lineData (st : CombSt) (text : Option Text) (m : Mapping) : (combInnerEv st (.chunk text m)).lineData
    = (st.lineData ++ List.replicate (m.gl + 1 - st.lineData.length) ({} : LineData)).set (m.gl - 1)
        { segs := (st.lineData.getD (m.gl - 1) {}).segs ++ [toSeg m], chunks := (st.lineData.getD (m.gl - 1) {}).chunks ++ [text.getD []] } := by
  have hpad : (if st.lineData.length ≤ m.gl then st.lineData ++ List.replicate (m.gl + 1 - st.lineData.length) ({} : LineData) else st.lineData)
      = st.lineData ++ List.replicate (m.gl + 1 - st.lineData.length) ({} : LineData) := by
    split
    · rfl
    · rw [Nat.sub_eq_zero_of_le (by omega), List.replicate_zero, List.append_nil]
  simp only [combInnerEv, hpad, getD_append_replicate]
  rfl

theorem combInnerEv_segs (st : CombSt) (text : Option Text) (m : Mapping) (hm : 1 ≤ m.gl) (L : Nat) (hL : 1 ≤ L) :
    segsAt (combInnerEv st (.chunk text m)).lineData L = segsAt st.lineData L ++ ([m].filter fun x => x.gl == L).map toSeg := by
  rw [segsAt, combInnerEv_lineData]
  by_cases hmL : m.gl = L
  · subst hmL
    rw [getD_set_self _ _ _ _ (by simp only [List.length_append, List.length_replicate]; omega),
      List.filter_cons_of_pos (p := fun x : Mapping => x.gl == m.gl) (beq_self_eq_true _)]
    rfl
  · rw [getD_set_other _ _ _ _ _ (by omega), getD_append_replicate, List.filter_cons_of_neg (p := fun x : Mapping => x.gl == L) (mt beq_iff_eq.1 hmL)]
    exact (List.append_nil _).symm

theorem fold_segs : ∀ (evs : List Ev) (st : CombSt) (L : Nat), 1 ≤ L → (∀ m ∈ chunkMs evs, 1 ≤ m.gl) →
    segsAt (evs.foldl combInnerEv st).lineData L = segsAt st.lineData L ++ ((chunkMs evs).filter fun m => m.gl == L).map toSeg
  | [], st, L, _, _ => (List.append_nil _).symm
  | .chunk t m :: es, st, L, hL, h1 => by
    rw [List.foldl_cons, fold_segs es _ L hL fun x hx => h1 x (List.mem_cons_of_mem _ hx), combInnerEv_segs st t m (h1 m List.mem_cons_self) L hL,
      List.append_assoc, ← List.map_append, ← List.filter_append]
    rfl
  | .source .. :: es, st, L, hL, h1 | .name .. :: es, st, L, hL, h1 => fold_segs es _ L hL h1

def SegsSorted (segs : List InnerSeg) : Prop := ∀ i j, i ≤ j → j < segs.length → (segs.getD i default).gc ≤ (segs.getD j default).gc

theorem mid_bounds {l r : Nat} (h : l < r) : l ≤ (l + r) / 2 ∧ (l + r) / 2 < r := by omega

theorem bisect_le (segs : List InnerSeg) (col : Int) : ∀ (fuel l r : Nat), l ≤ r → r ≤ segs.length → bisect segs col fuel l r ≤ segs.length := by
  intro fuel l r
  fun_induction bisect segs col fuel l r with
  | case1 => exact Nat.le_trans
  | case2 _ _ _ hlr _ _ ih => exact fun _ h2 => ih (mid_bounds hlr).2 h2
  | case3 _ _ _ hlr _ _ ih => exact fun _ h2 => ih (mid_bounds hlr).1 (Nat.le_trans (Nat.le_of_lt (mid_bounds hlr).2) h2)
  | case4 => exact Nat.le_trans

theorem bisect_spec (segs : List InnerSeg) (col : Int) (hs : SegsSorted segs) : ∀ (fuel l r : Nat), l ≤ r → r ≤ segs.length → r - l < fuel →
    (∀ i, i < l → (segs.getD i default).gc ≤ col) → (∀ i, r ≤ i → i < segs.length → col < (segs.getD i default).gc) →
    (∀ i, i < bisect segs col fuel l r → (segs.getD i default).gc ≤ col)
    ∧ (∀ i, bisect segs col fuel l r ≤ i → i < segs.length → col < (segs.getD i default).gc) := by
  intro fuel l r
  fun_induction bisect segs col fuel l r with
  | case1 => exact fun _ _ h => absurd h (Nat.not_lt_zero _)
  | case2 _ _ _ hlr mid hm ih =>
    -- the middle segment stands at or before the column, and so do those before it, by the order
    intro _ h2 h3 _ hhi
    obtain ⟨m1, m2⟩ := mid_bounds hlr
    exact ih m2 h2 (by omega) (fun i hi => Int.le_trans (hs i mid (Nat.le_of_lt_succ hi) (by omega)) hm) hhi
  | case3 _ _ _ hlr mid hm ih =>
    intro _ h2 h3 hlo _
    obtain ⟨m1, m2⟩ := mid_bounds hlr
    exact ih m1 (by omega) (by omega) hlo fun i hi hlen => Int.lt_of_lt_of_le (Int.not_le.1 hm) (hs mid i hi hlen)
  | case4 _ _ _ hlr =>
    intro h1 _ _ hlo hhi
    cases Nat.le_antisymm h1 (Nat.not_lt.1 hlr)
    exact ⟨hlo, hhi⟩

/-- what the bisection of `find_inner_mapping` returns for a whole line: on a sorted line, the number of segments at or before `col` -/
def segCount (segs : List InnerSeg) (col : Int) : Nat := bisect segs col (segs.length + 1) 0 segs.length

theorem segCount_le (segs : List InnerSeg) (col : Int) : segCount segs col ≤ segs.length :=
  bisect_le segs col _ 0 _ (Nat.zero_le _) (Nat.le_refl _)

theorem segCount_spec {segs : List InnerSeg} (hs : SegsSorted segs) (col : Int) :
    (∀ i, i < segCount segs col → (segs.getD i default).gc ≤ col)
    ∧ (∀ i, segCount segs col ≤ i → i < segs.length → col < (segs.getD i default).gc) :=
  bisect_spec segs col hs _ 0 _ (Nat.zero_le _) (Nat.le_refl _) (Nat.lt_succ_self _) (fun _ hi => nomatch hi) (fun _ hi hl => absurd hl (Nat.not_lt.2 hi))

theorem findInner_some {st : CombSt} {line col : Int} {idx : Nat} (h : findInner st line col = some idx) :
    0 < line ∧ line.toNat ≤ st.lineData.length ∧ segCount (st.lineData.getD (line.toNat - 1) default).segs col = idx + 1 := by
  unfold findInner at h
  split at h
  · cases h
  · dsimp only at h
    split at h
    · cases h
    · cases h
      exact ⟨by omega, by omega, by unfold segCount; omega⟩

theorem findInner_none {st : CombSt} {line col : Int} (h1 : 0 < line) (h2 : line.toNat ≤ st.lineData.length)
    (h : findInner st line col = none) : segCount (st.lineData.getD (line.toNat - 1) default).segs col = 0 := by
  unfold findInner at h
  rw [if_neg (by omega)] at h
  dsimp only at h
  split at h
  · assumption
  · cases h

theorem getD_mem {α} (l : List α) (i : Nat) (d : α) (h : i < l.length) : l.getD i d ∈ l := getD_of_lt d h ▸ List.getElem_mem h

theorem findInner_mem (st : CombSt) (line col : Int) (idx : Nat) (h : findInner st line col = some idx) :
    st.lineData.getD (line.toNat - 1) {} ∈ st.lineData
    ∧ (st.lineData.getD (line.toNat - 1) {}).segs.getD idx default ∈ (st.lineData.getD (line.toNat - 1) {}).segs := by
  obtain ⟨h1, h2, hk⟩ := findInner_some h
  have hidx := segCount_le (st.lineData.getD (line.toNat - 1) default).segs col
  rw [hk] at hidx
  exact ⟨getD_mem _ _ _ (by omega), getD_mem _ _ _ hidx⟩

theorem segsSorted_of_pairwise {segs : List InnerSeg} (h : segs.Pairwise (fun a b => a.gc ≤ b.gc)) : SegsSorted segs := fun i j hij hj => by
  rcases Nat.eq_or_lt_of_le hij with rfl | hlt
  · exact Int.le_refl _
  · rw [getD_of_lt _ (Nat.lt_trans hlt hj), getD_of_lt _ hj]
    exact List.pairwise_iff_getElem.1 h i j _ hj hlt

/-- on one line the order of the mappings is that of their columns, and neither the filter nor `toSeg` disturbs it -/
theorem filter_sorted (ms : List Mapping) (L : Nat) (h : ms.Pairwise mle) :
    SegsSorted ((ms.filter fun m => m.gl == L).map toSeg) := by
  refine segsSorted_of_pairwise (List.pairwise_map.2 ((h.sublist List.filter_sublist).imp_of_mem fun {a b} ha hb hab => ?_))
  have e : a.gl = b.gl := (eq_of_beq (List.mem_filter.1 ha).2).trans (eq_of_beq (List.mem_filter.1 hb).2).symm
  rcases hab with g | g
  · exact absurd g (e ▸ Nat.lt_irrefl _)
  · exact Int.ofNat_le.2 g.2

theorem findInner_lookup (st : CombSt) (ms : List Mapping) (hsort : ms.Pairwise mle) (L C : Nat) (hL : 1 ≤ L)
    (hseg : segsAt st.lineData L = (ms.filter fun m => m.gl == L).map toSeg) :
    match findInner st L C with
    | some idx => idx < (ms.filter fun m => m.gl == L).length
        ∧ (segsAt st.lineData L).getD idx default = toSeg ((ms.filter fun m => m.gl == L).getD idx default)
        ∧ lookupGo L C none ms = some ((ms.filter fun m => m.gl == L).getD idx default).orig
        ∧ ((ms.filter fun m => m.gl == L).getD idx default).gc ≤ C
    | none => lookupGo L C none ms = none := by
  rw [← lookupGo_filter L C (·.gl == L) ms none fun _ _ h => beq_iff_eq.2 h.1]
  have hs := filter_sorted ms L hsort
  have hall : ∀ m ∈ ms.filter (fun m => m.gl == L), m.gl = L := fun m hm => by simpa using (List.mem_filter.1 hm).2
  generalize ms.filter (fun m => m.gl == L) = F at *
  have hget : ∀ i, i < F.length → (F.map toSeg).getD i default = toSeg (F.getD i default) := by
    intro i hi
    rw [List.getD_eq_getElem?_getD, List.getD_eq_getElem?_getD, List.getElem?_map, List.getElem?_eq_getElem hi]
    rfl
  have hsegs : (st.lineData.getD (L - 1) default).segs = F.map toSeg := hseg
  have hle := segCount_le (F.map toSeg) C
  obtain ⟨hlo, hhi⟩ := segCount_spec hs C
  rw [List.length_map] at hle hhi
  -- the lookup sees line `L` only (the filter above); that line is sorted, so the bisection's count `k` of segments at or before `C`
  -- cuts it where the linear lookup matches last: both answer segment `k - 1`, and nothing when `k = 0`
  have hsplit := lookupGo_split L C F _ none hall hle
    (fun i hi => by have := hlo i hi; rw [hget i (by omega)] at this; exact Int.ofNat_le.1 this)
    (fun i h1 h2 => by have := hhi i h1 h2; rw [hget i h2] at this; exact Int.ofNat_lt.1 this)
  cases hf : findInner st L C with
  | none =>
    by_cases hbig : st.lineData.length < L
    · -- a line beyond the table reads as empty
      rw [List.getD_eq_getElem?_getD, List.getElem?_eq_none (Nat.le_sub_one_of_lt hbig)] at hsegs
      rw [List.map_eq_nil_iff.1 hsegs.symm]
      rfl
    · have hk := findInner_none (by omega) (by omega) hf
      rw [Int.toNat_natCast, hsegs] at hk
      rw [hsplit, if_pos hk]
  | some idx =>
    obtain ⟨_, _, hk⟩ := findInner_some hf
    rw [Int.toNat_natCast, hsegs] at hk
    have hcol := hlo idx (by omega)
    rw [hget _ (by omega)] at hcol
    rw [hk] at hsplit
    exact ⟨by omega, hseg ▸ hget _ (by omega), hsplit, Int.ofNat_le.1 hcol⟩

end Rs
