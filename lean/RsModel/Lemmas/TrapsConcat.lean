import RsModel.Model.Checked
import RsModel.Lemmas.HasText
import RsModel.Lemmas.PosConcat
/-!
# ConcatSource's `u32` arithmetic agrees with the model's unbounded addition

`concatStreamS` (the crate: `generated_column.saturating_add(current_column_offset)`, fix F16) equals `concatStream` (the model
every other theorem is about) whenever a chunk column plus the accumulated column offset stays below 2³²; `concatStreamC` (every
`u32` addition of the bookkeeping a partial operation) is `some` of it when the lines stay below 2³² as well.  Both hold for
children that report true positions (C02) of texts below 4 GiB in total.
-/
namespace Rs
namespace Chk

theorem concatEvS_eq (final : Bool) (st : CSt) (e : Ev) (h : ∀ t m, e = .chunk t m → m.gc + st.colOff < 2 ^ 32) :
    concatEvS final st e = concatEv final st e := by
  cases e with
  | chunk t m =>
    have := h t m rfl
    have e : min (m.gc + st.colOff) (2 ^ 32 - 1) = m.gc + st.colOff := Nat.min_eq_left (by omega)
    simp only [concatEvS, concatEv, satAdd32, e]
    generalize (m.orig.bind fun o => st.sim[o.src]?) = rsi
    cases rsi <;> cases m.orig <;> rfl
  | source i s c => rfl
  | name i n => rfl

theorem concatEvsS_eq (final : Bool) : ∀ (evs : List Ev) (st : CSt), (∀ t m, Ev.chunk t m ∈ evs → m.gc + st.colOff < 2 ^ 32) →
    concatEvsS final st evs = concatEvs final st evs
  | [], _, _ => rfl
  | e :: es, st, h => by
    rw [concatEvsS, concatEvs_cons, concatEvS_eq final st e (fun t m he => h t m (he ▸ List.mem_cons_self)),
      concatEvsS_eq final es _ (fun t m hm => by rw [concatEv_colOff]; exact h t m (List.mem_cons_of_mem _ hm))]

theorem concatChildS_eq (final : Bool) (st : CSt) (c : SResult) (h : ∀ t m, Ev.chunk t m ∈ c.evs → m.gc + st.colOff < 2 ^ 32) :
    concatChildS final st c = concatChild final st c := by
  have e : concatEvsS final { st with sim := [], nim := [], lastMappingLine := 0 } c.evs = _ :=
    concatEvsS_eq final c.evs (childStart st) h
  unfold concatChildS
  dsimp only
  rw [e]
  rfl

/-- what a child's stream satisfies when it reports positions inside a text of `n` bytes -/
def ChildB (n : Nat) (c : SResult) : Prop :=
  (∀ t m, Ev.chunk t m ∈ c.evs → m.gl ≤ n + 1 ∧ m.gc ≤ n) ∧ 1 ≤ c.info.line ∧ c.info.line ≤ n + 1 ∧ c.info.col ≤ n

def sumText : List SResult → Nat
  | [] => 0
  | c :: cs => (evsText c.evs).length + sumText cs

/-! When every child reports positions inside its own text, both offsets of the fold are at most the bytes of the children
behind it, and a reported line or column plus an offset is at most the bytes of all children (plus one, for a line): the two
chains below carry `offset + bytes still to come` as their bound. -/

theorem concatGoS_eq (final : Bool) : ∀ (cs : List SResult) (st : CSt),
    (∀ c ∈ cs, ChildB (evsText c.evs).length c) → st.colOff + sumText cs < 2 ^ 32 → concatGoS final st cs = concatGo final st cs := by
  intro cs
  induction cs with
  | nil => intro st _ _; rfl
  | cons c cs ih =>
    intro st hc hs
    rw [sumText] at hs
    obtain ⟨h1, _, _, h4⟩ := hc c List.mem_cons_self
    rw [concatGoS, concatGo_cons, concatChildS_eq final st c (fun t m hm => by have := (h1 t m hm).2; omega),
      ih _ (fun c' h' => hc c' (List.mem_cons_of_mem _ h')) (by rw [(concatChild_offs final st c).2]; split <;> omega)]

/-- **the crate's ConcatSource (saturating column addition) and the model's (unbounded) agree** when every child reports
positions inside its own text and the texts total less than 4 GiB -/
theorem concatStreamS_eq (final : Bool) (cs : List SResult) (hc : ∀ c ∈ cs, ChildB (evsText c.evs).length c)
    (hs : sumText cs < 2 ^ 32) : concatStreamS final cs = concatStream final cs := by
  rw [concatStreamS, concatGoS_eq final cs {} hc (by simpa using hs)]
  rfl

theorem concatEvsC_eq (final : Bool) : ∀ (evs : List Ev) (st : CSt),
    (∀ t m, Ev.chunk t m ∈ evs → m.gl + st.lineOff < 2 ^ 32 ∧ m.gc + st.colOff < 2 ^ 32) → st.lineOff + 1 < 2 ^ 32 →
    concatEvsC final st evs = some (concatEvs final st evs) := by
  intro evs
  induction evs with
  | nil => intro st _ _; rfl
  | cons e es ih =>
    intro st h h1
    have he : concatEvC final st e = some (concatEv final st e) := by
      rw [← concatEvS_eq final st e fun t m hm => (h t m (hm ▸ List.mem_cons_self)).2]
      cases e with
      | chunk t m => exact if_pos ⟨(h t m List.mem_cons_self).1, fun _ => h1⟩
      | source i s c => rfl
      | name i n => rfl
    rw [concatEvsC, he]
    dsimp only
    rw [ih _ (fun t m hm => by rw [concatEv_lineOff, concatEv_colOff]; exact h t m (List.mem_cons_of_mem _ hm))
      (by rw [concatEv_lineOff]; exact h1)]
    rfl

theorem concatChildC_eq (final : Bool) (N : Nat) (st : CSt) (c : SResult) (hc : ChildB N c)
    (hl : st.lineOff + N + 2 < 2 ^ 32) (hcol : st.colOff + N < 2 ^ 32) :
    concatChildC final st c = some (concatChild final st c) := by
  obtain ⟨h1, h2, h3, h4⟩ := hc
  have o1 : (concatEvs final (childStart st) c.evs).1.lineOff = st.lineOff := concatEvs_lineOff final c.evs _
  have o2 : (concatEvs final (childStart st) c.evs).1.colOff = st.colOff := concatEvs_colOff final c.evs _
  have e : concatEvsC final { st with sim := [], nim := [], lastMappingLine := 0 } c.evs = _ := concatEvsC_eq final c.evs (childStart st)
    (fun t m hm => by
      show m.gl + st.lineOff < 2 ^ 32 ∧ m.gc + st.colOff < 2 ^ 32
      have := h1 t m hm; omega)
    (show st.lineOff + 1 < 2 ^ 32 by omega)
  rw [concatChildC]
  dsimp only
  rw [e]
  dsimp only
  rw [if_pos ⟨fun _ => by rw [o1]; omega, fun _ => by rw [o2]; omega, h2, by rw [o1]; omega⟩]
  rfl

theorem concatGoC_eq (final : Bool) : ∀ (cs : List SResult) (st : CSt), (∀ c ∈ cs, ChildB (evsText c.evs).length c) →
    st.lineOff + sumText cs + 2 < 2 ^ 32 → st.colOff + sumText cs < 2 ^ 32 →
    concatGoC final st cs = some (concatGo final st cs) ∧ (concatGo final st cs).1.lineOff ≤ st.lineOff + sumText cs := by
  intro cs
  induction cs with
  | nil => intro st _ _ _; exact ⟨rfl, Nat.le_refl _⟩
  | cons c cs ih =>
    intro st hc hl hco
    rw [sumText] at hl hco ⊢
    obtain ⟨_, _, h3, h4⟩ := hc c List.mem_cons_self
    obtain ⟨o1, o2⟩ := concatChild_offs final st c
    obtain ⟨e, hle⟩ := ih (concatChild final st c).1 (fun c' h' => hc c' (List.mem_cons_of_mem _ h'))
      (by rw [o1]; omega) (by rw [o2]; split <;> omega)
    rw [concatGoC, concatChildC_eq final _ st c (hc c List.mem_cons_self) (by omega) (by omega)]
    dsimp only
    rw [e]
    exact ⟨rfl, Nat.le_trans hle (by rw [o1]; omega)⟩

/-- **ConcatSource's `u32` line and column bookkeeping cannot overflow** when every child reports positions inside its own text
and the texts total less than 4 GiB − 2: the checked stream is the model's (so the crate's saturating column addition, fix F16,
never saturates either) -/
theorem concatStreamC_eq (final : Bool) (cs : List SResult) (hc : ∀ c ∈ cs, ChildB (evsText c.evs).length c)
    (hs : sumText cs + 2 < 2 ^ 32) : concatStreamC final cs = some (concatStream final cs) := by
  obtain ⟨e, hle⟩ := concatGoC_eq final cs {} hc (by simpa using hs) (by simp only [Nat.zero_add]; omega)
  rw [concatStreamC, e]
  dsimp only
  rw [if_pos (by simp only [Nat.zero_add] at hle; omega)]
  rfl

/-- a stream that reports true positions of its own text reports them inside that text: each chunk sits at the end of a prefix
(`posOKT_mem`), and a position is bounded by the length of what leads to it (`adv_bound`) -/
theorem posOK_childB (r : SResult) (hp : PosOK r) (hTL : evsTL r.evs = false) : ChildB (evsText r.evs).length r := by
  obtain ⟨b1, b2⟩ := adv_bound (evsText r.evs)
  have b0 : 1 ≤ (adv startPos (evsText r.evs)).line := by rw [adv_char]; exact Nat.le_add_right 1 _
  rw [← hp.2] at b0 b1 b2
  refine ⟨fun t m hm => ?_, b0, b1, b2⟩
  cases t with
  | none => cases (evsTL_false_iff _).1 hTL _ hm
  | some tx =>
    obtain ⟨pre', rest, e, hpos⟩ := posOKT_mem r.evs [] hp.1 tx m hm
    obtain ⟨q1, q2⟩ := adv_bound pre'
    rw [← hpos] at q1 q2
    have hlen := congrArg List.length e
    simp only [List.nil_append, List.length_append] at hlen
    dsimp only at q1 q2
    omega

/-! For children that report true positions (C02), with the 2 GiB bound under which C17 documents the two facts. -/

theorem concatStreamS_eq_of_posOK (final : Bool) (cs : List SResult) (hp : ∀ c ∈ cs, PosOK c ∧ evsTL c.evs = false)
    (hlen : 2 * sumText cs < 2 ^ 32) : concatStreamS final cs = concatStream final cs :=
  concatStreamS_eq final cs (fun c hc => posOK_childB c (hp c hc).1 (hp c hc).2)
    (Nat.lt_of_le_of_lt (Nat.le_mul_of_pos_left _ Nat.two_pos) hlen)

theorem concatStreamC_eq_of_posOK (final : Bool) (cs : List SResult) (hp : ∀ c ∈ cs, PosOK c ∧ evsTL c.evs = false)
    (hlen : 2 * sumText cs + 2 < 2 ^ 32) : concatStreamC final cs = some (concatStream final cs) :=
  concatStreamC_eq final cs (fun c hc => posOK_childB c (hp c hc).1 (hp c hc).2)
    (Nat.lt_of_le_of_lt (Nat.add_le_add_right (Nat.le_mul_of_pos_left _ Nat.two_pos) 2) hlen)

end Chk
end Rs
