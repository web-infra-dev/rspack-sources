import RsModel.Lemmas.Lines
import RsModel.Lemmas.CombWalk
import RsModel.Model.Tree
import RsModel.Lemmas.ConcatWalk
/-!
# text projection of the composites: Concat, Combined

`evsText` of what ConcatSource streams is the concatenation of its children's (`concatStream_text`), and of what a SourceMapSource
with inner map streams that of the same source without it (`streamCombined_text`).
-/
namespace Rs

theorem CSt.pending_text (st : CSt) (off : Bool) : evsText (st.pending off) = [] := by
  unfold CSt.pending; split <;> rfl

theorem concatEv_text (st : CSt) (e : Ev) : evsText (concatEv false st e).2 = e.text := by
  cases e with
  | chunk text m =>
    rw [concatEv_chunk, evsText_append, st.pending_text, evsText_singleton]
    cases text <;> rfl
  | source i s c => exact evsText_anns (globalSource_anns _ s c)
  | name i n => exact evsText_anns (globalName_anns _ n)

theorem concatEvs_text : ∀ (evs : List Ev) (st : CSt), evsText (concatEvs false st evs).2 = evsText evs := by
  intro evs
  induction evs with
  | nil => intro st; rfl
  | cons e es ih =>
    intro st
    simp only [concatEvs, evsText_append, concatEv_text, ih, evsText_cons]

theorem concatChild_text (st : CSt) (child : SResult) : evsText (concatChild false st child).2 = evsText child.evs := by
  rw [concatChild_eq, evsText_append, concatEvs_text, CSt.pending_text, List.append_nil]

theorem concatGo_text : ∀ (children : List SResult) (st : CSt),
    evsText (concatGo false st children).2 = (children.map fun c => evsText c.evs).flatten := by
  intro children
  induction children with
  | nil => intro st; rfl
  | cons c cs ih => intro st; simp only [concatGo, evsText_append, concatChild_text, ih, List.map_cons, List.flatten_cons]

theorem concatStream_text (children : List SResult) :
    evsText (concatStream false children).evs = (children.map fun c => evsText c.evs).flatten := by
  simp [concatStream, concatGo_text]

/-! ## combined source map: the outer stream's chunks pass through, each behind the announcements it triggers -/

theorem combOnChunk_text (cfg : CombCfg) (st : CombSt) (chunk : Option Text) (m : Mapping) :
    evsText (combOnChunk cfg st chunk m).2 = (Ev.chunk chunk m).text := by
  obtain ⟨_, anns, o, e, _, ha, _⟩ := combOnChunk_walk cfg st m
  rw [e chunk, evsText_append, evsText_anns ha.isChunk, evsText_singleton]
  cases chunk <;> rfl

theorem combStep_text (cfg : CombCfg) (st : CombSt) (e : Ev) : evsText (combStep cfg st e).2 = e.text := by
  cases e with
  | chunk t m => exact combOnChunk_text cfg st t m
  | source i s c => exact evsText_anns (combStep_anns cfg st rfl).isChunk
  | name i n => rfl

theorem combFold_text (cfg : CombCfg) : ∀ (evs : List Ev) (st : CombSt), evsText (combFold cfg st evs) = evsText evs :=
  combFold_hom evsText (· ++ ·) evsText_append cfg fun st e => (combStep_text cfg st e).trans (evsText_singleton e).symm

theorem streamCombined_text (t : Text) (sm : SMap) (n : Text) (os : Option Text) (im : SMap) (rm : Bool) (o : Opts) :
    evsText (streamCombined t sm n os im rm o).evs = evsText (streamSM t sm o).evs := by
  simp [streamCombined, combFold_text]

end Rs
