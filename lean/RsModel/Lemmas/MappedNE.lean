import RsModel.Lemmas.ReplaceAdvance
import RsModel.Lemmas.Replay
import RsModel.Lemmas.TreeWalk
/-!
# Mapped chunks carry text

`MappedNE evs`: every chunk of the (normal-mode) stream that is mapped has a non-empty text.  True of every stream the crate
produces; it is what makes "the segment governs at least one character" meaningful in the replay theorems of C10.
-/
namespace Rs

def AllNEc (evs : List Ev) : Prop := ∀ t m, Ev.chunk (some t) m ∈ evs → t ≠ []

theorem AllNEc.mapped {evs : List Ev} (h : AllNEc evs) : MappedNE evs := fun t m hm _ => h t m hm


theorem LeafChunk.ne {txt x : Text} {m : Mapping} (h : LeafChunk txt (some x) m) (hm : m.orig.isSome = true) : x ≠ [] := by
  cases h with
  | line hx => exact lines_ne _ (lines_of_splitLines txt) x hx
  | token hx => exact tokens_ne txt x hx
  | stretch _ _ _ ho =>
    rintro rfl
    rcases ho with ho | ho
    · rw [ho] at hm; cases hm
    · cases ho

theorem streamRaw_mappedNE (t : Text) (c : Bool) : MappedNE (streamRaw t ⟨c, false⟩).evs := fun _ _ h => (streamRaw_chunk h).ne

theorem streamOriginal_mappedNE (t name : Text) (c : Bool) : MappedNE (streamOriginal t name ⟨c, false⟩).evs :=
  fun _ _ h => (streamOriginal_chunk h).ne

theorem streamOriginal_allNE (t name : Text) : AllNEc (streamOriginal t name ⟨true, false⟩).evs := by
  intro x m h
  simp only [streamOriginal, if_true, List.mem_cons, reduceCtorEq, false_or] at h
  obtain ⟨_, hx, _, e⟩ := origTokChunks_mem h
  cases e
  exact tokens_ne t x hx

theorem nameEvs_noChunk (sm : SMap) : ∀ e ∈ smNameEvs sm, e.isChunk = false :=
  smNameEvs_noChunk sm

theorem streamSM_mappedNE (t : Text) (sm : SMap) (c : Bool) : MappedNE (streamSM t sm ⟨c, false⟩).evs := fun _ _ h => (streamSM_chunk h).ne

theorem streamCombined_mappedNE (t : Text) (sm : SMap) (n : Text) (os : Option Text) (im : SMap) (rm : Bool) (c : Bool) :
    MappedNE (streamCombined t sm n os im rm ⟨c, false⟩).evs :=
  fun x _ h ho => let ⟨m, hm, hmo⟩ := streamCombined_chunk h; streamSM_mappedNE t sm c x m hm (hmo ho)

theorem concatStream_mappedNE (cs : List SResult) (h : ∀ c ∈ cs, MappedNE c.evs) : MappedNE (concatStream false cs).evs := by
  intro t m hm ho
  obtain ⟨e, _⟩ | ⟨c, hc, t0, m0, st, hm0, e, eo⟩ := concatStream_chunk hm
  · cases e
  · obtain ⟨o, ho⟩ := Option.isSome_iff_exists.1 (eo ▸ ho)
    obtain ⟨o0, h0, _⟩ := trans_some ho
    exact h c hc t m0 (e ▸ hm0) (by rw [h0]; rfl)

theorem replaceStream_allNE (sorted : List Repl) (inner : SResult) : AllNEc (replaceStream sorted inner).evs := by
  intro x mm h
  rcases replaceStream_piece h with ⟨t, _, p, q, _, hpq, hq, e⟩ | ⟨T, cl, hcl, e⟩ <;> cases e
  · intro h0
    have := bsub_length t p q hq
    rw [h0] at this
    exact absurd this (by simp only [List.length_nil]; omega)
  · exact lines_ne _ (lines_of_splitLines T) x hcl

theorem replaceStream_mappedNE (sorted : List Repl) (inner : SResult) : MappedNE (replaceStream sorted inner).evs :=
  (replaceStream_allNE sorted inner).mapped

mutual
/-- holds of every tree (`Src.neHyp_all`): `Src.stream_mappedNE'` is `Src.stream_mappedNE` without it, and is what C10 calls -/
def Src.NEHyp (c : Bool) : Src → Prop
  | .concat cs => cs.NEHyps c
  | .replace inner _ => inner.NEHyp c
  | .cached _ inner => inner.NEHyp c
  | _ => True
def SrcList.NEHyps (c : Bool) : SrcList → Prop
  | .nil => True
  | .cons s r => s.NEHyp c ∧ r.NEHyps c
end

theorem Src.mappedNE_facts : Src.StreamFacts (fun _ => True) (fun _ o r => o.final = false → MappedNE r.evs)
    (fun _ o rs => ∀ r ∈ rs, o.final = false → MappedNE r.evs) :=
  .allNormal (R := fun _ r => MappedNE r.evs) streamRaw_mappedNE (fun t name c _ => streamOriginal_mappedNE t name c)
    (fun t _ map _ _ c _ => streamSM_mappedNE t map c)
    (fun t name map origSrc im remove c _ => streamCombined_mappedNE t map name origSrc im remove c)
    (fun _ _ rs _ => concatStream_mappedNE rs) (fun _ rs _ r _ _ => replaceStream_mappedNE (sortRepls rs) r)
    (fun _ inner m c _ => streamSM_mappedNE inner.src m c)

theorem Src.stream_mappedNE : ∀ (s : Src) (c : Bool) (σ : Store), s.NEHyp c → MappedNE (s.stream ⟨c, false⟩ σ).1.evs :=
  fun s c σ _ => Src.stream_induct .true Src.mappedNE_facts s ⟨c, false⟩ σ trivial rfl

theorem SrcList.streams_mappedNE : ∀ (l : SrcList) (c : Bool) (σ : Store), l.NEHyps c → ∀ r ∈ (l.streams ⟨c, false⟩ σ).1, MappedNE r.evs :=
  fun l c σ _ r hr => SrcList.streams_induct .true Src.mappedNE_facts l ⟨c, false⟩ σ trivial r hr rfl

mutual
theorem Src.neHyp_all : ∀ (s : Src) (c : Bool), s.NEHyp c
  | .raw .. | .rawStr .. | .rawBuf .. | .orig .. | .sms .. => fun _ => trivial
  | .concat cs => SrcList.neHyps_all cs
  | .replace inner _ | .cached _ inner => Src.neHyp_all inner
theorem SrcList.neHyps_all : ∀ (l : SrcList) (c : Bool), l.NEHyps c
  | .nil => fun _ => trivial
  | .cons s r => fun c => ⟨Src.neHyp_all s c, SrcList.neHyps_all r c⟩
end

theorem Src.stream_mappedNE' (s : Src) (c : Bool) (σ : Store) : MappedNE (s.stream ⟨c, false⟩ σ).1.evs :=
  Src.stream_mappedNE s c σ (Src.neHyp_all s c)

end Rs
