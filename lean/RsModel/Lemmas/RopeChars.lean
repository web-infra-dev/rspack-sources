import RsModel.Lemmas.RopeObs
import RsModel.Lemmas.RopeSlice
/-!
# `Rope::char_indices`: the scalar values

Each piece decodes its chars on its own (`chunk.char_indices()`); the flat string decodes them from the whole text.
They agree because every piece is a `&str`: a lead byte's continuation bytes lie inside the same piece.
`Utf8V t`: every lead byte of `t` is followed, inside `t`, by as many continuation bytes as it announces.
-/
namespace Rs
namespace Rope

/-- number of continuation bytes the lead byte announces (the case split of `utf8Decode`) -/
def need (b : UInt8) : Nat := if b.toNat < 128 then 0 else if b.toNat < 224 then 1 else if b.toNat < 240 then 2 else 3

def Utf8V (c : Text) : Prop :=
  ∀ pre b post, c = pre ++ b :: post → isCont b = false → need b ≤ post.length ∧ ∀ j, j < need b → isCont (post.getD j 0) = true

def Complete (c : Text) : Prop := ∀ pre b post, c = pre ++ b :: post → isCont b = false → need b ≤ post.length

theorem Utf8V.complete {c : Text} (h : Utf8V c) : Complete c := fun pre b post e hb => (h pre b post e hb).1

theorem getD_append_left {α} (x y : List α) (d : α) (j : Nat) (h : j < x.length) : (x ++ y).getD j d = x.getD j d := by
  rw [List.getD_eq_getElem?_getD, List.getD_eq_getElem?_getD, List.getElem?_append_left h]

theorem utf8V_nil : Utf8V [] := by
  intro pre b post e; simp at e

theorem utf8V_suffix (x y : Text) (h : Utf8V (x ++ y)) : Utf8V y := by
  intro pre b post e hb
  exact h (x ++ pre) b post (by rw [e, List.append_assoc]) hb

theorem utf8V_prefix (x y : Text) (h : Utf8V (x ++ y)) (hy : pieceOK y = true) : Utf8V x := by
  intro pre b post e hb
  obtain ⟨h1, h2⟩ := h pre b (post ++ y) (by rw [e, List.append_assoc, List.cons_append]) hb
  have hge : need b ≤ post.length := by
    -- otherwise the announced bytes reach into `y`, whose first byte is not a continuation byte
    refine Nat.le_of_not_lt fun hlt => ?_
    have := h2 post.length hlt
    cases y with
    | nil => exact Nat.lt_irrefl _ (Nat.lt_of_lt_of_le hlt (List.append_nil post ▸ h1))
    | cons y0 ys =>
      rw [List.getD_eq_getElem?_getD, List.getElem?_append_right (Nat.le_refl _), Nat.sub_self] at this
      exact Bool.false_ne_true (((Bool.not_eq_true' _).mp hy).symm.trans this)
  exact ⟨hge, fun j hj => getD_append_left post y 0 j (Nat.lt_of_lt_of_le hj hge) ▸ h2 j hj⟩

theorem utf8V_append (x y : Text) (hx : Utf8V x) (hy : Utf8V y) : Utf8V (x ++ y) := by
  intro pre b post e hb
  rcases List.append_eq_append_iff.1 e with ⟨a', _, e2⟩ | ⟨c', e1, e2⟩
  · -- the byte lies in `y`
    exact hy a' b post e2 hb
  · cases c' with
    | nil => exact hy [] b post e2.symm hb
    | cons c0 cs =>
      -- the byte lies in `x`, followed there by `cs`
      obtain ⟨rfl, rfl⟩ := List.cons.inj e2
      obtain ⟨h1, h2⟩ := hx pre b cs e1 hb
      exact ⟨Nat.le_trans h1 (List.length_append ▸ Nat.le_add_right _ _), fun j hj =>
        (getD_append_left cs y 0 j (Nat.lt_of_lt_of_le hj h1)).symm ▸ h2 j hj⟩

theorem complete_tail (b : UInt8) (bs : Text) (h : Complete (b :: bs)) : Complete bs := by
  intro pre b' post e hb
  exact h (b :: pre) b' post (by rw [e]; rfl) hb

theorem utf8Decode_append (b : UInt8) (post more : Text) (h : need b ≤ post.length) :
    utf8Decode b (post ++ more) = utf8Decode b post := by
  unfold need at h
  unfold utf8Decode
  have g : ∀ j, j < post.length → (post ++ more).getD j 0 = post.getD j 0 := getD_append_left post more 0
  by_cases h1 : b.toNat < 128
  · simp only [h1, if_true]
  · by_cases h2 : b.toNat < 224
    · simp only [h1, h2, if_true, if_false] at h ⊢
      rw [g 0 h]
    · by_cases h3 : b.toNat < 240
      · simp only [h1, h2, h3, if_true, if_false] at h ⊢
        rw [g 0 (by omega), g 1 h]
      · simp only [h1, h2, h3, if_false] at h ⊢
        rw [g 0 (by omega), g 1 (by omega), g 2 h]

theorem strCharIndices_append (x y : Text) (off i : Nat) (hc : Complete x) :
    strCharIndices off i (x ++ y) = strCharIndices off i x ++ strCharIndices off (i + x.length) y := by
  fun_induction strCharIndices off i x with
  | case1 i => rfl
  | case2 i b bs hb ih =>
    rw [List.cons_append, strCharIndices, if_pos hb, ih (complete_tail b bs hc), Nat.add_right_comm]; rfl
  | case3 i b bs hb ih =>
    rw [List.cons_append, strCharIndices, if_neg hb, ih (complete_tail b bs hc), Nat.add_right_comm,
      utf8Decode_append b bs y (hc [] b bs rfl (by simpa using hb))]
    rfl

theorem strCharIndices_off : ∀ (t : Text) (off i : Nat), strCharIndices off i t = strCharIndices (off + i) 0 t := by
  intro t
  induction t with
  | nil => intros; rfl
  | cons b bs ih =>
    intro off i
    simp only [strCharIndices]
    rw [ih off (i + 1), ih (off + i) (0 + 1)]
    rfl

theorem charIndices_spec (r : Rope) (h : r.WF) (hv : Utf8V r.render) : r.charIndices = strCharIndices 0 0 r.render := by
  cases r with
  | light s => rfl
  | full ps =>
    suffices hs : ∀ (ps : List (Text × Nat)) (s : Nat), OffsOK s ps → PiecesOK ps → Utf8V (flat ps) →
        (ps.map fun p => strCharIndices p.2 0 p.1).flatten = strCharIndices s 0 (flat ps) from hs ps 0 h.1 h.2 hv
    intro ps
    induction ps with
    | nil => intro s _ _ _; rfl
    | cons p rest ih =>
      obtain ⟨c, o⟩ := p
      intro s ⟨h1, h2⟩ hp hv
      subst h1
      have hr := ((piecesOK_cons _ _).1 hp).2
      rw [flat_cons] at hv ⊢
      -- the first piece decodes on its own: its last char is complete, because the text after it begins a char
      rw [strCharIndices_append c (flat rest) o 0 (utf8V_prefix _ _ hv (pieceOK_flat rest hr)).complete, List.map_cons,
        List.flatten_cons, ih (o + c.length) h2 hr (utf8V_suffix _ _ hv), strCharIndices_off _ o (0 + c.length), Nat.zero_add]

theorem pieceOK_append (x y : Text) (hx : pieceOK x = true) (hy : pieceOK y = true) : pieceOK (x ++ y) = true :=
  (pieceOK_append_eq x y hy).trans hx

theorem utf8V_bsub (t : Text) (a b : Nat) (hv : Utf8V t) (ht : pieceOK t = true) (hab : a ≤ b)
    (ha' : isBoundary t a = true) (hb' : isBoundary t b = true) : Utf8V (bsub t a b) ∧ pieceOK (bsub t a b) = true := by
  have hva : Utf8V (t.drop a) := utf8V_suffix (t.take a) _ (by rw [List.take_append_drop]; exact hv)
  rw [← bsub_append_drop t a b hab] at hva
  exact ⟨utf8V_prefix _ _ hva (pieceOK_drop t b ht hb'), pieceOK_bsub t a b ht ha'⟩

theorem utf8V_flatten : ∀ (ts : List Text), (∀ t ∈ ts, Utf8V t ∧ pieceOK t = true) → Utf8V ts.flatten ∧ pieceOK ts.flatten = true := by
  intro ts
  induction ts with
  | nil => intro _; exact ⟨utf8V_nil, rfl⟩
  | cons t rest ih =>
    intro h
    obtain ⟨a, b⟩ := h t (by simp)
    obtain ⟨c, d⟩ := ih (fun x hx => h x (by simp [hx]))
    simp only [List.flatten_cons]
    exact ⟨utf8V_append _ _ a c, pieceOK_append _ _ b d⟩

end Rope
end Rs
