import RsModel.Lemmas.ReplaceOrig
import RsModel.Lemmas.ProvOrigTree
import RsModel.Lemmas.LeavesAttr
import RsModel.Lemmas.LinesTree
/-!
# C04: what the mapped chunks of a stream say about the files they name

`ProvOK S evs`: reading the stream with the table of announced files `S`, every mapped chunk is a potential token of the file its
source index names (announced with its content), mapped to the token's true position in that file, without a name.  True of
OriginalSource leaves in both column modes (with columns = false the "token" of a chunk is the whole line).
`ProvQ Q S evs`: every mapped chunk names a file of the table with its content `T`, and `Q T text line col` holds — a statement
about the chunk's text and its original line and column relative to `T` only.
Both are instances of `ProvP` (AttrConcat), and a ConcatSource keeps `ProvP P` whenever `P` does not depend on the source index and
asks of the name index at most that it be absent (`Renumbers`): those indices are all a ConcatSource changes.
-/
namespace Rs

def ProvOK : SrcTbl → List Ev → Prop
  | _, [] => True
  | S, .chunk t m :: es =>
    (∀ a, m.orig = some a → ∃ name T tok k, S a.src = some (name, some T) ∧ t = some tok ∧ TokPos T tok a.line a.col k ∧ a.name = none) ∧ ProvOK S es
  | S, .source i s c :: es => ProvOK (upd S i (s, c)) es
  | S, .name _ _ :: es => ProvOK S es

def ProvQ (Q : Text → Option Text → Nat → Nat → Prop) : SrcTbl → List Ev → Prop
  | _, [] => True
  | S, .chunk t m :: es => (∀ a, m.orig = some a → ∃ name T, S a.src = some (name, some T) ∧ Q T t a.line a.col) ∧ ProvQ Q S es
  | S, .source i s c :: es => ProvQ Q (upd S i (s, c)) es
  | S, .name _ _ :: es => ProvQ Q S es

def TokP (T : Text) (t : Option Text) (a : Orig) : Prop := ∃ tok k, t = some tok ∧ TokPos T tok a.line a.col k ∧ a.name = none

theorem provOK_iff : ∀ (evs : List Ev) (S : SrcTbl), ProvOK S evs ↔ ProvP TokP S evs := by
  intro evs
  induction evs with
  | nil => intro _; exact Iff.rfl
  | cons e es ih =>
    intro S
    cases e with
    | chunk t m =>
      refine and_congr (forall_congr' fun a => imp_congr_right fun _ => ?_) (ih S)
      exact ⟨fun ⟨name, T, tok, k, h1, h2⟩ => ⟨name, T, h1, tok, k, h2⟩, fun ⟨name, T, h1, tok, k, h2⟩ => ⟨name, T, tok, k, h1, h2⟩⟩
    | source i s c => exact ih _
    | name i n => exact ih S

theorem provQ_iff (Q : Text → Option Text → Nat → Nat → Prop) : ∀ (evs : List Ev) (S : SrcTbl),
    ProvQ Q S evs ↔ ProvP (fun T t a => Q T t a.line a.col) S evs := by
  intro evs
  induction evs with
  | nil => intro _; exact Iff.rfl
  | cons e es ih =>
    intro S
    cases e with
    | chunk t m => exact and_congr Iff.rfl (ih S)
    | source i s c => exact ih _
    | name i n => exact ih S

theorem provP_mono (P P' : Text → Option Text → Orig → Prop) (h : ∀ T t a, P T t a → P' T t a) :
    ∀ (evs : List Ev) (S : SrcTbl), ProvP P S evs → ProvP P' S evs := by
  intro evs
  induction evs with
  | nil => intro _ _; trivial
  | cons e es ih =>
    intro S hp
    cases e with
    | chunk t m => exact ⟨fun a ha => (by obtain ⟨name, T, h1, h2⟩ := hp.1 a ha; exact ⟨name, T, h1, h _ _ _ h2⟩), ih S hp.2⟩
    | source i s c => exact ih _ hp
    | name i n => exact ih _ hp

theorem provP_noSrc (P : Text → Option Text → Orig → Prop) : ∀ (l : List Ev) (S : SrcTbl), NoSrc l →
    (∀ t m, Ev.chunk t m ∈ l → ∀ a, m.orig = some a → ∃ name T, S a.src = some (name, some T) ∧ P T t a) → ProvP P S l := by
  intro l
  induction l with
  | nil => intro _ _ _; trivial
  | cons e es ih =>
    intro S hn h
    have hn' : NoSrc es := fun i s c hm => hn i s c (List.mem_cons_of_mem _ hm)
    cases e with
    | chunk t m => exact ⟨h t m (by simp), ih S hn' (fun t' m' hm => h t' m' (List.mem_cons_of_mem _ hm))⟩
    | name i n => exact ih S hn' (fun t' m' hm => h t' m' (List.mem_cons_of_mem _ hm))
    | source i s c => exact absurd (List.mem_cons_self) (hn i s c)

theorem noSrc_of_chunks {P : Option Text → Mapping → Prop} {evs : List Ev} (h : ∀ e ∈ evs, ∃ t m, e = Ev.chunk t m ∧ P t m) : NoSrc evs :=
  fun i s c hm => by obtain ⟨_, _, e, _⟩ := h _ hm; cases e

theorem provP_unmapped (P : Text → Option Text → Orig → Prop) (evs : List Ev) (S : SrcTbl)
    (h : ∀ e ∈ evs, ∃ t m, e = Ev.chunk t m ∧ m.orig = none) : ProvP P S evs := by
  refine provP_noSrc P evs S (noSrc_of_chunks h) (fun t m hm a ha => ?_)
  obtain ⟨_, _, e, ho⟩ := h _ hm
  cases e
  rw [ho] at ha; cases ha

theorem tblS_noSrc (l : List Ev) (S : SrcTbl) (h : NoSrc l) : tblS S l = S :=
  tblS_noSource l S (by rw [← annS_length, annS_noSrc l h]; rfl)

theorem tblS_mono (evs : List Ev) (ns nn : Nat) (S : SrcTbl) (hd : DeclOK ns nn evs) (h : ∀ i, ns ≤ i → S i = none) :
    (∀ i x, S i = some x → tblS S evs i = some x) ∧ (∀ i, ns + cntS evs ≤ i → tblS S evs i = none) :=
  ⟨fun i x hx => (tblS_stable evs ns nn S hd i (Or.inl (Nat.lt_of_not_le fun hle => by rw [h i hle] at hx; cases hx))).trans hx,
    fun i hi => (tblS_stable evs ns nn S hd i (Or.inr hi)).trans (h i (by omega))⟩

/-- the stream is cut at the chunk: `ProvP` reads the chunk with the tables announced before it, and what `DeclOK` lets the chunk
use is announced by then, so the rest of the stream leaves it alone -/
theorem provP_at (P : Text → Option Text → Orig → Prop) (evs : List Ev) (S : SrcTbl) (ns nn : Nat) (hp : ProvP P S evs) (hd : DeclOK ns nn evs)
    (t : Option Text) (m : Mapping) (a : Orig) (hm : Ev.chunk t m ∈ evs) (ha : m.orig = some a) :
    ∃ name T, tblS S evs a.src = some (name, some T) ∧ P T t a := by
  obtain ⟨A, B, rfl⟩ := List.append_of_mem hm
  obtain ⟨name, T, h1, h2⟩ := ((provP_append P A _ S).1 hp).2.1 a ha
  have hB := ((declOK_append A _ ns nn).1 hd).2
  exact ⟨name, T, by rw [tblS_append]; exact (tblS_stable B _ _ _ hB.2 _ (Or.inl (hB.1 a ha).1)).trans h1, h2⟩

/-- the same through the SourceMap built from a stream `F` that announces what `N` announces (the text-less stream of the tree whose
normal stream is `N`): the map lists the file the chunk names, with its content, at the chunk's source index -/
theorem provP_map (P : Text → Option Text → Orig → Prop) (c : Bool) (F N : List Ev) (hp : ProvP P emptyS N) (hd : DeclOK 0 0 N)
    (hAC : AllContent N) (hdecls : declsOf F = declsOf N) (sm : SMap) (hm : mapOfEvs c F = some sm)
    (t : Option Text) (m : Mapping) (a : Orig) (hmem : Ev.chunk t m ∈ N) (ha : m.orig = some a) :
    ∃ name T, sm.sources[a.src]? = some name ∧ sm.sourcesContent[a.src]? = some T ∧ P T t a := by
  obtain ⟨name, T, hS, hP⟩ := provP_at P N emptyS 0 0 hp hd t m a hmem ha
  have hidx := (declOK_chunkMs N 0 0 hd m (mem_chunkMs_of_mem _ _ _ hmem) a ha).1
  rw [Nat.zero_add] at hidx
  obtain ⟨h1, h2⟩ := mapOfEvs_file c F N hdecls hd hAC sm hm a.src hidx name T hS
  exact ⟨name, T, h1, h2, hP⟩

theorem provQ_append (Q : Text → Option Text → Nat → Nat → Prop) : ∀ (a b : List Ev) (S : SrcTbl),
    ProvQ Q S (a ++ b) ↔ ProvQ Q S a ∧ ProvQ Q (tblS S a) b := by
  intro a b S
  simp only [provQ_iff]; exact provP_append _ a b S

theorem provQ_mono (Q Q' : Text → Option Text → Nat → Nat → Prop) (h : ∀ T t l c, Q T t l c → Q' T t l c) :
    ∀ (evs : List Ev) (S : SrcTbl), ProvQ Q S evs → ProvQ Q' S evs := fun evs S hp =>
  (provQ_iff Q' evs S).2 (provP_mono _ _ (fun T t a => h T t a.line a.col) evs S ((provQ_iff Q evs S).1 hp))

theorem provQ_unmapped (Q : Text → Option Text → Nat → Nat → Prop) : ∀ (evs : List Ev) (S : SrcTbl),
    (∀ e ∈ evs, ∃ t m, e = Ev.chunk t m ∧ m.orig = none) → ProvQ Q S evs :=
  fun evs S h => (provQ_iff Q evs S).2 (provP_unmapped _ evs S h)

theorem provQ_noSrc (Q : Text → Option Text → Nat → Nat → Prop) : ∀ (l : List Ev) (S : SrcTbl), NoSrc l →
    (∀ t m, Ev.chunk t m ∈ l → ∀ a, m.orig = some a → ∃ name T, S a.src = some (name, some T) ∧ Q T t a.line a.col) → ProvQ Q S l := fun l S hn h =>
  (provQ_iff Q l S).2 (provP_noSrc _ l S hn h)

theorem provQ_at (Q : Text → Option Text → Nat → Nat → Prop) : ∀ (evs : List Ev) (S : SrcTbl) (ns nn : Nat), ProvQ Q S evs → DeclOK ns nn evs →
    ∀ t m a, Ev.chunk t m ∈ evs → m.orig = some a →
      ∃ name T, tblS S evs a.src = some (name, some T) ∧ Q T t a.line a.col := fun evs S ns nn hp hd t m a hm ha =>
  provP_at _ evs S ns nn ((provQ_iff Q evs S).1 hp) hd t m a hm ha

theorem provOK_unmapped : ∀ (evs : List Ev) (S : SrcTbl), (∀ e ∈ evs, ∃ t m, e = Ev.chunk t m ∧ m.orig = none) → ProvOK S evs := fun evs S h =>
  (provOK_iff evs S).2 (provP_unmapped _ evs S h)

theorem provOK_chunks (S : SrcTbl) (T name : Text) (hS : S 0 = some (name, some T)) (evs : List Ev) (hn : NoSrc evs)
    (h : ∀ t m, Ev.chunk t m ∈ evs → ∀ a, m.orig = some a → ∃ tok k, t = some tok ∧ TokPos T tok a.line a.col k ∧ a.src = 0 ∧ a.name = none) :
    ProvOK S evs :=
  (provOK_iff evs S).2 (provP_noSrc _ evs S hn fun t m hm a ha => by
    obtain ⟨tok, k, h1, h2, h3, h4⟩ := h t m hm a ha
    exact ⟨name, T, h3 ▸ hS, tok, k, h1, h2, h4⟩)

theorem streamOriginal_provOK' (T name : Text) (c : Bool) : ProvOK emptyS (streamOriginal T name ⟨c, false⟩).evs := by
  have hall := streamOriginal_tokPos T name c
  obtain ⟨body, he, hb⟩ := streamOriginal_evs T name ⟨c, false⟩
  rw [he] at hall ⊢
  exact provOK_chunks _ T name (if_pos rfl) body (noSrc_of_chunks hb) fun t m hm => hall t m (List.mem_cons_of_mem _ hm)

theorem streamOriginal_provOK (T name : Text) : ProvOK emptyS (streamOriginal T name ⟨true, false⟩).evs :=
  streamOriginal_provOK' T name true

theorem streamRaw_provOK' (t : Text) (c : Bool) (S : SrcTbl) : ProvOK S (streamRaw t ⟨c, false⟩).evs :=
  provOK_unmapped _ S fun e he =>
    let ⟨t', m, h, hm⟩ := streamRaw_origs (fun _ => False) t ⟨c, false⟩ e he
    ⟨t', m, h, Option.eq_none_iff_forall_ne_some.2 fun o ho => hm o ho⟩

theorem streamRaw_provOK (t : Text) (S : SrcTbl) : ProvOK S (streamRaw t ⟨true, false⟩).evs :=
  streamRaw_provOK' t true S

theorem concatStream_provP (P : Text → Option Text → Orig → Prop) (hP : Renumbers P) (cons : Text → Option Text) (children : List SResult)
    (h : ∀ c ∈ children, WellDecl cons emptyS emptyN c.evs ∧ evsTL c.evs = false ∧ ProvP P emptyS c.evs) :
    ProvP P emptyS (concatStream false children).evs :=
  (concatGo_attrN_wd cons hP children {} emptyS emptyN (ginv_start cons) fun c hc => ⟨(h c hc).1, (h c hc).2.1⟩).2
    fun c hc => (h c hc).2.2

theorem tokP_renumbers : Renumbers TokP := fun _ _ _ _ _ ⟨tok, k, h1, h2, h3⟩ hn => ⟨tok, k, h1, h2, hn h3⟩

theorem concatStream_prov (cons : Text → Option Text) (children : List SResult)
    (h : ∀ c ∈ children, WellDecl cons emptyS emptyN c.evs ∧ evsTL c.evs = false ∧ ProvOK emptyS c.evs) :
    ProvOK emptyS (concatStream false children).evs :=
  (provOK_iff _ _).2 (concatStream_provP TokP tokP_renumbers cons children
    fun c hc => ⟨(h c hc).1, (h c hc).2.1, (provOK_iff _ _).1 (h c hc).2.2⟩)

theorem concatStream_provQ (Q : Text → Option Text → Nat → Nat → Prop) (cons : Text → Option Text) (children : List SResult)
    (h : ∀ c ∈ children, WellDecl cons emptyS emptyN c.evs ∧ evsTL c.evs = false ∧ ProvQ Q emptyS c.evs) :
    ProvQ Q emptyS (concatStream false children).evs :=
  (provQ_iff Q _ _).2 (concatStream_provP _ (fun _ _ _ _ _ hq _ => hq) cons children
    fun c hc => ⟨(h c hc).1, (h c hc).2.1, (provQ_iff Q _ _).1 (h c hc).2.2⟩)

/-- the store is bound in the conclusion, so that a tree induction can apply this without naming it: a term whose type is a predicate
like `ProvQ` of the stream of a given node has Lean evaluate that stream as far as it goes -/
theorem Src.concat_provQ (Q : Text → Option Text → Nat → Nat → Prop) (cons : Text → Option Text) (cs : SrcList)
    (hw : SrcList.WD cons true cs) (h : ∀ σ, ∀ r ∈ (cs.streams ⟨true, false⟩ σ).1, ProvQ Q emptyS r.evs) :
    ∀ σ, ProvQ Q emptyS ((Src.concat cs).stream ⟨true, false⟩ σ).1.evs := by
  intro σ
  rw [Src.concat_stream]
  exact concatNode_of (R := fun r => ProvQ Q emptyS r.evs)
    (concatStream_provQ Q cons _ fun r hr => ⟨SrcList.streams_wd cons true cs hw σ r hr, SrcList.streams_tl cs true σ r hr, h σ r hr⟩) (h σ)

theorem Src.OrigTree.wd_hereditary (cons : Text → Option Text) (c : Bool) : Src.Hereditary fun s => s.OrigTree ∧ Src.WD cons c s :=
  ⟨fun h => ⟨⟨h.1.1, h.2.1⟩, h.1.2, h.2.2⟩, fun h => h.1.elim, fun h => h.1.elim⟩

/-- carried together, since `concatStream` keeps `ProvOK` for children that are well declared and deliver text -/
theorem Src.provOK_facts (cons : Text → Option Text) (c : Bool) :
    Src.StreamFacts (fun s => s.OrigTree ∧ Src.WD cons c s)
      (fun _ o r => o.final = false → WellDecl cons emptyS emptyN r.evs ∧ evsTL r.evs = false ∧ ProvOK emptyS r.evs)
      (fun _ o rs => ∀ r ∈ rs, o.final = false → WellDecl cons emptyS emptyN r.evs ∧ evsTL r.evs = false ∧ ProvOK emptyS r.evs) :=
  .allNormal (R := fun _ r => WellDecl cons emptyS emptyN r.evs ∧ evsTL r.evs = false ∧ ProvOK emptyS r.evs)
    (fun t c => ⟨streamRaw_wd cons t c _ _, streamRaw_tl t c, streamRaw_provOK' t c _⟩)
    (fun t name c h => ⟨streamOriginal_wd cons t name c h.2, streamOriginal_tl t name c, streamOriginal_provOK' t name c⟩)
    (fun _ _ _ _ _ _ h => h.1.elim) (fun _ _ _ _ _ _ _ h => h.1.elim)
    (fun _ _ rs _ h => ⟨concatStream_wellDecl cons rs fun x hx => ⟨(h x hx).1, (h x hx).2.1⟩,
      concatStream_tl rs fun x hx => (h x hx).2.1, concatStream_prov cons rs h⟩)
    (fun _ _ _ _ h => h.1.elim) (fun _ _ _ _ h => h.1.elim)

theorem Src.stream_provOK (cons : Text → Option Text) (c : Bool) : ∀ (s : Src), s.OrigTree → Src.WD cons c s → ∀ σ,
    ProvOK emptyS (s.stream ⟨c, false⟩ σ).1.evs :=
  fun s ho hw σ => (Src.stream_induct (Src.OrigTree.wd_hereditary cons c) (Src.provOK_facts cons c) s ⟨c, false⟩ σ ⟨ho, hw⟩ rfl).2.2

theorem Src.stream_prov (cons : Text → Option Text) : ∀ (s : Src), s.OrigTree → Src.WD cons true s → ∀ σ,
    ProvOK emptyS (s.stream ⟨true, false⟩ σ).1.evs :=
  Src.stream_provOK cons true

theorem SrcList.streams_provOK (cons : Text → Option Text) (c : Bool) : ∀ (l : SrcList), l.OrigTrees → SrcList.WD cons c l → ∀ σ,
    ∀ r ∈ (l.streams ⟨c, false⟩ σ).1, ProvOK emptyS r.evs :=
  fun l ho hw σ r hr =>
    (SrcList.streams_induct (Src.OrigTree.wd_hereditary cons c) (Src.provOK_facts cons c) l ⟨c, false⟩ σ ⟨ho, hw⟩ r hr rfl).2.2

theorem SrcList.streams_prov (cons : Text → Option Text) : ∀ (l : SrcList), l.OrigTrees → SrcList.WD cons true l → ∀ σ,
    ∀ r ∈ (l.streams ⟨true, false⟩ σ).1, ProvOK emptyS r.evs :=
  SrcList.streams_provOK cons true

theorem SrcList.streams_provL (cons : Text → Option Text) : ∀ (l : SrcList), l.OrigTrees → SrcList.WD cons false l → ∀ σ,
    ∀ r ∈ (l.streams ⟨false, false⟩ σ).1, ProvOK emptyS r.evs :=
  SrcList.streams_provOK cons false

theorem Src.origTree_idx : ∀ (s : Src), s.OrigTree → s.IdxHyp :=
  fun s h => (Src.modeHypC_base s (Src.modeHyp_hypC s (Src.origTree_mode s h)).2).2.2
theorem SrcList.origTrees_idx : ∀ (l : SrcList), l.OrigTrees → l.IdxHyps :=
  fun l h => (SrcList.modeHypsC_base l (SrcList.modeHyps_hypsC l (SrcList.origTrees_mode l h)).2).2.2

mutual
theorem Src.origTree_modeL : ∀ (s : Src), s.OrigTree → s.ModeHypL
  | .raw .. | .rawStr .. | .rawBuf .. | .orig .. => fun _ => trivial
  | .concat cs => SrcList.origTrees_modeL cs
  | .sms .. | .replace .. | .cached .. => fun h => h.elim
theorem SrcList.origTrees_modeL : ∀ (l : SrcList), l.OrigTrees → l.ModeHypsL
  | .nil => fun _ => trivial
  | .cons s r => fun h => ⟨Src.origTree_modeL s h.1, SrcList.origTrees_modeL r h.2⟩
end

end Rs
