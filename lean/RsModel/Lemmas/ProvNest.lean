import RsModel.Lemmas.ProvRepl
/-!
# C04 with ReplaceSource inside ReplaceSource

A ReplaceSource keeps `SurvQ` for ANY inner stream that has it (`rEvs_survQ`, read off `rEvs_cut`): a surviving piece is cut into
surviving pieces, and generated text stays generated text (the property's don't-care: replacement content, about whose
attribution nothing is claimed) — whatever columns the ReplaceSource computes for its pieces.  So it holds for every cache-free
tree of raw / OriginalSource leaves under ConcatSource and ReplaceSource nodes nested in any way.
-/
namespace Rs

/-- generated text under nesting: a slice of a line of the content of one of the replacements `rs` (an outer ReplaceSource may cut
what an inner one spliced in) -/
def GenIn (rs : List Repl) (x : Text) : Prop := ∃ r ∈ rs, ∃ cl ∈ splitLines r.content, ∃ p q, p < q ∧ q ≤ cl.length ∧ x = bsub cl p q

theorem genIn_slice (rs : List Repl) (x : Text) (p q : Nat) (h : GenIn rs x) (h1 : p < q) (h2 : q ≤ x.length) : GenIn rs (bsub x p q) := by
  obtain ⟨r, hr, cl, hcl, p0, q0, a1, a2, rfl⟩ := h
  have hl := bsub_length cl p0 q0 a2
  rw [hl] at h2
  exact ⟨r, hr, cl, hcl, p0 + p, p0 + q, by omega, by omega, bsub_bsub cl p0 q0 p q a2 h2⟩

theorem genIn_line (rs : List Repl) (r : Repl) (hr : r ∈ rs) (cl : Text) (hcl : cl ∈ splitLines r.content) : GenIn rs cl :=
  ⟨r, hr, cl, hcl, 0, cl.length, List.length_pos_iff.2 (lines_ne _ (lines_of_splitLines r.content) cl hcl), Nat.le_refl _, (bsub_whole cl).symm⟩

theorem cutQ_survQ (RS : List Repl) (G G' : Text → Prop) (h1 : ∀ x p q, G x → p < q → q ≤ x.length → G' (bsub x p q))
    (h2 : ∀ r ∈ RS, ∀ cl ∈ splitLines r.content, G' cl) (T : Text) (t : Option Text) (l c : Nat) (hq : CutQ RS G T t l c) :
    SurvQ G' T t l c := by
  rcases hq with hq | ⟨y, gy, ⟨p, q, a1, a2, rfl⟩ | ⟨r, hr, cl, hcl, rfl⟩⟩
  · exact survQ_mono _ _ (fun cl ⟨r, hr, hcl⟩ => h2 r hr cl hcl) T t l c (survQ_of_trueQ _ T t l c hq)
  · exact Or.inr ⟨_, rfl, h1 y p q gy a1 a2⟩
  · exact Or.inr ⟨cl, rfl, h2 r hr cl hcl⟩

theorem rEvs_survQ (RS : List Repl) (G : Text → Prop) (hG : ∀ x p q, G x → p < q → q ≤ x.length → G (bsub x p q)) :
    ∀ (evs : List Ev) (st : RSt) (S : SrcTbl), CT st S → ProvQ (SurvQ G) S evs →
    (∀ i name T, S i = some (name, some T) → IsAscii T ∧ T.length < USIZE_MAX) →
    (∀ i s T, Ev.source i s (some T) ∈ evs → IsAscii T ∧ T.length < USIZE_MAX) →
    (∀ r ∈ st.rest, r ∈ RS) →
    ProvQ (SurvQ fun x => G x ∨ GenIn RS x) S (rEvs st evs).2 :=
  fun evs st S hct hp hS hE hrest => provQ_mono _ _
    (cutQ_survQ RS G _ (fun x p q gx a1 a2 => Or.inl (hG x p q gx a1 a2)) (fun r hr cl hcl => Or.inr (genIn_line RS r hr cl hcl))) _ _
    (rEvs_cut RS G evs st S hct hp hS hE hrest)

mutual
def Src.NestWD (cons : Text → Option Text) : Src → Prop
  | .raw .. => True
  | .rawStr .. => True
  | .rawBuf .. => True
  | .orig t name => cons name = some t
  | .concat cs => cs.NestWDs cons
  | .replace inner _ => inner.NestWD cons
  | _ => False
def SrcList.NestWDs (cons : Text → Option Text) : SrcList → Prop
  | .nil => True
  | .cons s r => s.NestWD cons ∧ r.NestWDs cons
end

mutual
def Src.allReplsN : Src → List Repl
  | .concat cs => cs.allReplsNL
  | .replace inner rs => rs ++ inner.allReplsN
  | _ => []
def SrcList.allReplsNL : SrcList → List Repl
  | .nil => []
  | .cons s r => s.allReplsN ++ r.allReplsNL
end

mutual
theorem Src.nestWD_idx (cons : Text → Option Text) : ∀ (s : Src), s.NestWD cons → s.IdxHyp
  | .raw .. | .rawStr .. | .rawBuf .. | .orig .. => fun _ => trivial
  | .concat cs => SrcList.nestWDs_idx cons cs
  | .replace inner _ => Src.nestWD_idx cons inner
  | .sms .. | .cached .. => fun h => h.elim
theorem SrcList.nestWDs_idx (cons : Text → Option Text) : ∀ (l : SrcList), l.NestWDs cons → l.IdxHyps
  | .nil => fun _ => trivial
  | .cons s r => fun h => ⟨Src.nestWD_idx cons s h.1, SrcList.nestWDs_idx cons r h.2⟩
end

mutual
theorem Src.nestWD_wd (cons : Text → Option Text) : ∀ (s : Src), s.NestWD cons → Src.WD cons true s
  | .raw .. | .rawStr .. | .rawBuf .. => fun _ => trivial
  | .orig .. => id
  | .concat cs => SrcList.nestWDs_wd cons cs
  | .replace inner rs => fun h => Src.wd_replace cons inner rs (Src.nestWD_wd cons inner h) (Src.nestWD_idx cons inner h)
  | .sms .. | .cached .. => fun h => h.elim
theorem SrcList.nestWDs_wd (cons : Text → Option Text) : ∀ (l : SrcList), l.NestWDs cons → SrcList.WD cons true l
  | .nil => fun _ => trivial
  | .cons s r => fun h => ⟨Src.nestWD_wd cons s h.1, SrcList.nestWDs_wd cons r h.2⟩
end

section
-- as in ProvRepl.lean: the streams are those of given nodes
attribute [local irreducible] ProvQ

mutual
theorem Src.stream_survG (cons : Text → Option Text) (hasc : ∀ n T, cons n = some T → IsAscii T ∧ T.length < USIZE_MAX) (R : List Repl) :
    ∀ (s : Src), s.NestWD cons → (∀ r ∈ s.allReplsN, r ∈ R) → ∀ σ, ProvQ (SurvQ (GenIn R)) emptyS (s.stream ⟨true, false⟩ σ).1.evs
  | .raw .. | .rawStr .. | .rawBuf .. => fun _ _ => Src.origTree_survQ cons _ _ trivial trivial
  | .orig t name => fun h _ => Src.origTree_survQ cons _ (.orig t name) trivial h
  | .sms .. | .cached .. => fun h => h.elim
  | .replace inner rs => fun h hR =>
    have hR' : ∀ r, r ∈ rs ∨ r ∈ inner.allReplsN → r ∈ R := fun r hr => hR r (List.mem_append.2 hr)
    replace_cut cons inner (Src.nestWD_wd cons inner h) _ hasc rs
      (Src.stream_survG cons hasc R inner h (fun r hr => hR' r (Or.inr hr))) _
      (cutQ_survQ _ _ _ (genIn_slice R) fun r hr => genIn_line R r (hR' r (Or.inl ((mem_sortRepls rs r).1 hr))))
  | .concat cs => fun h hR => Src.concat_provQ _ cons cs (SrcList.nestWDs_wd cons cs h) (SrcList.streams_survG cons hasc R cs h hR)
theorem SrcList.streams_survG (cons : Text → Option Text) (hasc : ∀ n T, cons n = some T → IsAscii T ∧ T.length < USIZE_MAX) (R : List Repl) :
    ∀ (l : SrcList), l.NestWDs cons → (∀ r ∈ l.allReplsNL, r ∈ R) → ∀ σ, ∀ r ∈ (l.streams ⟨true, false⟩ σ).1, ProvQ (SurvQ (GenIn R)) emptyS r.evs
  | .nil => fun _ _ _ _ hr => nomatch hr
  | .cons s rest => fun h hR σ => List.forall_mem_cons.2
    ⟨Src.stream_survG cons hasc R s h.1 (fun r hr => hR r (List.mem_append_left _ hr)) σ,
      SrcList.streams_survG cons hasc R rest h.2 (fun r hr => hR r (List.mem_append_right _ hr)) _⟩
end

/-- **every cache-free tree of raw / OriginalSource leaves, ConcatSource and ReplaceSource nodes, nested in any way**: each mapped
chunk of its stream is a surviving piece of its file at its true position, or generated text (a slice of a line of the content of
one of the tree's replacements) -/
theorem Src.stream_survQ (cons : Text → Option Text) (hasc : ∀ n T, cons n = some T → IsAscii T ∧ T.length < USIZE_MAX) :
    ∀ (s : Src), s.NestWD cons → ∀ σ, ProvQ (SurvQ (GenIn s.allReplsN)) emptyS (s.stream ⟨true, false⟩ σ).1.evs :=
  fun s h σ => Src.stream_survG cons hasc s.allReplsN s h (fun _ hr => hr) σ

theorem SrcList.streams_survQ (cons : Text → Option Text) (hasc : ∀ n T, cons n = some T → IsAscii T ∧ T.length < USIZE_MAX) :
    ∀ (l : SrcList), l.NestWDs cons → ∀ σ, ∀ r ∈ (l.streams ⟨true, false⟩ σ).1, ProvQ (SurvQ (GenIn l.allReplsNL)) emptyS r.evs :=
  fun l h σ => SrcList.streams_survG cons hasc l.allReplsNL l h (fun _ hr => hr) σ

end

mutual
def Src.NestSized : Src → Prop
  | .concat cs => cs.NestSizeds
  | .replace inner rs => inner.NestSized ∧ (∀ r ∈ rs, r.start ≤ r.stop) ∧ (replaceSource inner.src rs).length + 1 < 2 ^ 32
  | _ => True
def SrcList.NestSizeds : SrcList → Prop
  | .nil => True
  | .cons s r => s.NestSized ∧ r.NestSizeds
end

mutual
theorem Src.nestWD_mode (cons : Text → Option Text) : ∀ (s : Src), s.NestWD cons → s.NestSized → s.ModeHyp
  | .raw .. | .rawStr .. | .rawBuf .. | .orig .. => fun _ _ => trivial
  | .concat cs => SrcList.nestWDs_mode cons cs
  | .replace inner _ => fun h hz => ⟨Src.nestWD_mode cons inner h hz.1, hz.2.1, hz.2.2⟩
  | .sms .. | .cached .. => fun h => h.elim
theorem SrcList.nestWDs_mode (cons : Text → Option Text) : ∀ (l : SrcList), l.NestWDs cons → l.NestSizeds → l.ModeHyps
  | .nil => fun _ _ => trivial
  | .cons s r => fun h hz => ⟨Src.nestWD_mode cons s h.1 hz.1, SrcList.nestWDs_mode cons r h.2 hz.2⟩
end

theorem Src.NestWD.hereditary (cons : Text → Option Text) : Src.Hereditary (Src.NestWD cons) := ⟨id, id, False.elim⟩

theorem Src.nestWD_allContent (cons : Text → Option Text) : ∀ (s : Src) (o : Opts) (σ : Store), s.NestWD cons → AllContent (s.stream o σ).1.evs :=
  Src.stream_induct (Src.NestWD.hereditary cons) (Src.allContent_facts (fun _ _ _ _ _ _ => id) fun _ _ => id)

theorem SrcList.nestWDs_allContent (cons : Text → Option Text) : ∀ (l : SrcList) (o : Opts) (σ : Store), l.NestWDs cons → ∀ c ∈ (l.streams o σ).1, AllContent c.evs :=
  SrcList.streams_induct (Src.NestWD.hereditary cons) (Src.allContent_facts (fun _ _ _ _ _ _ => id) fun _ _ => id)

/-- `c04_nested_map_bytes` (Props/C04.lean) says what this claims; here the proof: the stream's `ProvQ (SurvQ _)` (`Src.stream_survQ`)
read through the map (`getMap_provQ`), then from the chunk covering byte `i` to the byte (`piece_byte`, `bsub_get`) -/
theorem nestTree_map_bytes (cons : Text → Option Text) (s : Src) (h : s.NestWD cons) (hz : s.NestSized)
    (hasc : ∀ n T, cons n = some T → IsAscii T ∧ T.length < USIZE_MAX) (final : Bool)
    (hsmall : ∀ m ∈ chunkMs (s.stream ⟨true, true⟩ []).1.evs, m.small)
    (sm : SMap) (hm : (getMap s ⟨true, final⟩ []).1 = some sm) :
    ∀ (i : Nat) (o : Orig), (attrFrom (decode sm.mappings) startPos s.src)[i]? = some (some o) →
      ∃ (name T : Text), sm.sources[o.src]? = some name ∧ sm.sourcesContent[o.src]? = some T
        ∧ ((∃ q d, q + d < T.length ∧ adv startPos (T.take q) = ⟨o.line, o.col⟩ ∧ s.src[i]? = T[q + d]?
              ∧ adv startPos (T.take (q + d)) = ⟨o.line, o.col + d⟩
              ∧ ∃ tok k0 l0 c0, TokPos T tok l0 c0 k0 ∧ k0 ≤ q ∧ q + d < k0 + tok.length)
            ∨ (∃ r ∈ s.allReplsN, ∃ cl ∈ splitLines r.content, ∃ e, e < cl.length ∧ s.src[i]? = cl[e]?)) := by
  intro i o hget
  obtain ⟨name, T, t, d, h1, h2, y5, hd, hbyte⟩ := getMap_provQ _ s (Src.nestWD_mode cons s h hz)
    (Src.nestWD_allContent cons s ⟨true, false⟩ [] h) (Src.stream_survQ cons hasc s h []) final hsmall sm hm i o hget
  refine ⟨name, T, h1, h2, ?_⟩
  rcases y5 with ⟨q, q', _, hq2, hq0, hq3, hq4, htok⟩ | ⟨cl, hq3, r, hr1, cl0, hcl0, p0, q0, g1, g2, rfl⟩
  · cases hq3
    obtain ⟨p1, p2, p3, p4⟩ := piece_byte T q q' d o.line o.col hq2 hd hq4 htok
    exact Or.inl ⟨q, d, p1, hq0, hbyte.trans p2, p3, p4⟩
  · cases hq3
    rw [bsub_length cl0 p0 q0 g2] at hd
    exact Or.inr ⟨r, hr1, cl0, hcl0, p0 + d, by omega, hbyte.trans (bsub_get cl0 p0 q0 d g2 hd).1⟩

end Rs
