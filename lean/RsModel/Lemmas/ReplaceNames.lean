import RsModel.Lemmas.Tables
import RsModel.Lemmas.AttrStream
import RsModel.Lemmas.ReplaceKeeps
import RsModel.Lemmas.DeclReplace
/-!
# C06, ReplaceSource: names

Every chunk a ReplaceSource delivers with a name carries — through the names the ReplaceSource itself announces — either the name
the inner stream announced for the inner chunk it was cut from (or spliced into), or the name given with a replacement.
`RN` is the invariant on the two name tables (`name_mapping`, the name-keyed de-duplication table, lists the announced names in
order; every entry of `name_index_mapping` points to an announcement of the same name as the inner stream's).
The table of announced names grows in delivery order, so every statement speaks of `N ++ annN delivered`.  `NameOK` says which text
a delivered index stands for; what it says survives whatever is announced later, in either stream (`NameOK.mono`).  For one inner
chunk the invariant is an instance of the walk of ReplaceWalk (`names_walkOK`), along the inner stream it is `rEvs_named`.
-/
namespace Rs

structure RN (RNs : List Text) (st : RSt) (N IN : List Text) : Prop where
  nm : st.nameMapping = N.zipIdx
  len : st.nim.length = IN.length
  nim : ∀ (i g : Nat), st.nim[i]? = some g → N[g]? = IN[i]?
  rest : ∀ r ∈ st.rest, ∀ nm, r.name = some nm → nm ∈ RNs

/-- a delivered name index `k`: in the table `N` it stands for a text that the inner stream announced under the inner chunk's name
index `an`, or that is the name of a replacement -/
def NameOK (RNs : List Text) (N IN : List Text) (an : Option Nat) (k : Nat) : Prop :=
  ∃ x, N[k]? = some x ∧ ((∃ i, an = some i ∧ IN[i]? = some x) ∨ x ∈ RNs)

theorem NameOK.mono {RNs N N' IN IN' : List Text} {an : Option Nat} {k : Nat} (h : NameOK RNs N IN an k) (hN : N <+: N') (hI : IN <+: IN') :
    NameOK RNs N' IN' an k :=
  let ⟨x, h1, h2⟩ := h
  ⟨x, prefix_get N N' hN k x h1, h2.imp_left fun ⟨i, hi, hx⟩ => ⟨i, hi, prefix_get IN IN' hI i x hx⟩⟩

def AllNamed (RNs : List Text) (N IN : List Text) (an : Option Nat) (evs : List Ev) : Prop :=
  ∀ t mm, Ev.chunk t mm ∈ evs → ∀ y, mm.orig = some y → ∀ k, y.name = some k → NameOK RNs N IN an k

theorem RN.lt {RNs N IN : List Text} {st : RSt} (h : RN RNs st N IN) {i g : Nat} (hg : st.nim[i]? = some g) : i < IN.length :=
  h.len ▸ (List.getElem?_eq_some_iff.1 hg).1

theorem RN.nameOK {RNs N IN : List Text} {st : RSt} (h : RN RNs st N IN) (x : List Text) {an : Option Nat} {k : Nat}
    (hk : (an.bind fun n => st.nim[n]?) = some k) : NameOK RNs (N ++ x) IN an k := by
  obtain ⟨i, rfl, hg⟩ := Option.bind_eq_some_iff.1 hk
  exact ⟨IN[i]'(h.lt hg), prefix_get_eq (List.prefix_append N x) (h.lt hg) (h.nim i k hg) ▸ List.getElem?_eq_getElem _,
    .inl ⟨i, rfl, List.getElem?_eq_getElem _⟩⟩

/-- the invariant of the walk for the inner chunk whose name index is `an`: the name-keyed table lists `N` grown by what `acc`
announces, in this order, and that names every chunk of `acc` -/
def NInv (RNs N IN : List Text) (an : Option Nat) (acc : List Ev) (nm : Assoc) : Prop :=
  nm = (N ++ annN acc).zipIdx ∧ AllNamed RNs (N ++ annN acc) IN an acc

theorem NInv.chunk {RNs N IN : List Text} {an : Option Nat} {acc : List Ev} {nm : Assoc} (h : NInv RNs N IN an acc nm) {t : Option Text}
    {mm : Mapping} (hm : ∀ y, mm.orig = some y → ∀ k, y.name = some k → NameOK RNs (N ++ annN acc) IN an k) :
    NInv RNs N IN an (acc ++ [.chunk t mm]) nm := by
  rw [NInv, annN_snoc_chunk]
  exact ⟨h.1, fun t' mm' hm' => (List.mem_append.1 hm').elim (h.2 t' mm') fun hs => by cases List.mem_singleton.1 hs; exact hm⟩

/-- a chunk under the walker's name is named through `name_index_mapping`, which translates into `N`; a registered name stands in
the table at the index the lookup gives; a registration makes the table grow at the end, so what was named stays named -/
theorem names_walkOK {RNs N IN : List Text} {st0 : RSt} {chunk : Text} {m : Mapping} (h : RN RNs st0 N IN) :
    WalkOK st0 chunk m (NInv RNs N IN (m.orig.bind (·.name))) where
  slice := fun _ _ _ _ _ _ _ _ _ hw hI => hI.chunk fun y hy k hk => by
    obtain ⟨o, rfl, rfl⟩ := Option.map_eq_some_iff.1 hy
    exact h.nameOK _ (hw.name ▸ hk)
  name := fun acc _ n ⟨h1, h2⟩ => by
    subst h1
    rw [NInv, annN_append, ← List.append_assoc]
    exact ⟨(globalName_spec _ n 0).1, fun t mm hm => (List.mem_append.1 hm).elim
      (fun hm y hy k hk => (h2 t mm hm y hy k hk).mono (List.prefix_append _ _) (List.prefix_refl _))
      fun hm => nomatch globalName_anns _ _ _ hm⟩
  line := fun _ _ r _ _ _ _ _ _ hr _ _ hw hidx hI => hI.chunk fun y hy k hk => by
    obtain ⟨o, rfl, rfl⟩ := Option.map_eq_some_iff.1 hy
    rcases hidx k hk with hk | ⟨n, hn, hk⟩
    · exact h.nameOK _ (hw.name ▸ hk)
    · exact ⟨n, assoc_get_zipIdx _ n k (hI.1 ▸ hk), .inr (h.rest r hr n hn)⟩

theorem rOnChunk_named {RNs : List Text} {st : RSt} (chunk : Text) (m : Mapping) {N IN : List Text} (h : RN RNs st N IN) :
    AllNamed RNs (N ++ annN (rOnChunk st chunk m).2) IN (m.orig.bind (·.name)) (rOnChunk st chunk m).2
    ∧ RN RNs (rOnChunk st chunk m).1 (N ++ annN (rOnChunk st chunk m).2) IN := by
  obtain ⟨a, _, hn⟩ := rOnChunk_walk st chunk m (names_walkOK h) ⟨(List.append_nil N).symm ▸ h.nm, fun _ _ hm => nomatch hm⟩
  exact ⟨a.2, a.1, hn ▸ h.len, fun i g hg => prefix_get_eq (List.prefix_append N _) (h.lt (hn ▸ hg)) (h.nim i g (hn ▸ hg)),
    fun r hr => h.rest r (rOnChunk_restSub st chunk m r hr)⟩

theorem RN.name {RNs N IN : List Text} {st : RSt} (h : RN RNs st N IN) (n : Text) :
    RN RNs (rEv st (.name IN.length n)).1 (N ++ annN (rEv st (.name IN.length n)).2) (IN ++ [n]) := by
  obtain ⟨n1, _, _, n4⟩ := globalName_spec N n 0
  simp only [rEv, h.nm]
  generalize globalName N.zipIdx n = g at n1 n4
  refine ⟨n1, by rw [lmInsert_length, h.len, List.length_append]; exact Nat.max_eq_right (Nat.le_succ _), fun i g' hg' => ?_, h.rest⟩
  rw [lmInsert_get _ _ _ _ (Nat.le_of_eq h.len.symm)] at hg'
  split at hg'
  · cases hg'; subst ‹i = _›; rw [n4, List.getElem?_concat_length]
  · rw [List.getElem?_append_left (h.lt hg')]; exact prefix_get_eq (List.prefix_append N _) (h.lt hg') (h.nim i g' hg')

theorem rEv_named {RNs : List Text} (e : Ev) (es : List Ev) {st : RSt} {N IN : List Text} (nsi : Nat) (h : RN RNs st N IN)
    (hd : DeclOK nsi IN.length (e :: es)) :
    (∀ t' mm, Ev.chunk t' mm ∈ (rEv st e).2 → ∃ t m, e = Ev.chunk t m ∧ ∀ y, mm.orig = some y → ∀ k, y.name = some k →
        NameOK RNs (N ++ annN (rEv st e).2) IN (m.orig.bind (·.name)) k)
    ∧ RN RNs (rEv st e).1 (N ++ annN (rEv st e).2) (IN ++ annN [e])
    ∧ ∃ nsi', DeclOK nsi' (IN ++ annN [e]).length es := by
  cases e with
  | chunk t m =>
    obtain ⟨a1, a2⟩ := rOnChunk_named (t.getD []) m h
    simp only [annN, List.append_nil]
    exact ⟨fun t' mm hm => ⟨t, m, rfl, a1 t' mm hm⟩, a2, nsi, hd.2⟩
  | source i s c =>
    simp only [rEv, annN, List.append_nil]
    exact ⟨fun _ _ hm => (nomatch List.mem_singleton.1 hm), ⟨h.nm, h.len, h.nim, h.rest⟩, nsi + 1, hd.2⟩
  | name i n =>
    obtain ⟨rfl, hd2⟩ := hd
    exact ⟨fun _ _ hm => (nomatch globalName_anns _ _ _ hm), h.name n, nsi, by rw [List.length_append]; exact hd2⟩

theorem rEvs_named (RNs : List Text) : ∀ (evs : List Ev) (st : RSt) (N IN : List Text) (nsi : Nat), RN RNs st N IN → DeclOK nsi IN.length evs →
    (∀ t' mm, Ev.chunk t' mm ∈ (rEvs st evs).2 → ∃ t m, Ev.chunk t m ∈ evs ∧ ∀ y, mm.orig = some y → ∀ k, y.name = some k →
        NameOK RNs (N ++ annN (rEvs st evs).2) (IN ++ annN evs) (m.orig.bind (·.name)) k)
    ∧ RN RNs (rEvs st evs).1 (N ++ annN (rEvs st evs).2) (IN ++ annN evs) := by
  intro evs
  induction evs with
  | nil => intro st N IN nsi h _; simp only [rEvs, annN, List.append_nil]; exact ⟨fun _ _ hm => (nomatch hm), h⟩
  | cons e es ih =>
    intro st N IN nsi h hd
    obtain ⟨s1, s2, nsi', hd'⟩ := rEv_named e es nsi h hd
    obtain ⟨i1, i2⟩ := ih (rEv st e).1 _ _ nsi' s2 hd'
    simp only [rEvs]
    rw [annN_append, ← List.append_assoc, show annN (e :: es) = annN [e] ++ annN es from annN_append [e] es, ← List.append_assoc]
    refine ⟨fun t' mm hm => ?_, i2⟩
    rcases List.mem_append.1 hm with hm | hm
    · obtain ⟨t, m, rfl, a⟩ := s1 t' mm hm
      exact ⟨t, m, List.mem_cons_self, fun y hy k hk =>
        (a y hy k hk).mono (List.prefix_append _ _) ((List.prefix_append _ _).trans (List.prefix_append _ _))⟩
    · obtain ⟨t2, m2, b1, b2⟩ := i1 t' mm hm
      exact ⟨t2, m2, List.mem_cons_of_mem _ b1, b2⟩

/-- **C06, ReplaceSource, names**: a chunk delivered with a name carries — through the names the ReplaceSource announces — the name the
inner stream announced for the inner chunk it was cut from / spliced into, or the name given with one of the replacements -/
theorem replaceStream_names (sorted : List Repl) (inner : SResult) (hd : DeclOK 0 0 inner.evs) :
    ∀ t' mm, Ev.chunk t' mm ∈ (replaceStream sorted inner).evs → ∀ y, mm.orig = some y → ∀ k, y.name = some k →
      (∃ t m a i, Ev.chunk t m ∈ inner.evs ∧ m.orig = some a ∧ a.name = some i
          ∧ (annN (replaceStream sorted inner).evs)[k]? = (annN inner.evs)[i]? ∧ i < (annN inner.evs).length)
      ∨ (∃ r ∈ sorted, ∃ nm, r.name = some nm ∧ (annN (replaceStream sorted inner).evs)[k]? = some nm) := by
  intro t' mm hmem y hy k hk
  obtain ⟨_, _, _, _, e⟩ := replaceStream_evs sorted inner
  -- the lines of the replacements left over announce nothing
  have hN : annN (replaceStream sorted inner).evs = annN (rEvs { rest := sorted } inner.evs).2 := by
    rw [e, annN_append, annN_chunks _ fun e he => let ⟨_, _, _, _, h⟩ := rRemainder_evs _ _ _ _ e he; h ▸ rfl, List.append_nil]
  rw [hN]
  rcases List.mem_append.1 (e ▸ hmem) with hmem | hmem
  · obtain ⟨t, m, b1, b2⟩ := (rEvs_named (sorted.filterMap (·.name)) inner.evs { rest := sorted } [] [] 0
      ⟨rfl, rfl, fun _ _ hg => (nomatch hg), fun r hr nm hnm => List.mem_filterMap.2 ⟨r, hr, hnm⟩⟩ hd).1 t' mm hmem
    obtain ⟨x, hx, ⟨i, c1, hi⟩ | hr⟩ := b2 y hy k hk
    · obtain ⟨a, hmo, c1⟩ := Option.bind_eq_some_iff.1 c1
      exact Or.inl ⟨t, m, a, i, b1, hmo, c1, hx.trans hi.symm, (List.getElem?_eq_some_iff.1 hi).1⟩
    · obtain ⟨r, hr, hnm⟩ := List.mem_filterMap.1 hr
      exact Or.inr ⟨r, hr, x, hnm, hx⟩
  · have := (rRemainder_unmapped _ _ _ _).1 t' mm hmem
    rw [this] at hy; cases hy

theorem emitContent_names (gc : Nat) (orig : Option Orig) : ∀ (cls : List Text) (nameIdx : Option Nat) (st : RSt) (line : Int),
    (chunkMs (emitContent gc orig cls nameIdx st line).2.1).map (fun m => m.orig.bind (·.name))
      = match cls with
        | [] => []
        | _ :: rest => (orig.bind fun _ => nameIdx) :: rest.map fun _ => none := by
  intro cls
  induction cls with
  | nil => intro _ _ _; rfl
  | cons cl cls ih =>
    intro nameIdx st line
    simp only [emitContent, chunkMs, List.map_cons]
    rw [ih none]
    cases cls with
    | nil => cases orig <;> rfl
    | cons c2 cs => cases orig <;> simp

end Rs
