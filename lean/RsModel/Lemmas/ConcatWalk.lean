import RsModel.Model.Composite
import RsModel.Lemmas.Tables
/-!
# ConcatSource: walking the fold once

What `concatEv` does per kind of event, as equations (`concatEv_chunk`, `concatEv_source`, `concatEv_name`, with `globalSource_cases` /
`globalName_cases` of Tables for the two outcomes of a table lookup), what it leaves alone in `CSt`, and what `concatChild` is made of
(`concatChild_eq`: start from `childStart st`, fold the child's events, deliver the pending close, move the offsets by `childEnd`).
Then one walking lemma per level of the fold: `concatEvs_walk`, `concatChild_walk`, `concatGo_walk`.

How to prove that a ConcatSource keeps something.  Choose `Inv rest acc st`: a statement about the child's events still to come
(`rest`, so that hypotheses given by recursion over the child's stream fit), the events delivered so far (`acc`, so that an invariant
whose parameters grow with the output fits) and the walker's state.  Show that `concatEv` keeps it (`step`, by cases on the event and the
equations above), then `concatEvs_walk` gives it for the child's whole stream.  Between children choose `Out rest acc st` in the same
way, `rest` being the children still to come; `concatChild_walk` asks how `Out` becomes `Inv` at `childStart` and `Inv []` becomes `Out`
after the closing event and `childEnd`, and `concatGo_walk` takes that per-child fact through the list (`concatStream` is `concatGo` from the empty state).
-/
namespace Rs

/-- `concatEv`'s translation of an original location through the child's index tables -/
def trans (sim nim : List Nat) (orig : Option Orig) : Option Orig :=
  match orig.bind (fun o => sim[o.src]?), orig with
  | some si, some o => some ⟨si, o.line, o.col, (orig.bind (·.name)).bind fun n => nim[n]?⟩
  | _, _ => none

theorem trans_none (sim nim : List Nat) : trans sim nim none = none := rfl

theorem trans_of_some (sim nim : List Nat) (o : Orig) :
    trans sim nim (some o) = sim[o.src]?.map fun si => ⟨si, o.line, o.col, o.name.bind fun n => nim[n]?⟩ := by
  unfold trans
  cases h : sim[o.src]? <;> simp only [Option.bind_some, h] <;> rfl

theorem trans_some {sim nim : List Nat} {orig : Option Orig} {o : Orig} (h : trans sim nim orig = some o) :
    ∃ o0, orig = some o0 ∧ sim[o0.src]? = some o.src ∧ o.line = o0.line ∧ o.col = o0.col ∧ o.name = o0.name.bind fun n => nim[n]? := by
  cases orig with
  | none => cases h
  | some o0 =>
    rw [trans_of_some] at h
    obtain ⟨si, hs, rfl⟩ := Option.map_eq_some_iff.1 h
    exact ⟨o0, rfl, hs, rfl, rfl, rfl⟩

/-- the closing event a pending `needClose` makes due, when what comes next does not stand at the child's origin (`off`) -/
def CSt.pending (st : CSt) (off : Bool) : List Ev :=
  if (st.needClose && off) = true then [.chunk none ⟨st.lineOff + 1, st.colOff, none⟩] else []

theorem CSt.pending_of_false {st : CSt} (h : st.needClose = false) (off : Bool) : st.pending off = [] := by
  simp only [CSt.pending, h, Bool.false_and, Bool.false_eq_true, if_false]

theorem CSt.mem_pending {st : CSt} {off : Bool} {e : Ev} (h : e ∈ st.pending off) :
    e = .chunk none ⟨st.lineOff + 1, st.colOff, none⟩ ∧ st.needClose = true ∧ off = true := by
  unfold CSt.pending at h
  split at h
  · rename_i hb
    exact ⟨List.mem_singleton.1 h, Bool.and_eq_true_iff.1 hb⟩
  · cases h

theorem CSt.pending_isChunk (st : CSt) (off : Bool) : ∀ e ∈ st.pending off, e.isChunk = true :=
  fun _ h => (CSt.mem_pending h).1 ▸ rfl

theorem concatEv_chunk (final : Bool) (st : CSt) (t : Option Text) (m : Mapping) : concatEv final st (.chunk t m) =
    ({ st with needClose := false, lastMappingLine := if (trans st.sim st.nim m.orig).isNone then 0 else m.gl },
     st.pending (m.gl != 1 || m.gc != 0) ++
      [.chunk (if final then none else t) ⟨m.gl + st.lineOff, if m.gl == 1 then m.gc + st.colOff else m.gc, trans st.sim st.nim m.orig⟩]) := by
  obtain ⟨gl, gc, orig⟩ := m
  simp only [concatEv, trans, CSt.pending]
  cases orig with
  | none => rfl
  | some o =>
    cases hs : st.sim[o.src]? <;> simp only [Option.bind_some, hs] <;> rfl

theorem concatEv_source (final : Bool) (st : CSt) (i : Nat) (s : Text) (c : Option Text) : concatEv final st (.source i s c) =
    ({ st with sourceMapping := (globalSource st.sourceMapping s c).1, sim := lmInsert 0 st.sim i (globalSource st.sourceMapping s c).2.2 },
     (globalSource st.sourceMapping s c).2.1) := rfl

theorem concatEv_name (final : Bool) (st : CSt) (i : Nat) (n : Text) : concatEv final st (.name i n) =
    ({ st with nameMapping := (globalName st.nameMapping n).1, nim := lmInsert 0 st.nim i (globalName st.nameMapping n).2.2 },
     (globalName st.nameMapping n).2.1) := rfl

theorem concatEv_chunk_isChunk (final : Bool) (st : CSt) (t : Option Text) (m : Mapping) :
    ∀ e ∈ (concatEv final st (.chunk t m)).2, e.isChunk = true := by
  intro e he
  rw [concatEv_chunk] at he
  rcases List.mem_append.1 he with h | h
  · exact st.pending_isChunk _ e h
  · rw [List.mem_singleton.1 h]; rfl

theorem concatEv_ann (final : Bool) (st : CSt) (e : Ev) (he : e.isChunk = false) :
    (∀ e' ∈ (concatEv final st e).2, e'.isChunk = false) ∧ (concatEv final st e).1.needClose = st.needClose
    ∧ (concatEv final st e).1.lineOff = st.lineOff ∧ (concatEv final st e).1.colOff = st.colOff
    ∧ (concatEv final st e).1.lastMappingLine = st.lastMappingLine := by
  cases e with
  | chunk t m => cases he
  | source i s c => exact ⟨globalSource_anns _ s c, rfl, rfl, rfl, rfl⟩
  | name i n => exact ⟨globalName_anns _ n, rfl, rfl, rfl, rfl⟩

@[simp] theorem concatEv_lineOff (final : Bool) (st : CSt) (e : Ev) : (concatEv final st e).1.lineOff = st.lineOff := by
  cases e with
  | chunk t m => rw [concatEv_chunk]
  | source | name => rfl

@[simp] theorem concatEv_colOff (final : Bool) (st : CSt) (e : Ev) : (concatEv final st e).1.colOff = st.colOff := by
  cases e with
  | chunk t m => rw [concatEv_chunk]
  | source | name => rfl

@[simp] theorem concatEvs_nil (final : Bool) (st : CSt) : concatEvs final st [] = (st, []) := rfl

theorem concatEvs_cons (final : Bool) (st : CSt) (e : Ev) (es : List Ev) : concatEvs final st (e :: es) =
    ((concatEvs final (concatEv final st e).1 es).1, (concatEv final st e).2 ++ (concatEvs final (concatEv final st e).1 es).2) := rfl

def childStart (st : CSt) : CSt := { st with sim := [], nim := [], lastMappingLine := 0 }

def CSt.childEnd (final : Bool) (st : CSt) (gi : Info) : CSt :=
  { st with colOff := if gi.line > 1 then gi.col else st.colOff + gi.col
            needClose := (if (st.needClose && (gi.line != 1 || gi.col != 0)) = true then false else st.needClose)
              || (final && st.lastMappingLine == gi.line)
            lineOff := st.lineOff + (gi.line - 1) }

theorem concatChild_eq (final : Bool) (st : CSt) (c : SResult) : concatChild final st c =
    ((concatEvs final (childStart st) c.evs).1.childEnd final c.info,
     (concatEvs final (childStart st) c.evs).2 ++ (concatEvs final (childStart st) c.evs).1.pending (c.info.line != 1 || c.info.col != 0)) := rfl

@[simp] theorem concatGo_nil (final : Bool) (st : CSt) : concatGo final st [] = (st, []) := rfl

theorem concatGo_cons (final : Bool) (st : CSt) (c : SResult) (cs : List SResult) : concatGo final st (c :: cs) =
    ((concatGo final (concatChild final st c).1 cs).1, (concatChild final st c).2 ++ (concatGo final (concatChild final st c).1 cs).2) := rfl

@[simp] theorem concatEvs_lineOff (final : Bool) : ∀ (evs : List Ev) (st : CSt), (concatEvs final st evs).1.lineOff = st.lineOff
  | [], _ => rfl
  | e :: es, st => (concatEvs_lineOff final es _).trans (concatEv_lineOff final st e)

@[simp] theorem concatEvs_colOff (final : Bool) : ∀ (evs : List Ev) (st : CSt), (concatEvs final st evs).1.colOff = st.colOff
  | [], _ => rfl
  | e :: es, st => (concatEvs_colOff final es _).trans (concatEv_colOff final st e)

theorem concatChild_offs (final : Bool) (st : CSt) (c : SResult) :
    (concatChild final st c).1.lineOff = st.lineOff + (c.info.line - 1)
    ∧ (concatChild final st c).1.colOff = if c.info.line > 1 then c.info.col else st.colOff + c.info.col := by
  rw [concatChild_eq]
  exact ⟨congrArg (· + _) (concatEvs_lineOff final c.evs _), by
    show (if _ then _ else (concatEvs final (childStart st) c.evs).1.colOff + _) = _
    rw [concatEvs_colOff]; rfl⟩

section walk
variable (final : Bool)

theorem concatEvs_walk {Inv : List Ev → List Ev → CSt → Prop}
    (step : ∀ e es acc st, Inv (e :: es) acc st → Inv es (acc ++ (concatEv final st e).2) (concatEv final st e).1) :
    ∀ (evs acc : List Ev) (st : CSt), Inv evs acc st → Inv [] (acc ++ (concatEvs final st evs).2) (concatEvs final st evs).1
  | [], acc, st, h => by rw [concatEvs_nil, List.append_nil]; exact h
  | e :: es, acc, st, h => by
    rw [concatEvs_cons, ← List.append_assoc]
    exact concatEvs_walk step es _ _ (step e es acc st h)

theorem concatChild_walk {Out Out' : List Ev → CSt → Prop} {Inv : List Ev → List Ev → CSt → Prop} (c : SResult)
    (start : ∀ acc st, Out acc st → Inv c.evs acc (childStart st))
    (step : ∀ e es acc st, Inv (e :: es) acc st → Inv es (acc ++ (concatEv final st e).2) (concatEv final st e).1)
    (stop : ∀ acc st, Inv [] acc st → Out' (acc ++ st.pending (c.info.line != 1 || c.info.col != 0)) (st.childEnd final c.info))
    (acc : List Ev) (st : CSt) (h : Out acc st) : Out' (acc ++ (concatChild final st c).2) (concatChild final st c).1 := by
  rw [concatChild_eq, ← List.append_assoc]
  exact stop _ _ (concatEvs_walk final step c.evs acc _ (start acc st h))

theorem concatGo_walk {Out : List SResult → List Ev → CSt → Prop}
    (child : ∀ c cs acc st, Out (c :: cs) acc st → Out cs (acc ++ (concatChild final st c).2) (concatChild final st c).1) :
    ∀ (cs : List SResult) (acc : List Ev) (st : CSt), Out cs acc st → Out [] (acc ++ (concatGo final st cs).2) (concatGo final st cs).1
  | [], acc, st, h => by rw [concatGo_nil, List.append_nil]; exact h
  | c :: cs, acc, st, h => by
    rw [concatGo_cons, ← List.append_assoc]
    exact concatGo_walk child cs _ _ (child c cs acc st h)

end walk

theorem concatStream_mem (final : Bool) (cs : List SResult) : ∀ e' ∈ (concatStream final cs).evs,
    (∃ l c, e' = .chunk none ⟨l, c, none⟩) ∨ ∃ c ∈ cs, ∃ e ∈ c.evs, ∃ st, e' ∈ (concatEv final st e).2 := by
  let P : Ev → Prop := fun e' => (∃ l c, e' = .chunk none ⟨l, c, none⟩) ∨ ∃ c ∈ cs, ∃ e ∈ c.evs, ∃ st, e' ∈ (concatEv final st e).2
  refine (concatGo_walk final (Out := fun rest acc _ => (∀ c ∈ rest, c ∈ cs) ∧ ∀ e' ∈ acc, P e')
    (fun c rest acc st ⟨hcs, ha⟩ => ⟨fun x hx => hcs x (List.mem_cons_of_mem _ hx), ?_⟩) cs [] {} ⟨fun _ h => h, nofun⟩).2
  exact concatChild_walk final (Out := fun acc _ => ∀ e' ∈ acc, P e') (Out' := fun acc _ => ∀ e' ∈ acc, P e')
    (Inv := fun rest acc _ => (∀ e ∈ rest, e ∈ c.evs) ∧ ∀ e' ∈ acc, P e') c
    (fun _ _ h => ⟨fun _ h => h, h⟩)
    (fun e es acc st ⟨hes, ha⟩ => ⟨fun x hx => hes x (List.mem_cons_of_mem _ hx), fun e' he' => (List.mem_append.1 he').elim (ha e')
      fun h => Or.inr ⟨c, hcs c List.mem_cons_self, e, hes e List.mem_cons_self, st, h⟩⟩)
    (fun acc st ⟨_, ha⟩ e' he' => (List.mem_append.1 he').elim (ha e') fun h => Or.inl ⟨_, _, (CSt.mem_pending h).1⟩)
    acc st ha

theorem concatStream_chunk {final : Bool} {cs : List SResult} {t : Option Text} {m : Mapping} (h : Ev.chunk t m ∈ (concatStream final cs).evs) :
    (t = none ∧ m.orig = none) ∨ ∃ c ∈ cs, ∃ t0 m0, ∃ st : CSt, Ev.chunk t0 m0 ∈ c.evs ∧ t = (if final then none else t0)
      ∧ m.orig = trans st.sim st.nim m0.orig := by
  rcases concatStream_mem final cs _ h with ⟨l, c, e⟩ | ⟨c, hc, e, he, st, hm⟩
  · cases e; exact Or.inl ⟨rfl, rfl⟩
  · cases e with
    | chunk t0 m0 =>
      rw [concatEv_chunk] at hm
      rcases List.mem_append.1 hm with hp | hp
      · cases (CSt.mem_pending hp).1; exact Or.inl ⟨rfl, rfl⟩
      · cases List.mem_singleton.1 hp; exact Or.inr ⟨c, hc, t0, m0, st, he, rfl, rfl⟩
    | source i s x => cases (concatEv_ann final st _ rfl).1 _ hm
    | name i n => cases (concatEv_ann final st _ rfl).1 _ hm

theorem concatStream_source {final : Bool} {cs : List SResult} {i : Nat} {s : Text} {x : Option Text}
    (h : Ev.source i s x ∈ (concatStream final cs).evs) : ∃ c ∈ cs, ∃ j, Ev.source j s x ∈ c.evs := by
  rcases concatStream_mem final cs _ h with ⟨l, c, e⟩ | ⟨c, hc, e, he, st, hm⟩
  · cases e
  · cases e with
    | chunk t0 m0 => cases concatEv_chunk_isChunk final st t0 m0 _ hm
    | source j s' x' =>
      obtain ⟨rfl, rfl⟩ := (globalSource_annOf (P := fun a b => a = s' ∧ b = x') st.sourceMapping s' x' ⟨rfl, rfl⟩).source hm
      exact ⟨c, hc, j, he⟩
    | name j n => exact ((globalName_annOf (fun _ _ => False) st.nameMapping n).source hm).elim

end Rs
