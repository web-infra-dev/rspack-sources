import RsModel.Lemmas.RootHistoryL
/-!
# Call histories on a CachedSource wrapper whose wrapped tree has CachedSource nodes of its own; both column settings in one history

Calls of an outside caller on the wrapper (and its clones): `map(columns)` / `stream_chunks(columns)` with either column setting,
in any order.  The wrapper's entry for a column setting is filled by the first call with that setting; only that call reaches the
caches inside the wrapped tree, with the keys `(columns, false)` (a stream) or `(columns, true)` (a `map()`, through `get_map`),
which no call with the other column setting touches (`Src.stream_store_opts`).  So the inner caches are cold — for the keys it
uses — whenever a call reaches them (`ColdAt`, in `ColdStrip`), it streams the cache-free tree (`Src.stream_stripO`; with
`Src.stream_store_opts` in `Histories`), and
every later call with that column setting is answered from the wrapper's entry alone.  `source()` / `buffer()` / `size()` calls
in between leave the store as it is (`runRoot3_answers`).
-/
namespace Rs

def keyOf (id : Nat) (c : Bool) : Nat × Opts := (id, ⟨c, false⟩)

def mapFill2 (inner : Src) (c : Bool) : Option SMap := (getMap inner.strip ⟨c, false⟩ []).1
def streamFill2 (inner : Src) (c : Bool) : Option SMap := mapOfEvs c (inner.strip.stream ⟨c, false⟩ []).1.evs

/-- for the column setting `c`: the wrapper's entry is absent and the inner caches are cold for the two keys a first call uses, or
the entry is one of the two fills -/
def Entry2 (id : Nat) (inner : Src) (c : Bool) (σ : Store) : Prop :=
  (σ.get? (keyOf id c) = none ∧ ColdAt σ inner.ids ⟨c, false⟩ ∧ ColdAt σ inner.ids ⟨c, true⟩)
  ∨ σ.get? (keyOf id c) = some (mapFill2 inner c) ∨ σ.get? (keyOf id c) = some (streamFill2 inner c)

def RootInv2 (id : Nat) (inner : Src) (σ : Store) : Prop := ∀ c, Entry2 id inner c σ

structure RootHyp2 (id : Nat) (inner : Src) : Prop where
  nocr : inner.NoCR
  nodup : inner.ids.Nodup
  fresh : id ∉ inner.ids
  isGetMap : ∀ c σ, inner.map ⟨c, false⟩ σ = getMap inner ⟨c, false⟩ σ

theorem get_insertNew_ne (σ : Store) (k k' : Nat × Opts) (v : Option SMap) (h : k ≠ k') : (σ.insertNew k v).get? k' = σ.get? k' :=
  get_insertNew_other σ k k' v h

theorem rootCall2_other (id : Nat) (inner : Src) (h : RootHyp2 id inner) (c : Bool) (σ : Store) (k : RCall) (key : Nat × Opts)
    (hk : key.2.columns ≠ c) : (rootCall2 id inner (c, k) σ).2.get? key = σ.get? key := by
  have hne : ∀ f, key.2 ≠ ⟨c, f⟩ := fun f e => hk (by rw [e])
  cases k with
  | stream => exact Src.stream_store_opts (.cached id inner) _ σ key h.nocr (hne false)
  | map =>
    simp only [rootCall2]
    cases hgt : σ.get? (id, ⟨c, false⟩) with
    | some e => rw [Src.cached_map_hit id inner _ σ e hgt]
    | none =>
      rw [Src.cached_map_cold id inner _ σ hgt, h.isGetMap c σ, get_insertNew_other _ _ _ _ (fun e => hne false (by rw [← e]))]
      exact Src.stream_store_opts inner _ σ key h.nocr (hne true)

theorem rootInv2_step (id : Nat) (inner : Src) (h : RootHyp2 id inner) (σ : Store) (hi : RootInv2 id inner σ) (c : RCall2) :
    RootInv2 id inner (rootCall2 id inner c σ).2
    ∧ (match (rootCall2 id inner c σ).1 with
       | .stream r => r = (inner.strip.stream ⟨c.1, false⟩ []).1
            ∨ (∃ e, (e = mapFill2 inner c.1 ∨ e = streamFill2 inner c.1) ∧ r = (match e with
                | some m => streamSM inner.src m ⟨c.1, false⟩
                | none => streamRaw inner.src ⟨c.1, false⟩))
       | .map m => m = mapFill2 inner c.1 ∨ m = streamFill2 inner c.1) := by
  obtain ⟨col, kind⟩ := c
  refine (rootCall2_entry id inner col h.fresh (h.isGetMap col) σ kind (inner.strip.stream ⟨col, false⟩ []).1 (mapFill2 inner col)
    ((hi col).imp_left fun ⟨h0, hc0, hc1⟩ => ⟨h0, Src.stream_stripO inner _ σ h.nocr h.nodup hc0, by
      simp only [getMap, mapFill2]; rw [Src.stream_stripO inner ⟨col, true⟩ σ h.nocr h.nodup hc1]⟩)
    _ (Or.inl rfl) (fun e he => Or.inr ⟨e, he, rfl⟩)).imp (fun s1 c' => ?_) (fun s2 => s2)
  by_cases hne : c' = col
  · subst hne
    exact Or.inr s1
  -- `Entry2` for `c'` reads the store at keys of column setting `c'` only, and the call has touched none of them
  have hfr : ∀ key : Nat × Opts, key.2.columns = c' → (rootCall2 id inner (col, kind) σ).2.get? key = σ.get? key :=
    fun key hk => rootCall2_other id inner h col σ kind key (by rw [hk]; exact hne)
  have := hi c'
  simp only [Entry2, ColdAt, keyOf] at this ⊢
  simpa only [hfr] using this

theorem runRoot2_answers (id : Nat) (inner : Src) (h : RootHyp2 id inner) : ∀ (calls : List RCall2) (σ : Store), RootInv2 id inner σ →
    ∀ p ∈ (runRoot2 id inner calls σ).1,
      (match p.2 with
       | .stream r => r = (inner.strip.stream ⟨p.1.1, false⟩ []).1
            ∨ (∃ e, (e = mapFill2 inner p.1.1 ∨ e = streamFill2 inner p.1.1) ∧ r = (match e with
                | some m => streamSM inner.src m ⟨p.1.1, false⟩
                | none => streamRaw inner.src ⟨p.1.1, false⟩))
       | .map m => m = mapFill2 inner p.1.1 ∨ m = streamFill2 inner p.1.1) := 
  run_answers (runRoot2 id inner) (fun c σ => (c, (rootCall2 id inner c σ).1)) (fun c σ => (rootCall2 id inner c σ).2)
    (fun _ => rfl) (fun _ _ _ => rfl) (RootInv2 id inner) _ (fun c σ hi => rootInv2_step id inner h σ hi c)

theorem rootInv2_cold (id : Nat) (inner : Src) (σ : Store) (h0 : ∀ o, σ.get? (id, o) = none) (hc : Cold σ inner.ids) : RootInv2 id inner σ :=
  fun _ => Or.inl ⟨h0 _, cold_coldAt σ _ hc _, cold_coldAt σ _ hc _⟩

/-- what the stream answers of `rootInv2_step` resolve to: the replay lemmas of the wrapper itself, applied to the cache-free tree -/
theorem stream_ans_resolve (inner : Src) (hT : RootHyp inner.strip) (hL : RootHypL inner.strip) (col : Bool) (r : SResult)
    (h : r = (inner.strip.stream ⟨col, false⟩ []).1
      ∨ ∃ e, (e = mapFill2 inner col ∨ e = streamFill2 inner col) ∧ r = (match e with
          | some m => streamSM inner.src m ⟨col, false⟩
          | none => streamRaw inner.src ⟨col, false⟩)) :
    (col = true → attrOf r.evs = attrOf (inner.strip.stream ⟨true, false⟩ []).1.evs)
    ∧ (col = false → ∀ L, LNameOf r.evs L = LNameOf (inner.strip.stream ⟨false, false⟩ []).1.evs L) := by
  rw [← Src.strip_src inner] at h
  rcases h with rfl | ⟨e, he, rfl⟩
  · exact ⟨fun hc => by subst hc; rfl, fun hc L => by subst hc; rfl⟩
  · exact ⟨fun hc => by subst hc; exact replay_fill_attr inner.strip hT e he,
      fun hc L => by subst hc; exact replay_fill_lname inner.strip hL e he L⟩

theorem map_ans_resolve (inner : Src) (hT : RootHyp inner.strip) (hL : RootHypL inner.strip) (col : Bool) (m : Option SMap)
    (h : m = mapFill2 inner col ∨ m = streamFill2 inner col) :
    (col = true → (∀ sm, m = some sm → attrFrom (decode sm.mappings) startPos inner.src = attrOf (inner.strip.stream ⟨true, false⟩ []).1.evs)
        ∧ (m = none → attrOf (inner.strip.stream ⟨true, false⟩ []).1.evs = List.replicate inner.src.length none))
    ∧ (col = false → ∀ sm, m = some sm → ∀ L, 0 < L → LNameM sm L = LNameOf (inner.strip.stream ⟨false, false⟩ []).1.evs L) := by
  rw [← Src.strip_src inner]
  exact ⟨fun hc => by subst hc; exact fills_resolve inner.strip hT m h, fun hc => by subst hc; exact fills_resolve_lines inner.strip hL m h⟩

def AnsOK3 (inner : Src) (c : RCall3) (a : RAns3) : Prop :=
  match c, a with
  | .src, .text t => t = inner.src
  | .buffer, .text t => t = inner.buffer
  | .size, .num n => n = inner.size
  | .io c2, .io (.stream r) => r = (inner.strip.stream ⟨c2.1, false⟩ []).1
      ∨ (∃ e, (e = mapFill2 inner c2.1 ∨ e = streamFill2 inner c2.1) ∧ r = (match e with
          | some m => streamSM inner.src m ⟨c2.1, false⟩
          | none => streamRaw inner.src ⟨c2.1, false⟩))
  | .io c2, .io (.map m) => m = mapFill2 inner c2.1 ∨ m = streamFill2 inner c2.1
  | _, _ => False

theorem runRoot3_answers (id : Nat) (inner : Src) (h : RootHyp2 id inner) : ∀ (calls : List RCall3) (σ : Store), RootInv2 id inner σ →
    ∀ p ∈ (runRoot3 id inner calls σ).1, AnsOK3 inner p.1 p.2 := by
  refine run_answers (runRoot3 id inner) (fun c σ => (c, (rootCall3 id inner c σ).1)) (fun c σ => (rootCall3 id inner c σ).2)
    (fun _ => rfl) (fun _ _ _ => rfl) (RootInv2 id inner) (fun p => AnsOK3 inner p.1 p.2) (fun c σ hi => ?_)
  cases c with
  | io c2 =>
    obtain ⟨s1, s2⟩ := rootInv2_step id inner h σ hi c2
    refine ⟨s1, ?_⟩
    simp only [rootCall3, AnsOK3]
    cases hr : (rootCall2 id inner c2 σ).1 with
    | stream r => rw [hr] at s2; exact s2
    | map m => rw [hr] at s2; exact s2
  | src => exact ⟨hi, rfl⟩
  | buffer => exact ⟨hi, rfl⟩
  | size => exact ⟨hi, rfl⟩

end Rs
