import RsModel.Lemmas.AttrSM
import RsModel.Lemmas.HasText
/-!
# A stream that reports true positions attributes every byte as a lookup in its own chunk mappings does

This is the bridge between the chunk view (C06, C08) and the map view (C03, C10, C12): the list of chunk mappings of a stream,
read as segments of a source map, gives back the attribution the chunks carry (`attr_of_chunks`, `attr_of_stream`).

Also here, for whoever argues about one byte of the text: the stream splits at the chunk that covers it (`attrOf_split`), which says
where the byte stands (`cover_pos`) and which byte it is (`cover_byte`).
-/
namespace Rs

/-- the mappings of the chunks, in delivery order (what `get_map` hands to the encoder) -/
def chunkMs : List Ev → List Mapping
  | [] => []
  | .chunk _ m :: es => m :: chunkMs es
  | _ :: es => chunkMs es

theorem chunkMs_eq (evs : List Ev) : chunkMs evs = evs.filterMap fun | .chunk _ m => some m | _ => none := by
  fun_induction chunkMs evs with
  | case1 => rfl
  | case2 t m es ih => exact congrArg (m :: ·) ih
  | case3 e es hne ih =>
    cases e with
    | chunk t m => exact absurd rfl (hne t m)
    | _ => exact ih

theorem chunkMs_append (a b : List Ev) : chunkMs (a ++ b) = chunkMs a ++ chunkMs b := by
  rw [chunkMs_eq, chunkMs_eq, chunkMs_eq, List.filterMap_append]

theorem mem_chunkMs {evs : List Ev} {m : Mapping} : m ∈ chunkMs evs ↔ ∃ t, Ev.chunk t m ∈ evs := by
  rw [chunkMs_eq, List.mem_filterMap]
  constructor
  · rintro ⟨e, he, h⟩
    cases e with
    | chunk t m' => exact ⟨t, by cases h; exact he⟩
    | _ => cases h
  · rintro ⟨t, h⟩
    exact ⟨_, h, rfl⟩

theorem chunk_of_mem_chunkMs (evs : List Ev) (m : Mapping) (h : m ∈ chunkMs evs) : ∃ t, Ev.chunk t m ∈ evs := mem_chunkMs.1 h

theorem mem_chunkMs_of_mem (evs : List Ev) (t : Option Text) (m : Mapping) (h : Ev.chunk t m ∈ evs) : m ∈ chunkMs evs := mem_chunkMs.2 ⟨t, h⟩

theorem chunkMs_cons_decl (e : Ev) (es : List Ev) (he : e.isChunk = false) : chunkMs (e :: es) = chunkMs es := by
  cases e with
  | chunk => cases he
  | source | name => rfl

theorem chunkMs_noChunk (evs : List Ev) (h : ∀ e ∈ evs, e.isChunk = false) : chunkMs evs = [] :=
  match evs, h with
  | [], _ => rfl
  | .chunk .. :: _, h => nomatch h _ List.mem_cons_self
  | .source .. :: es, h | .name .. :: es, h => chunkMs_noChunk es fun e he => h e (List.mem_cons_of_mem _ he)

theorem chunkMs_map_chunk (t : Option Text) : ∀ (ms : List Mapping), chunkMs (ms.map (Ev.chunk t)) = ms
  | [] => rfl
  | m :: ms => congrArg (m :: ·) (chunkMs_map_chunk t ms)

theorem evs_induction {P : List Ev → Prop} (nil : P []) (chunk : ∀ t m es, P es → P (.chunk t m :: es))
    (decl : ∀ e es, e.isChunk = false → P es → P (e :: es)) : ∀ evs, P evs
  | [] => nil
  | .chunk t m :: es => chunk t m es (evs_induction nil chunk decl es)
  | .source .. :: es => decl _ es rfl (evs_induction nil chunk decl es)
  | .name .. :: es => decl _ es rfl (evs_induction nil chunk decl es)

theorem attrOf_split (evs : List Ev) : ∀ j, j < (evsText evs).length →
    ∃ A t m B d, evs = A ++ .chunk (some t) m :: B ∧ j = (evsText A).length + d ∧ d < t.length ∧ (attrOf evs)[j]? = some m.orig := by
  fun_induction attrOf evs with
  | case1 => intro j h; simp [evsText] at h
  | case2 t m es ih =>
    intro j h
    rw [evsText_cons, List.length_append] at h
    by_cases hj : j < t.length
    · refine ⟨[], t, m, es, j, rfl, (Nat.zero_add j).symm, hj, ?_⟩
      rw [List.getElem?_append_left (by simpa using hj), List.getElem?_replicate, if_pos hj]
    · obtain ⟨A, t', m', B, d, rfl, h1, h2, h3⟩ := ih (j - t.length) (Nat.sub_lt_left_of_lt_add (Nat.le_of_not_lt hj) h)
      refine ⟨.chunk (some t) m :: A, t', m', B, d, rfl, ?_, h2, ?_⟩
      · rw [evsText_cons, List.length_append, Nat.add_assoc, ← h1]; exact (Nat.add_sub_cancel' (Nat.le_of_not_lt hj)).symm
      · rw [List.getElem?_append_right (by simpa using hj), List.length_replicate]; exact h3
  | case3 e es hne ih =>
    intro j h
    -- an event without text contributes neither bytes nor attributions
    have ht := Ev.text.eq_2 e hne
    rw [evsText_cons, ht] at h
    obtain ⟨A, t, m, B, d, rfl, h1, h2, h3⟩ := ih j h
    exact ⟨e :: A, t, m, B, d, rfl, by rw [evsText_cons, ht]; exact h1, h2, h3⟩

theorem cover_pos {A B : List Ev} {t : Text} {m : Mapping} {pre : Text} {d : Nat} (hp : posOKT pre (A ++ .chunk (some t) m :: B))
    (hT : TokOK t) (hd : d < t.length) :
    adv startPos (pre ++ (evsText (A ++ .chunk (some t) m :: B)).take ((evsText A).length + d)) = ⟨m.gl, m.gc + d⟩ := by
  rw [evsText_append, evsText_cons, List.take_length_add_append, ← List.append_assoc, adv_append,
    ← ((posOKT_append _ _ pre).1 hp).2.1, show (Ev.chunk (some t) m).text = t from rfl, List.take_append_of_le_length (Nat.le_of_lt hd),
    adv_noNL _ _ (tok_prefix_noNL t hT d hd), List.length_take, Nat.min_eq_left (Nat.le_of_lt hd)]

theorem cover_byte (A B : List Ev) (t : Text) (m : Mapping) {d : Nat} (hd : d < t.length) :
    (evsText (A ++ .chunk (some t) m :: B))[(evsText A).length + d]? = t[d]? := by
  rw [evsText_append, evsText_cons, List.getElem?_append_right (Nat.le_add_right _ _), Nat.add_sub_cancel_left]
  exact List.getElem?_append_left hd

theorem chunkMs_sorted : ∀ (evs : List Ev) (pre : Text), posOKT pre evs → evsTL evs = false →
    sortedFrom (adv startPos pre).line (adv startPos pre).col (chunkMs evs) := by
  intro evs
  induction evs with
  | nil => intro pre _ _; trivial
  | cons e es ih =>
    intro pre hp hTL
    have hTLs : evsTL es = false := by simp only [evsTL_cons, Bool.or_eq_false_iff] at hTL; exact hTL.2
    cases e with
    | chunk t m =>
      cases t with
      | none => simp [evsTL_cons, Ev.textless] at hTL
      | some t =>
        simp only [posOKT] at hp
        rw [← hp.1]
        have hge := adv_ge t (adv startPos pre)
        rw [← adv_append, ← hp.1] at hge
        exact ⟨Or.inr ⟨rfl, Nat.le_refl _⟩, sortedFrom_of_le _ _ _ _ hge _ (ih (pre ++ t) hp.2 hTLs)⟩
    | source i s c => exact ih pre hp hTLs
    | name i n => exact ih pre hp hTLs

theorem attrFrom_nil (ms : List Mapping) (p : Pos) : attrFrom ms p [] = [] := rfl

theorem lookupCols_tok (A R : List Mapping) (m : Mapping) (t : Text) (hT : TokOK t)
    (hR : sortedFrom (adv ⟨m.gl, m.gc⟩ t).line (adv ⟨m.gl, m.gc⟩ t).col R) (d : Nat) (hd : d < t.length) :
    lookupCols (A ++ m :: R) m.gl (m.gc + d) = m.orig := by
  have hend : posLt ⟨m.gl, m.gc + d⟩ (adv ⟨m.gl, m.gc⟩ t) := by
    rw [hT.adv]
    split
    · exact Or.inl (Nat.lt_succ_self _)
    · exact Or.inr ⟨rfl, Nat.add_lt_add_left hd _⟩
  unfold lookupCols
  rw [lookupGo_append, lookupGo, if_pos ⟨rfl, Nat.le_add_right _ _⟩, lookupGo_beyond _ _ _ _ hend R hR]
  rfl

theorem attr_of_chunks (evs : List Ev) (pre : Text) (hp : posOKT pre evs) (hT : ChunksTok evs) (hTL : evsTL evs = false) :
    attrFrom (chunkMs evs) (adv startPos pre) (evsText evs) = attrOf evs := by
  rw [attrFrom_eq]
  refine List.ext_getElem (by rw [List.length_map, List.length_range, attrOf_length]) fun j hj _ => ?_
  rw [List.length_map, List.length_range] at hj
  -- byte `j` lies in a chunk `(t, m)`, `d` columns after its start, and the chunks after that one stand at or after its end
  obtain ⟨A, t, m, B, d, rfl, rfl, hd, ha⟩ := attrOf_split evs j hj
  have htok := hT t m (List.mem_append_right _ List.mem_cons_self)
  obtain ⟨_, h0, hB⟩ := (posOKT_append A _ pre).1 hp
  rw [evsTL_append, evsTL_cons, Bool.or_eq_false_iff, Bool.or_eq_false_iff] at hTL
  have hs := chunkMs_sorted B _ hB hTL.2.2
  rw [adv_append, ← h0] at hs
  rw [List.getElem_map, List.getElem_range, ← Option.some_inj, ← List.getElem?_eq_getElem, ha, ← adv_append, cover_pos hp htok hd,
    chunkMs_append, chunkMs, lookupCols_tok _ _ m t htok hs d hd]

theorem attr_of_stream (r : SResult) (hp : PosOK r) (hT : ChunksTok r.evs) (hTL : evsTL r.evs = false) :
    attrFrom (chunkMs r.evs) startPos (evsText r.evs) = attrOf r.evs :=
  attr_of_chunks r.evs [] hp.1 hT hTL

end Rs
