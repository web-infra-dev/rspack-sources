import RsModel.Lemmas.ColdStrip
import RsModel.Lemmas.EraseContent
import RsModel.Lemmas.ReplayMap
import RsModel.Lemmas.MappedNE
import RsModel.Lemmas.ReplaceOrig
import RsModel.Lemmas.LeavesAttr
/-!
# Warm caches inside a tree (C10): the second call attributes like the first

First call on cold caches: every CachedSource node streams its inner source and stores the map built from that stream.  Second
call with the store the first call left: every *outermost* CachedSource node answers from its entry — it replays its text through
the stored map — and what lies beneath it is not visited.  For trees whose CachedSource nodes sit under ConcatSource nodes only
(not beneath a ReplaceSource: known finding K5) the second stream resolves every byte to the same file name, original line, original
column and name as the first.

`Src.CachedOK`: no CachedSource beneath a ReplaceSource.  `Src.WarmFor σ o`: every outermost CachedSource holds in `σ`, for the
options `o`, the map of its cache-free subtree's stream, which is what a call on cold caches leaves (`Src.stream_fills`).
`Src.warm o`: the tree with every outermost CachedSource replaced by the leaf that replays its text through that map (`replayLeaf`);
on a store that is `WarmFor` the tree streams as `Src.warm o` does (`Src.stream_warm`).  `replayLeaf_cols`: the replay leaf resolves
like the subtree at name level, whatever stream standing for the normal one the entry was built from; `Src.WarmHyp` is what that asks
of the cached subtrees, and `Src.warm_NA`, `Src.second_stream_NA` are the theorems for trees.  On the way: ConcatSource composes `NA`
(`concat_NA`), so cache-free trees with the same leaves resolve alike (`NA_same_leaves`, for C13).
-/
namespace Rs

theorem Src.cached_stream_fills (id : Nat) (inner : Src) (o : Opts) (σ : Store) (h : σ.get? (id, o) = none) (hf : id ∉ inner.ids) :
    ((Src.cached id inner).stream o σ).2.get? (id, o) = some (mapOfEvs o.columns (inner.stream o σ).1.evs) := by
  rw [Src.cached_stream_cold id inner o σ h]
  exact insertNew_self _ _ _ (by rw [Src.stream_store_other inner o σ (id, o) hf]; exact h)

theorem Src.cached_stream_twice (id : Nat) (inner : Src) (o : Opts) (σ : Store) (hcold : σ.get? (id, o) = none) (hfresh : id ∉ inner.ids) :
    ((Src.cached id inner).stream o σ).1 = (inner.stream o σ).1
    ∧ ((Src.cached id inner).stream o ((Src.cached id inner).stream o σ).2).1
        = (match mapOfEvs o.columns (inner.stream o σ).1.evs with
           | some m => streamSM inner.src m o
           | none => streamRaw inner.src o) := by
  rw [Src.cached_stream_hit id inner o _ _ (Src.cached_stream_fills id inner o σ hcold hfresh), Src.cached_stream_cold id inner o σ hcold]
  exact ⟨rfl, rfl⟩

mutual
theorem Src.stream_store_mono : ∀ (s : Src) (o : Opts) (σ : Store) (k : Nat × Opts) (v : Option SMap), σ.get? k = some v →
    (s.stream o σ).2.get? k = some v
  | .raw .. | .rawStr .. | .rawBuf .. | .orig .. => fun _ _ _ _ h => h
  | .sms _ _ _ _ inner _ => fun _ _ _ _ h => by cases inner <;> exact h
  | .concat cs => fun o σ k v h => by rw [Src.concat_stream]; exact SrcList.streams_store_mono cs o σ k v h
  | .replace inner _ => fun o σ => Src.stream_store_mono inner _ σ
  | .cached id inner => fun o σ k v h => by
    cases hg : σ.get? (id, o) with
    | some e => rw [Src.cached_stream_hit id inner o σ e hg]; exact h
    | none =>
      rw [Src.cached_stream_cold id inner o σ hg]
      exact insertNew_mono _ _ _ _ _ (Src.stream_store_mono inner o σ k v h)
theorem SrcList.streams_store_mono : ∀ (l : SrcList) (o : Opts) (σ : Store) (k : Nat × Opts) (v : Option SMap), σ.get? k = some v →
    (l.streams o σ).2.get? k = some v
  | .nil => fun _ _ _ _ h => h
  | .cons s rest => fun o σ k v h => SrcList.streams_store_mono rest o _ k v (Src.stream_store_mono s o σ k v h)
end

mutual
def Src.WarmFor (σ : Store) (o : Opts) : Src → Prop
  | .concat cs => cs.WarmFors σ o
  | .replace inner _ => inner.NoCached
  | .cached id inner => σ.get? (id, o) = some (mapOfEvs o.columns (inner.strip.stream o []).1.evs)
  | _ => True
def SrcList.WarmFors (σ : Store) (o : Opts) : SrcList → Prop
  | .nil => True
  | .cons s r => s.WarmFor σ o ∧ r.WarmFors σ o
end

mutual
def Src.CachedOK : Src → Prop
  | .concat cs => cs.CachedOKs
  | .replace inner _ => inner.NoCached
  | .cached _ inner => True
  | _ => True
def SrcList.CachedOKs : SrcList → Prop
  | .nil => True
  | .cons s r => s.CachedOK ∧ r.CachedOKs
end

mutual
theorem Src.warmFor_ok : ∀ (s : Src) (σ : Store) (o : Opts), s.WarmFor σ o → s.CachedOK
  | .raw .. | .rawStr .. | .rawBuf .. | .orig .. | .sms .. | .cached .. => fun _ _ _ => trivial
  | .concat cs => SrcList.warmFors_ok cs
  | .replace .. => fun _ _ h => h
theorem SrcList.warmFors_ok : ∀ (l : SrcList) (σ : Store) (o : Opts), l.WarmFors σ o → l.CachedOKs
  | .nil => fun _ _ _ => trivial
  | .cons s r => fun σ o h => ⟨Src.warmFor_ok s σ o h.1, SrcList.warmFors_ok r σ o h.2⟩
end

mutual
theorem Src.warmFor_mono : ∀ (s : Src) (σ σ' : Store) (o : Opts), (∀ k v, σ.get? k = some v → σ'.get? k = some v) → s.WarmFor σ o → s.WarmFor σ' o
  | .raw .. | .rawStr .. | .rawBuf .. | .orig .. | .sms .. => fun _ _ _ _ _ => trivial
  | .concat cs => SrcList.warmFors_mono cs
  | .replace .. => fun _ _ _ _ h => h
  | .cached .. => fun _ _ _ hm h => hm _ _ h
theorem SrcList.warmFors_mono : ∀ (l : SrcList) (σ σ' : Store) (o : Opts), (∀ k v, σ.get? k = some v → σ'.get? k = some v) → l.WarmFors σ o → l.WarmFors σ' o
  | .nil => fun _ _ _ _ _ => trivial
  | .cons s r => fun σ σ' o hm h => ⟨Src.warmFor_mono s σ σ' o hm h.1, SrcList.warmFors_mono r σ σ' o hm h.2⟩
end

mutual
theorem Src.stream_fills : ∀ (s : Src) (o : Opts) (σ : Store), s.CachedOK → s.ids.Nodup → Cold σ s.ids → s.WarmFor (s.stream o σ).2 o
  | .raw .. | .rawStr .. | .rawBuf .. | .orig .. | .sms .. => fun _ _ _ _ _ => trivial
  | .concat cs => fun o σ hk hn hc => by
    rw [Src.concat_stream]
    exact SrcList.streams_fills cs o σ hk hn hc
  | .replace .. => fun _ _ hk _ _ => hk
  | .cached id inner => fun o σ _ hn hc => by
    obtain ⟨hn', hcold⟩ := cold_cached id inner
    simp only [Src.WarmFor]
    rw [Src.cached_stream_fills id inner o σ (hc id List.mem_cons_self o) (List.nodup_cons.1 hn).1,
      Src.stream_strip inner o σ (hn' hn) (hcold σ hc).1]
theorem SrcList.streams_fills : ∀ (l : SrcList) (o : Opts) (σ : Store), l.CachedOKs → l.idsL.Nodup → Cold σ l.idsL → l.WarmFors (l.streams o σ).2 o
  | .nil => fun _ _ _ _ _ => trivial
  | .cons s rest => fun o σ hk hn hc => by
    obtain ⟨hn1, hn2, hcold⟩ := cold_cons s rest hn
    obtain ⟨hc1, hc2⟩ := hcold σ hc
    exact ⟨Src.warmFor_mono s _ _ o (SrcList.streams_store_mono rest o _) (Src.stream_fills s o σ hk.1 hn1 hc1),
      SrcList.streams_fills rest o _ hk.2 hn2 (hc2 o)⟩
end

/-! ## the second call streams the tree with every outermost CachedSource replaced by its replay -/

mutual
def Src.warm (o : Opts) : Src → Src
  | .concat cs => .concat (cs.warmL o)
  | .cached _ inner =>
    match mapOfEvs o.columns (inner.strip.stream o []).1.evs with
    | some m => .sms inner.src [] m none none false
    | none => .rawStr inner.src
  | s => s
def SrcList.warmL (o : Opts) : SrcList → SrcList
  | .nil => .nil
  | .cons s r => .cons (s.warm o) (r.warmL o)
end

/- `Src.warm` of a CachedSource node is a `match` on the stored map: while `mapOfEvs` may unfold, the elaborator tries to evaluate it on
the subtree's stream each time a term has the replay tree of such a node in its type, to see how far a predicate of that tree computes -/
attribute [local irreducible] mapOfEvs

mutual
theorem Src.warm_nc : ∀ (s : Src) (o : Opts), s.CachedOK → (s.warm o).NoCached
  | .raw .. | .rawStr .. | .rawBuf .. | .orig .. | .sms .. => fun _ _ => trivial
  | .concat cs => SrcList.warmL_nc cs
  | .replace .. => fun _ h => h
  | .cached .. => fun _ _ => by rw [Src.warm]; split <;> trivial
theorem SrcList.warmL_nc : ∀ (l : SrcList) (o : Opts), l.CachedOKs → (l.warmL o).NoCachedL
  | .nil => fun _ _ => trivial
  | .cons s r => fun o h => ⟨Src.warm_nc s o h.1, SrcList.warmL_nc r o h.2⟩
end

mutual
theorem Src.warm_src : ∀ (s : Src) (o : Opts), (s.warm o).src = s.src
  | .raw .. | .rawStr .. | .rawBuf .. | .orig .. | .sms .. | .replace .. => fun _ => rfl
  | .concat cs => SrcList.warmL_srcs cs
  | .cached .. => fun _ => by rw [Src.warm]; split <;> rfl
theorem SrcList.warmL_srcs : ∀ (l : SrcList) (o : Opts), (l.warmL o).srcs = l.srcs
  | .nil => fun _ => rfl
  | .cons s r => fun o => by simp only [SrcList.warmL, SrcList.srcs]; rw [Src.warm_src s o, SrcList.warmL_srcs r o]
end

mutual
theorem Src.warm_wf (o : Opts) : ∀ (s : Src), s.WF → (s.warm o).WF
  | .raw .. | .rawStr .. | .rawBuf .. | .orig .. => fun _ => trivial
  | .sms .. | .replace .. => id
  | .concat cs => SrcList.warmL_wfs o cs
  | .cached .. => fun h => by
    rw [Src.warm]
    split
    · exact h.2
    · trivial
theorem SrcList.warmL_wfs (o : Opts) : ∀ (l : SrcList), l.WFs → (l.warmL o).WFs
  | .nil => fun _ => trivial
  | .cons s r => fun h => ⟨Src.warm_wf o s h.1, SrcList.warmL_wfs o r h.2⟩
end

mutual
theorem Src.warm_posHyp_lines (f : Bool) : ∀ (s : Src), s.PosHyp false → (s.warm ⟨false, f⟩).PosHyp false
  | .raw .. | .rawStr .. | .rawBuf .. | .orig .. => fun _ => trivial
  | .sms .. | .replace .. => id
  | .concat cs => SrcList.warmL_posHyps_lines f cs
  | .cached .. => fun h => by
    rw [Src.warm]
    split
    · exact ⟨h.2.1, h.2.2, nofun⟩
    · trivial
theorem SrcList.warmL_posHyps_lines (f : Bool) : ∀ (l : SrcList), l.PosHyps false → (l.warmL ⟨false, f⟩).PosHyps false
  | .nil => fun _ => trivial
  | .cons s r => fun h => ⟨Src.warm_posHyp_lines f s h.1, SrcList.warmL_posHyps_lines f r h.2⟩
end

mutual
theorem Src.stream_warm : ∀ (s : Src) (o : Opts) (σ : Store), s.WarmFor σ o → s.stream o σ = (((s.warm o).stream o []).1, σ)
  | .raw .. | .rawStr .. | .rawBuf .. | .orig .. => fun _ _ _ => rfl
  | .sms _ _ _ _ inner _ => fun _ _ _ => by cases inner <;> rfl
  | .concat cs => fun o σ h => by
    rw [Src.warm, Src.concat_stream, Src.concat_stream, SrcList.streams_warm cs o σ h]
  | .replace inner rs => fun o σ h => by
    obtain ⟨a1, a2⟩ := Src.stream_nc inner ⟨o.columns, false⟩ σ h
    simp only [Src.warm, Src.stream]
    rw [a1, a2]
  | .cached id inner => fun o σ h => by
    rw [Src.cached_stream_hit id inner o σ _ h, Src.warm]
    cases mapOfEvs o.columns (inner.strip.stream o []).1.evs <;> rfl
theorem SrcList.streams_warm : ∀ (l : SrcList) (o : Opts) (σ : Store), l.WarmFors σ o → l.streams o σ = (((l.warmL o).streams o []).1, σ)
  | .nil => fun _ _ _ => rfl
  | .cons s rest => fun o σ h => by
    simp only [SrcList.warmL, SrcList.streams]
    -- the replay trees of the other children do not touch the store
    rw [Src.stream_warm s o σ h.1, SrcList.streams_warm rest o σ h.2,
      (SrcList.streams_nc (rest.warmL o) o ((s.warm o).stream o []).2 (SrcList.warmL_nc rest o (SrcList.warmFors_ok rest σ o h.2))).2]
end

mutual
theorem Src.strip_of_nc : ∀ (s : Src), s.NoCached → s.strip = s
  | .raw .. | .rawStr .. | .rawBuf .. | .orig .. | .sms .. => fun _ => rfl
  | .concat cs => fun h => congrArg Src.concat (SrcList.stripL_of_nc cs h)
  | .replace inner rs => fun h => congrArg (Src.replace · rs) (Src.strip_of_nc inner h)
  | .cached .. => fun h => h.elim
theorem SrcList.stripL_of_nc : ∀ (l : SrcList), l.NoCachedL → l.stripL = l
  | .nil => fun _ => rfl
  | .cons s r => fun h => by rw [SrcList.stripL, Src.strip_of_nc s h.1, SrcList.stripL_of_nc r h.2]
end

theorem nc_facts (s : Src) (h : s.NoCached) : s.ids.Nodup ∧ StoreIdx [] s.cachedNodes ∧ s.cachedNodes = [] :=
  ⟨Src.nc_nodup s h, Src.nc_nodes s h ▸ nofun, Src.nc_nodes s h⟩

theorem Src.nc_modeFacts (s : Src) (c : Bool) (hnc : s.NoCached) (hw : s.WF) (hp : s.PosHyp c) (hi : s.IdxHyp) : s.ModeFacts c [] [] :=
  Src.cold_facts s c hw hp hi (Src.nc_nodup s hnc) [] [] (cold_nil _) (cold_nil _)

theorem posOK_nc (s : Src) (c : Bool) (hnc : s.NoCached) (hw : s.WF) (hp : s.PosHyp c) :
    PosOK (s.stream ⟨c, false⟩ []).1 ∧ (s.stream ⟨c, false⟩ []).1.info = adv startPos s.src
    ∧ FinOK s.src (s.stream ⟨c, true⟩ []).1 := by
  have hn := Src.nc_nodup s hnc
  have h0 := cold_storeHypB c [] s (cold_nil _)
  have h1 := Src.stream_posOK s c [] hw hp hn (storeHypB_normal c [] _ h0)
  exact ⟨h1, by rw [h1.2, Src.stream_text s c [] hw], Src.stream_finOK s c [] hw hp hn h0⟩

theorem stream_declOK_nc (s : Src) (o : Opts) (h : s.NoCached) (hi : s.IdxHyp) : DeclOK 0 0 (s.stream o []).1.evs :=
  Src.declOK_nc s h hi o []

theorem SrcList.streams_nc_map : ∀ (l : SrcList) (o : Opts) (σ : Store), l.NoCachedL →
    (l.streams o σ).1 = l.toList.map fun s => (s.stream o []).1
  | .nil => fun _ _ _ => rfl
  | .cons s rest => fun o σ h => by
    simp only [SrcList.streams, SrcList.toList, List.map_cons]
    rw [(Src.stream_nc s o σ h.1).2, SrcList.streams_nc_map rest o _ h.2]

theorem noCachedL_mem : ∀ (l : SrcList), l.NoCachedL → ∀ x ∈ l.toList, x.NoCached
  | .nil => fun _ _ hx => nomatch hx
  | .cons s r => fun h x hx => by
    rcases List.mem_cons.1 hx with rfl | hx
    · exact h.1
    · exact noCachedL_mem r h.2 x hx

theorem idxHyps_mem : ∀ (l : SrcList), l.IdxHyps → ∀ x ∈ l.toList, x.IdxHyp
  | .nil => fun _ _ hx => nomatch hx
  | .cons s r => fun h x hx => by
    rcases List.mem_cons.1 hx with rfl | hx
    · exact h.1
    · exact idxHyps_mem r h.2 x hx

theorem concatNode_NA (rs : List SResult) (h : ∀ r ∈ rs, DeclOK 0 0 r.evs ∧ evsTL r.evs = false) :
    NA (concatNode false rs).evs = (rs.map fun r => NA r.evs).flatten := by
  match rs with
  | [r] => simp [concatNode]
  | [] | _ :: _ :: _ => exact concatStream_NA _ h

theorem concat_NA (c : Bool) (cs : SrcList) (hn : cs.NoCachedL) (hi : cs.IdxHyps) :
    NA ((Src.concat cs).stream ⟨c, false⟩ []).1.evs = (cs.toList.map fun x => NA (x.stream ⟨c, false⟩ []).1.evs).flatten := by
  rw [Src.concat_stream, SrcList.streams_nc_map _ _ _ hn, concatNode_NA _ (by
    intro r hr
    obtain ⟨x, hx, rfl⟩ := List.mem_map.1 hr
    exact ⟨stream_declOK_nc x _ (noCachedL_mem _ hn x hx) (idxHyps_mem _ hi x hx), Src.stream_tl x c []⟩), List.map_map]
  rfl

theorem concat_NA_nc (s : Src) (rest : SrcList) (hn : (SrcList.cons s rest).NoCachedL) (hi : (SrcList.cons s rest).IdxHyps) :
    NA ((Src.concat (.cons s rest)).stream ⟨true, false⟩ []).1.evs
      = ((SrcList.cons s rest).toList.map fun x => NA (x.stream ⟨true, false⟩ []).1.evs).flatten :=
  concat_NA true (.cons s rest) hn hi

mutual
theorem Src.NA_leaves' (c : Bool) : ∀ (s : Src), s.NoCached → s.IdxHyp →
    NA (s.stream ⟨c, false⟩ []).1.evs = (s.leaves.map fun x => NA (x.stream ⟨c, false⟩ []).1.evs).flatten
  | .raw .. | .rawStr .. | .rawBuf .. | .orig .. | .sms .. | .replace .. | .cached .. => fun _ _ => (List.append_nil _).symm
  | .concat cs => fun hn hi => by
    rw [concat_NA c cs hn hi, Src.leaves]
    exact SrcList.NA_leavesL' c cs hn hi
theorem SrcList.NA_leavesL' (c : Bool) : ∀ (l : SrcList), l.NoCachedL → l.IdxHyps →
    (l.toList.map fun x => NA (x.stream ⟨c, false⟩ []).1.evs).flatten = (l.leavesL.map fun x => NA (x.stream ⟨c, false⟩ []).1.evs).flatten
  | .nil => fun _ _ => rfl
  | .cons s r => fun hn hi => by
    simp only [SrcList.toList, List.map_cons, List.flatten_cons, SrcList.leavesL, List.map_append, List.flatten_append]
    rw [Src.NA_leaves' c s hn.1 hi.1, SrcList.NA_leavesL' c r hn.2 hi.2]
end

theorem SrcList.NA_leavesL : ∀ (l : SrcList), l.NoCachedL → l.IdxHyps →
    (l.toList.map fun x => NA (x.stream ⟨true, false⟩ []).1.evs).flatten = (l.leavesL.map fun x => NA (x.stream ⟨true, false⟩ []).1.evs).flatten :=
  SrcList.NA_leavesL' true

theorem NA_same_leaves' (c : Bool) (a b : Src) (ha : a.NoCached) (hb : b.NoCached) (ia : a.IdxHyp) (ib : b.IdxHyp) (h : a.leaves = b.leaves) :
    NA (a.stream ⟨c, false⟩ []).1.evs = NA (b.stream ⟨c, false⟩ []).1.evs := by
  rw [Src.NA_leaves' c a ha ia, Src.NA_leaves' c b hb ib, h]

theorem NA_same_leaves (a b : Src) (ha : a.NoCached) (hb : b.NoCached) (ia : a.IdxHyp) (ib : b.IdxHyp) (h : a.leaves = b.leaves) :
    NA (a.stream ⟨true, false⟩ []).1.evs = NA (b.stream ⟨true, false⟩ []).1.evs :=
  NA_same_leaves' true a b ha hb ia ib h

theorem streamRaw_unmapped (t : Text) (c : Bool) : ∀ m ∈ chunkMs (streamRaw t ⟨c, false⟩).evs, m.orig = none := by
  simp only [streamRaw, Bool.false_eq_true, if_false]
  exact chunkMs_rawChunks _ _

theorem attrOf_streamRaw (t : Text) (c : Bool) : attrOf (streamRaw t ⟨c, false⟩).evs = List.replicate t.length none := by
  have hlen : (attrOf (streamRaw t ⟨c, false⟩).evs).length = t.length := by rw [attrOf_length, streamRaw_text]
  rw [← hlen]
  exact List.eq_replicate_iff.2 ⟨rfl, fun a ha => by obtain ⟨m, hm, rfl⟩ := attrOf_mem _ a ha; exact streamRaw_unmapped t c m hm⟩

theorem NA_of_unmapped (evs : List Ev) (hd : DeclOK 0 0 evs) (n : Nat) (h : attrOf evs = List.replicate n none) :
    NA evs = List.replicate n none := by
  unfold NA
  rw [attrN_end_tables _ 0 0 emptyS emptyN hd, h]
  simp

/-- the leaf an outermost CachedSource over text `T` answers as from its entry `e`: what `Src.warm` puts in the node's place; its
stream is `streamDefault T e` -/
def replayLeaf (T : Text) : Option SMap → Src
  | some m => .sms T [] m none none false
  | none => .rawStr T

theorem Src.warm_cached (id : Nat) (inner : Src) (c f : Bool) :
    (Src.cached id inner).warm ⟨c, f⟩ = replayLeaf inner.src (mapOfEvs c (inner.strip.stream ⟨c, f⟩ []).1.evs) := by
  rw [Src.warm]; rfl

/-- **the replay leaf, columns = true**, for a normal-mode stream `N` with the contracts of C01 / C02 / C11 and *any* stream `F` the
entry may have been built from: `F` need only meet the two text-less contracts (`FinOK`, `StrictK`) and stand for `N` as T3 says (`M3`:
sorted, same announcements, same answer to a lookup at every character).  A text-less stream of the tree is such an `F`, and so is `N`
itself.  C08 at name level on the replay ∘ the map of `F` attributes like `N` (`M3.map_attr`) ∘ "the map's tables are the announcements". -/
theorem replayLeaf_cols {F N : SResult} {T : Text} (hm3 : M3 F N T) (hp : PosOK N) (hT : ChunksTok N.evs) (hTL : evsTL N.evs = false)
    (hx : evsText N.evs = T) (hdN : DeclOK 0 0 N.evs) (ha : IsAscii T) (hl : T.length ≤ USIZE_MAX)
    (hf : FinOK T F) (hst : StrictK T F.evs) (hdF : DeclOK 0 0 F.evs) (hsmall : ∀ m ∈ chunkMs F.evs, m.small) :
    NA ((replayLeaf T (mapOfEvs true F.evs)).stream ⟨true, false⟩ []).1.evs = NA N.evs
    ∧ (replayLeaf T (mapOfEvs true F.evs)).ModeHypC := by
  cases hm : mapOfEvs true F.evs with
  | some sm =>
    obtain ⟨s1, s2, s3⟩ := stored_map_ok T F hf hm3.sorted hst hdF hsmall sm hm
    exact ⟨(streamSM_NA T sm ha hl s1 s2 s3 (mapOfEvs_tables true _ sm hm).2.2).trans
      (hm3.map_NA hp hT hTL hx hdN hsmall sm hm), trivial, ha, hl, s1, s2, s3⟩
  | none =>
    -- nothing is mapped, in the replay as in the stream
    refine ⟨?_, trivial⟩
    show NA (streamRaw T ⟨true, false⟩).evs = _
    rw [NA_of_unmapped _ hdN _ ((hm3.map_attr hp hT hTL hx hsmall).2 hm), NA_of_unmapped _ (streamRaw_declOK T ⟨true, false⟩ 0 0) _ (attrOf_streamRaw _ _)]

/-- a cache filled by streaming stores the map `get_map` builds from that stream; the replay streams the text through the map-driven
splitter, which announces the map's `sources` / `names`.  Those tables are the first stream's announcements, so the replay resolves
every byte to the same file name, line, column and name: the case `F = N = r` of `replayLeaf_cols`, since a normal-mode stream meets
the text-less contracts and stands for itself -/
theorem replay_names (r : SResult) (hp : PosOK r) (hT : ChunksTok r.evs) (hTL : evsTL r.evs = false) (hMN : MappedNE r.evs)
    (ha : IsAscii (evsText r.evs)) (hl : (evsText r.evs).length ≤ USIZE_MAX) (hsmall : ∀ m ∈ chunkMs r.evs, m.small)
    (hd : DeclOK 0 0 r.evs) (sm : SMap) (hm : mapOfEvs true r.evs = some sm) :
    (attrN emptyS emptyN (streamSMFull (evsText r.evs) sm).evs).map (Option.map RLoc.toN)
      = (attrN emptyS emptyN r.evs).map (Option.map RLoc.toN) := by
  have h := (replayLeaf_cols (M3.same r hp hTL) hp hT hTL rfl hd ha hl (finOK_of_posOK r hp hTL) (strictK_normal r hp hTL hMN) hd hsmall).1
  rwa [hm] at h

theorem replay_leaf_NA (id : Nat) (inner : Src) (hw : inner.strip.WF) (hp : inner.strip.PosHyp true) (hi : inner.strip.IdxHyp)
    (ha : IsAscii inner.src) (hl : inner.src.length ≤ USIZE_MAX)
    (hsmall : ∀ m ∈ chunkMs (inner.strip.stream ⟨true, false⟩ []).1.evs, m.small) :
    NA (((Src.cached id inner).warm ⟨true, false⟩).stream ⟨true, false⟩ []).1.evs = NA (inner.strip.stream ⟨true, false⟩ []).1.evs
    ∧ ((Src.cached id inner).warm ⟨true, false⟩).IdxHyp := by
  have hnc := Src.strip_nc inner
  have n := Src.nc_modeFacts inner.strip true hnc hw hp hi
  rw [Src.warm_cached]
  rw [← Src.strip_src inner] at ha hl ⊢
  -- a fill by streaming: a normal-mode stream meets the text-less contracts and stands for itself
  exact (replayLeaf_cols (n.text ▸ M3.same _ n.pos n.tl) n.pos n.tok n.tl n.text n.declN ha hl (n.text ▸ finOK_of_posOK _ n.pos n.tl)
    (n.text ▸ strictK_normal _ n.pos n.tl (Src.stream_mappedNE' inner.strip true [])) n.declN hsmall).imp_right
    fun m => (Src.modeHypC_base _ m).2.2

mutual
/-- what the warm-cache theorem asks of the tree: no CachedSource beneath a ReplaceSource; every cached subtree in the domain of
C02 with ASCII text (the replay counts chars, the stream bytes) and mapping values below 2³¹; map indices inside their tables -/
def Src.WarmHyp : Src → Prop
  | .sms t n map os inner rm => (Src.sms t n map os inner rm).IdxHyp
  | .concat cs => cs.WarmHyps
  | .replace inner _ => inner.NoCached ∧ inner.IdxHyp
  | .cached _ inner => inner.strip.WF ∧ inner.strip.PosHyp true ∧ inner.strip.IdxHyp ∧ IsAscii inner.src ∧ inner.src.length ≤ USIZE_MAX
      ∧ (∀ m ∈ chunkMs (inner.strip.stream ⟨true, false⟩ []).1.evs, m.small)
  | _ => True
def SrcList.WarmHyps : SrcList → Prop
  | .nil => True
  | .cons s r => s.WarmHyp ∧ r.WarmHyps
end

mutual
theorem Src.warm_NA : ∀ (s : Src), s.WarmHyp → s.CachedOK →
    NA ((s.warm ⟨true, false⟩).stream ⟨true, false⟩ []).1.evs = NA (s.strip.stream ⟨true, false⟩ []).1.evs
    ∧ (s.warm ⟨true, false⟩).IdxHyp ∧ s.strip.IdxHyp
  | .raw .. | .rawStr .. | .rawBuf .. | .orig .. => fun _ _ => ⟨rfl, trivial, trivial⟩
  | .sms .. => fun h _ => ⟨rfl, h, h⟩
  | .concat cs => fun h hk => by
    obtain ⟨b1, b2, b3⟩ := SrcList.warm_NAs cs h hk
    refine ⟨?_, b2, b3⟩
    rw [Src.warm, Src.strip, concat_NA true _ (SrcList.warmL_nc cs _ hk) b2, concat_NA true _ (SrcList.stripL_nc cs) b3, b1]
  | .replace inner rs => fun h _ => by
    rw [Src.strip, Src.strip_of_nc inner h.1]
    exact ⟨rfl, h.2, h.2⟩
  | .cached id inner => fun ⟨h1, h2, h3, h4, h5, h6⟩ _ =>
    (replay_leaf_NA id inner h1 h2 h3 h4 h5 h6).imp_right fun b => ⟨b, h3⟩
theorem SrcList.warm_NAs : ∀ (l : SrcList), l.WarmHyps → l.CachedOKs →
    ((l.warmL ⟨true, false⟩).toList.map fun x => NA (x.stream ⟨true, false⟩ []).1.evs)
      = (l.stripL.toList.map fun x => NA (x.stream ⟨true, false⟩ []).1.evs)
    ∧ (l.warmL ⟨true, false⟩).IdxHyps ∧ l.stripL.IdxHyps
  | .nil => fun _ _ => ⟨rfl, trivial, trivial⟩
  | .cons s r => fun h hk => by
    obtain ⟨a1, a2, a3⟩ := Src.warm_NA s h.1 hk.1
    obtain ⟨b1, b2, b3⟩ := SrcList.warm_NAs r h.2 hk.2
    exact ⟨List.cons_eq_cons.2 ⟨a1, b1⟩, ⟨a2, b2⟩, ⟨a3, b3⟩⟩
end

/-- **warm caches inside a tree** (columns = true, normal mode): after a first stream on cold caches, a second stream — in which
every outermost CachedSource answers from the map the first one stored — resolves every byte to the same file name, original line,
original column and name as the first -/
theorem Src.second_stream_NA (s : Src) (σ : Store) (hn : s.ids.Nodup) (hc : Cold σ s.ids) (hk : s.CachedOK) (h : s.WarmHyp) :
    NA (s.stream ⟨true, false⟩ (s.stream ⟨true, false⟩ σ).2).1.evs = NA (s.stream ⟨true, false⟩ σ).1.evs := by
  have hfill := Src.stream_fills s ⟨true, false⟩ σ hk hn hc
  rw [Src.stream_warm s ⟨true, false⟩ _ hfill, Src.stream_strip s ⟨true, false⟩ σ hn hc]
  exact (Src.warm_NA s h hk).1

end Rs
