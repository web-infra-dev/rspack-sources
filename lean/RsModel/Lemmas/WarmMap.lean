import RsModel.Lemmas.WarmTree
/-!
# `map()` twice on a tree with CachedSource nodes (C03 / C10)

The first `map()` streams the tree in text-less mode on cold caches: every CachedSource stores the map built from its subtree's
text-less stream.  The second `map()` finds those entries: every outermost CachedSource replays its text through the stored map with
the text-less splitter.  Both maps resolve every position of `source()` — through their own `sources` / `names` tables — to the same
file name, original line, original column and name.
-/
namespace Rs

theorem Src.strip_modeHypC : ∀ (s : Src), s.ModeHypC → s.strip.ModeHypC :=
  fun s h => (Src.modeHyp_hypC _ (Src.strip_modeHyp s h)).2

theorem SrcList.stripL_modeHypsC : ∀ (l : SrcList), l.ModeHypsC → l.stripL.ModeHypsC :=
  fun l h => (SrcList.modeHyps_hypsC _ (SrcList.stripL_modeHyps l h)).2

mutual
/-- mapping values of the text-less stream of every cached subtree are below 2³¹ (the codec's domain) -/
def Src.SmallF : Src → Prop
  | .concat cs => cs.SmallFs
  | .cached _ inner => ∀ m ∈ chunkMs (inner.strip.stream ⟨true, true⟩ []).1.evs, m.small
  | _ => True
def SrcList.SmallFs : SrcList → Prop
  | .nil => True
  | .cons s r => s.SmallF ∧ r.SmallFs
end

theorem replayF_leaf (id : Nat) (inner : Src) (h : inner.strip.ModeHypC) (ha : IsAscii inner.src) (hl : inner.src.length ≤ USIZE_MAX)
    (hsmall : ∀ m ∈ chunkMs (inner.strip.stream ⟨true, true⟩ []).1.evs, m.small) :
    NA (((Src.cached id inner).warm ⟨true, true⟩).stream ⟨true, false⟩ []).1.evs = NA (inner.strip.stream ⟨true, false⟩ []).1.evs
    ∧ ((Src.cached id inner).warm ⟨true, true⟩).ModeHypC := by
  have hnc := Src.strip_nc inner
  have hn := Src.nc_nodup inner.strip hnc
  have hcold : Cold [] inner.strip.ids := cold_nil _
  have b := Src.base_factsC inner.strip h hn [] [] hcold hcold
  rw [Src.warm_cached]
  rw [← Src.strip_src inner] at ha hl ⊢
  -- a fill by `map()`: T3 says the text-less stream stands for the normal-mode one, C11 that its mapped chunks sit on characters
  exact replayLeaf_cols (Src.m3c inner.strip h hn [] [] hcold hcold) b.pos b.tok b.tl b.text b.declN ha hl b.fin
    (Src.strictC inner.strip h hn [] hcold) b.declF hsmall

mutual
theorem Src.warmF_NA : ∀ (s : Src), s.ModeHypC → s.CachedOK → s.SmallF →
    NA ((s.warm ⟨true, true⟩).stream ⟨true, false⟩ []).1.evs = NA (s.strip.stream ⟨true, false⟩ []).1.evs
    ∧ (s.warm ⟨true, true⟩).ModeHypC
  | .raw .. | .rawStr .. | .rawBuf .. | .orig .. => fun _ _ _ => ⟨rfl, trivial⟩
  | .sms .. => fun h _ _ => ⟨rfl, h⟩
  | .concat cs => fun h hk hs => by
    obtain ⟨b1, b2⟩ := SrcList.warmF_NAs cs h hk hs
    have i1 : (Src.concat (cs.warmL ⟨true, true⟩)).IdxHyp := (Src.modeHypC_base (.concat _) b2).2.2
    have i2 : (Src.concat cs.stripL).IdxHyp := (Src.modeHypC_base (.concat _) (SrcList.stripL_modeHypsC cs h)).2.2
    refine ⟨?_, b2⟩
    rw [Src.warm, Src.strip, concat_NA true _ (SrcList.warmL_nc cs _ hk) i1, concat_NA true _ (SrcList.stripL_nc cs) i2, b1]
  | .replace inner rs => fun h hk _ => by
    rw [Src.strip, Src.strip_of_nc inner hk]
    exact ⟨rfl, h⟩
  | .cached id inner => fun h _ hs => replayF_leaf id inner (Src.strip_modeHypC inner h.1) h.2.1 h.2.2 hs
theorem SrcList.warmF_NAs : ∀ (l : SrcList), l.ModeHypsC → l.CachedOKs → l.SmallFs →
    ((l.warmL ⟨true, true⟩).toList.map fun x => NA (x.stream ⟨true, false⟩ []).1.evs)
      = (l.stripL.toList.map fun x => NA (x.stream ⟨true, false⟩ []).1.evs)
    ∧ (l.warmL ⟨true, true⟩).ModeHypsC
  | .nil => fun _ _ _ => ⟨rfl, trivial⟩
  | .cons s r => fun h hk hs => by
    obtain ⟨a1, a2⟩ := Src.warmF_NA s h.1 hk.1 hs.1
    obtain ⟨b1, b2⟩ := SrcList.warmF_NAs r h.2 hk.2 hs.2
    exact ⟨List.cons_eq_cons.2 ⟨a1, b1⟩, ⟨a2, b2⟩⟩
end

theorem warm_map_NA (s : Src) (h : s.ModeHypC) (hk : s.CachedOK) (hs : s.SmallF) (f : Bool)
    (hsmall : ∀ m ∈ chunkMs ((s.warm ⟨true, true⟩).stream ⟨true, true⟩ []).1.evs, m.small)
    (sm : SMap) (hm : (getMap (s.warm ⟨true, true⟩) ⟨true, f⟩ []).1 = some sm) :
    (attrFrom (decode sm.mappings) startPos s.src).map (Option.map (resolveMF sm)) = NA (s.strip.stream ⟨true, false⟩ []).1.evs := by
  obtain ⟨a1, a2⟩ := Src.warmF_NA s h hk hs
  have hwn := Src.nc_nodup _ (Src.warm_nc s ⟨true, true⟩ hk)
  have e := getMap_names (s.warm ⟨true, true⟩) a2 hwn [] [] (cold_nil _) (cold_nil _) f hsmall sm hm
  rw [Src.warm_src] at e
  rw [e]
  exact a1

theorem getMap_second (s : Src) (σ : Store) (hk : s.CachedOK) (hn : s.ids.Nodup) (hc : Cold σ s.ids) (f1 f2 : Bool) :
    (getMap s ⟨true, f2⟩ (getMap s ⟨true, f1⟩ σ).2).1 = (getMap (s.warm ⟨true, true⟩) ⟨true, f2⟩ []).1 := by
  have hfill := Src.stream_fills s ⟨true, true⟩ σ hk hn hc
  simp only [getMap]
  rw [Src.stream_warm s ⟨true, true⟩ _ hfill]

/-- `c10_map_twice` (Props/C10.lean) says what this claims; here the proof: both maps resolve like the normal stream of the cache-free
tree, the first by `getMap_names`, the second as the map of the replay tree (`getMap_second`, `warm_map_NA`) -/
theorem getMap_twice (s : Src) (σ : Store) (h : s.ModeHypC) (hk : s.CachedOK) (hs : s.SmallF) (hn : s.ids.Nodup) (hc : Cold σ s.ids)
    (f1 f2 : Bool)
    (hsmall1 : ∀ m ∈ chunkMs (s.stream ⟨true, true⟩ σ).1.evs, m.small)
    (hsmall2 : ∀ m ∈ chunkMs ((s.warm ⟨true, true⟩).stream ⟨true, true⟩ []).1.evs, m.small)
    (sm1 sm2 : SMap) (h1 : (getMap s ⟨true, f1⟩ σ).1 = some sm1) (h2 : (getMap s ⟨true, f2⟩ (getMap s ⟨true, f1⟩ σ).2).1 = some sm2) :
    (attrFrom (decode sm2.mappings) startPos s.src).map (Option.map (resolveMF sm2))
      = (attrFrom (decode sm1.mappings) startPos s.src).map (Option.map (resolveMF sm1)) := by
  -- first call: C03 at name level on cold caches
  have e1 := getMap_names s h hn σ [] hc (cold_nil _) f1 hsmall1 sm1 h1
  rw [Src.stream_strip s ⟨true, false⟩ [] hn (cold_nil _)] at e1
  -- second call: the map of the replay tree
  rw [getMap_second s σ hk hn hc f1 f2] at h2
  rw [e1]
  exact warm_map_NA s h hk hs f2 hsmall2 sm2 h2

end Rs
