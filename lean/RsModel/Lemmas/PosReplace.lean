import RsModel.Lemmas.PosConcat
import RsModel.Lemmas.HasText
import RsModel.Lemmas.ReplaceText
import RsModel.Lemmas.ReplaceWalk
import RsModel.Lemmas.Pos
/-!
# C02 for ReplaceSource

`RInv st op il ic`: the walker's offsets translate the inner position `(il, ic)` into the output position `op`; `pos_stepsOK` says
what each step of the callback does to it (`StepsOK`, ReplaceWalk).
Reported positions are `u32` conversions of `Int`s; `posOKW` states the contract modulo that conversion, which is the identity
when the output is shorter than `2^32`.
-/
namespace Rs

def posOKW : Text → List Ev → Prop
  | _, [] => True
  | pre, .chunk (some t) m :: es =>
    (m.gl = u32 (adv startPos pre).line ∧ m.gc = u32 (adv startPos pre).col) ∧ posOKW (pre ++ t) es
  | pre, _ :: es => posOKW pre es

theorem posOKW_append : ∀ (a b : List Ev) (pre : Text), posOKW pre (a ++ b) ↔ posOKW pre a ∧ posOKW (pre ++ evsText a) b := by
  intro a
  induction a with
  | nil => intro b pre; simp [posOKW, evsText]
  | cons e es ih =>
    intro b pre
    rcases e with ⟨_ | t, m⟩ | _ | _ <;>
      simp only [List.cons_append, posOKW, ih, evsText_cons, Ev.text, List.nil_append, List.append_assoc, and_assoc]

theorem posOKW_single (pre t : Text) (m : Mapping) (h : m.gl = u32 (adv startPos pre).line ∧ m.gc = u32 (adv startPos pre).col) :
    posOKW pre [Ev.chunk (some t) m] := ⟨h, trivial⟩

structure RInv (st : RSt) (op : Pos) (il ic : Nat) : Prop where
  line : (op.line : Int) = (il : Int) + st.lineOff
  col : (op.col : Int) = (ic : Int) + (if (op.line : Int) = st.colOffLine then st.colOff else 0)
  ord : st.colOffLine ≤ (op.line : Int)

theorem rinv_report (st : RSt) (op : Pos) (il ic : Nat) (h : RInv st op il ic) :
    u32 ((il : Int) + st.lineOff) = u32 op.line ∧ gcolOf st ((il : Int) + st.lineOff) ic = u32 op.col := by
  obtain ⟨h1, h2, _⟩ := h
  refine ⟨by rw [h1], ?_⟩
  unfold gcolOf
  rw [← h1, h2]
  congr 2
  by_cases hc : (op.line : Int) = st.colOffLine <;> simp [hc]

theorem RInv.congr {st st' : RSt} {op : Pos} {il ic : Nat} (h : RInv st op il ic)
    (h1 : st'.lineOff = st.lineOff) (h2 : st'.colOff = st.colOff) (h3 : st'.colOffLine = st.colOffLine) : RInv st' op il ic := by
  obtain ⟨a, b, c⟩ := h
  exact ⟨by rw [h1]; exact a, by rw [h2, h3]; exact b, by rw [h3]; exact c⟩

/-- The shape of every state update that stays on the output line (`colShift`, `skipWhole`, the last line of a replacement's
content): if the column offset in force belongs to the current line, `d` is added to it (`a`), otherwise it becomes `d` on the
current line (`b`); inner lines may move into the line offset `lo`. -/
theorem RInv.bump {st a b : RSt} {op op' : Pos} {il ic il' ic' : Nat} (h : RInv st op il ic) (d lo : Int)
    (hl : op'.line = op.line) (hlo : (il' : Int) + lo = il + st.lineOff) (hc : (op'.col : Int) + ic = op.col + ic' + d)
    (ha : a.lineOff = lo ∧ a.colOffLine = st.colOffLine ∧ a.colOff = st.colOff + d)
    (hb : b.lineOff = lo ∧ b.colOffLine = il + st.lineOff ∧ b.colOff = d) :
    RInv (if st.colOffLine == (il : Int) + st.lineOff then a else b) op' il' ic' := by
  obtain ⟨h1, h2, h3⟩ := h
  by_cases hcl : st.colOffLine = (il : Int) + st.lineOff
  · rw [if_pos (beq_iff_eq.2 hcl)]
    rw [h1, ← hcl, if_pos rfl] at h2
    exact ⟨by rw [hl, h1, ha.1, hlo], by rw [hl, ha.2.1, ha.2.2, h1, ← hcl, if_pos rfl]; omega, by rw [hl, ha.2.1]; exact h3⟩
  · rw [if_neg (mt beq_iff_eq.1 hcl)]
    rw [h1, if_neg (Ne.symm hcl)] at h2
    exact ⟨by rw [hl, h1, hb.1, hlo], by rw [hl, hb.2.1, hb.2.2, h1, if_pos rfl]; omega, by rw [hl, hb.2.1, h1]; exact Int.le_refl _⟩

theorem RInv.pass {st : RSt} {op : Pos} {il ic : Nat} (h : RInv st op il ic) (k : Nat) : RInv st ⟨op.line, op.col + k⟩ il (ic + k) :=
  ⟨h.1, by rw [Int.natCast_add, Int.natCast_add, h.2]; exact Int.add_right_comm .., h.3⟩

/-- a line break passes through: both go to the next line, where no column offset applies -/
theorem RInv.nl {st : RSt} {op : Pos} {il ic : Nat} (h : RInv st op il ic) : RInv st ⟨op.line + 1, 0⟩ (il + 1) 0 := by
  obtain ⟨h1, _, h3⟩ := h
  have hne : ¬ (((op.line + 1 : Nat) : Int) = st.colOffLine) := by omega
  exact ⟨by simp only; omega, by rw [if_neg hne]; rfl, by simp only; omega⟩

theorem emitContent_pos (gc : Nat) (orig : Option Orig) : ∀ (cls : List Text), Lines cls → ∀ (n : Option Nat) (st : RSt) (line : Int)
    (pre : Text) (il : Nat), line = (il : Int) + st.lineOff → RInv st (adv startPos pre) il gc →
    posOKW pre (emitContent gc orig cls n st line).2.1
    ∧ RInv (emitContent gc orig cls n st line).1 (adv startPos (pre ++ cls.flatten)) il gc
    ∧ (emitContent gc orig cls n st line).2.2 = (il : Int) + (emitContent gc orig cls n st line).1.lineOff := by
  intro cls hL
  induction hL using Lines.rec3 with
  | nil => intro n st line pre il hl h; rw [List.flatten_nil, List.append_nil]; exact ⟨trivial, h, hl⟩
  | last t hne hno =>
    intro n st line pre il hl h
    subst hl
    simp only [emitContent, List.isEmpty_nil, endsWithNL_noNL t hno, Bool.not_false, Bool.and_self, if_true, List.flatten_cons,
      List.flatten_nil, List.append_nil]
    refine ⟨posOKW_single _ _ _ (rinv_report st _ il gc h), ?_, ?_⟩
    · rw [adv_append, adv_noNL t _ hno]
      exact h.bump t.length st.lineOff rfl rfl (by simp only; omega) ⟨rfl, rfl, rfl⟩ ⟨rfl, rfl, rfl⟩
    · split <;> rfl
  | step t rest hno _ _ ih =>
    intro n st line pre il hl h
    subst hl
    simp only [emitContent, endsWithNL_snoc, Bool.not_true, Bool.and_false, Bool.false_eq_true, if_false, List.flatten_cons]
    -- after a line break inside the content the output stands at column 0 of a new line while the inner position is still
    -- `(il, gc)`: `colOff := -gc` on that line is what keeps `RInv`
    have hnext : RInv { st with lineOff := st.lineOff + 1, colOff := -(gc : Int), colOffLine := (il : Int) + st.lineOff + 1 }
        (adv startPos (pre ++ (t ++ [NL]))) il gc := by
      obtain ⟨h1, _, _⟩ := h
      rw [adv_append, adv_line t _ hno]
      have e : ((((adv startPos pre).line + 1 : Nat) : Int) = (il : Int) + st.lineOff + 1) := by omega
      exact ⟨by simp only; omega, by simp only; rw [if_pos e]; omega, by simp only; omega⟩
    obtain ⟨i1, i2, i3⟩ := ih none _ ((il : Int) + st.lineOff + 1) (pre ++ (t ++ [NL])) il (by simp only; omega) hnext
    rw [← List.append_assoc]
    exact ⟨⟨rinv_report st _ il gc h, i1⟩, i2, i3⟩

theorem adv_rest (chunk : Text) (h : TokOK chunk) (cp : Nat) (hcp : cp < chunk.length) (p : Pos) :
    adv p (chunk.drop cp) = if endsWithNL chunk then ⟨p.line + 1, 0⟩ else ⟨p.line, p.col + (chunk.length - cp)⟩ := by
  obtain ⟨s, hs, hc⟩ := h
  rcases hc with rfl | rfl
  · rw [endsWithNL_noNL chunk hs, adv_noNL _ _ (fun x hx => hs x (List.mem_of_mem_drop hx))]
    simp
  · rw [endsWithNL_snoc]
    simp only [if_true]
    have hcs : cp ≤ s.length := by simp at hcp; omega
    rw [List.drop_append_of_le_length hcs, adv_line _ _ (fun x hx => hs x (List.mem_of_mem_drop hx))]

/-- the generated position of the inner stream after `chunk`, which began at line `gl`, column `gc0` (a token has
at most one line break, at its end) -/
def innerAfter (chunk : Text) (gl gc0 : Nat) : Nat × Nat := if endsWithNL chunk then (gl + 1, 0) else (gl, gc0 + chunk.length)

theorem posOKW_noChunk : ∀ (evs : List Ev) (pre : Text), (∀ e ∈ evs, e.isChunk = false) → posOKW pre evs
  | [], _, _ => trivial
  | .chunk _ _ :: _, _, h => nomatch h _ List.mem_cons_self
  | .source .. :: es, pre, h | .name .. :: es, pre, h => posOKW_noChunk es pre fun x hx => h x (List.mem_cons_of_mem _ hx)

/-- `k` further bytes of the chunk are passed: they come off the column offset of the output line -/
theorem RInv.skipped {st : RSt} {op : Pos} {gl gc : Nat} (h : RInv st op gl gc) (chunk : Text) (l : LSt) (k : Nat) :
    RInv (rSkip chunk gl st l k).1 op gl (gc + k) := by
  unfold rSkip colShift
  exact h.bump (-(k : Int)) st.lineOff rfl rfl (by omega) ⟨rfl, rfl, rfl⟩ ⟨rfl, rfl, rfl⟩

theorem RInv.whole {st0 st : RSt} {chunk : Text} {m : Mapping} {l : LSt} {op : Pos} (p : Place st0 chunk m st l) (h : RInv st op m.gl l.gc) (endPos : Nat) :
    RInv (skipWhole st chunk m.gl l.gc (chunk.length - l.chunkPos) endPos) op (innerAfter chunk m.gl m.gc).1 (innerAfter chunk m.gl m.gc).2 := by
  have h2 := p.gc
  have h3 := p.inb
  unfold skipWhole innerAfter
  by_cases hnl : endsWithNL chunk = true
  · simp only [hnl, if_true]
    exact h.bump l.gc (st.lineOff - 1) rfl (by omega) (by omega) ⟨rfl, rfl, rfl⟩ ⟨rfl, rfl, rfl⟩
  · simp only [hnl, Bool.false_eq_true, if_false]
    exact h.bump (-((chunk.length - l.chunkPos : Nat) : Int)) st.lineOff rfl rfl (by rcases h3 with h | h <;> omega)
      ⟨rfl, rfl, rfl⟩ ⟨rfl, rfl, rfl⟩

theorem RInv.tail {st0 st : RSt} {chunk : Text} {m : Mapping} {l : LSt} {pre : Text} (p : Place st0 chunk m st l)
    (h : RInv st (adv startPos pre) m.gl l.gc) (hT : TokOK chunk) (hcp : l.chunkPos < chunk.length) :
    RInv st (adv startPos (pre ++ chunk.drop l.chunkPos)) (innerAfter chunk m.gl m.gc).1 (innerAfter chunk m.gl m.gc).2 := by
  rw [adv_append, adv_rest chunk hT _ hcp]
  unfold innerAfter
  split
  · exact h.nl
  · have := h.pass (chunk.length - l.chunkPos)
    have hg : l.gc + (chunk.length - l.chunkPos) = m.gc + chunk.length := by have := p.gc; omega
    rwa [hg] at this

/-- the invariant of the walk through the inner chunk reported at line `gl`, the output before it being `pre`: what has been delivered
for the chunk is reported at the output positions, and the offsets translate the walker's inner position to the output position -/
def RPosInv (pre : Text) (gl : Nat) (acc : List Ev) (st : RSt) (l : LSt) : Prop :=
  posOKW pre acc ∧ RInv st (adv startPos (pre ++ evsText acc)) gl l.gc

/-- the same when the callback has returned: the offsets translate the inner position behind the chunk -/
def RPosFin (pre chunk : Text) (m : Mapping) (acc : List Ev) (st : RSt) : Prop :=
  posOKW pre acc ∧ RInv st (adv startPos (pre ++ evsText acc)) (innerAfter chunk m.gl m.gc).1 (innerAfter chunk m.gl m.gc).2

theorem pos_stepsOK (st0 : RSt) (chunk : Text) (hT : TokOK chunk) (m : Mapping) (pre : Text) :
    StepsOK st0 chunk m (RPosInv pre m.gl) (RPosFin pre chunk m) where
  before := by
    intro acc st l r p hlt ⟨hacc, hR⟩
    unfold rBefore
    split
    · have hend := p.lt ‹_› hlt
      refine ⟨(posOKW_append _ _ _).2 ⟨hacc, posOKW_single _ _ _ (rinv_report st _ m.gl l.gc hR)⟩, ?_⟩
      rw [evsText_append, evsText_singleton, Ev.text, ← List.append_assoc, adv_append, adv_noNL _ _ (bsub_noNL chunk hT _ _ hend),
        bsub_length chunk _ _ (Nat.le_of_lt hend), Nat.add_sub_cancel_left]
      exact (hR.pass _).congr rfl rfl rfl
    · rw [List.append_nil]; exact ⟨hacc, hR⟩
  content := by
    intro acc st l r rs p _ ⟨hacc, hR⟩
    have n0 := rName_noChunk r st l
    obtain ⟨nm, hn⟩ := rName_st r st l
    rw [hn]
    obtain ⟨pc, Rc, _⟩ := emitContent_pos l.gc l.orig (splitLines r.content) (lines_of_splitLines r.content) (rName r st l).2.2
      { st with nameMapping := nm } ((m.gl : Int) + st.lineOff) (pre ++ evsText acc) m.gl rfl (hR.congr rfl rfl rfl)
    refine ⟨?_, ?_⟩
    · rw [posOKW_append, posOKW_append, evsText_append, evsText_anns n0, List.append_nil]
      exact ⟨⟨hacc, posOKW_noChunk _ _ n0⟩, pc⟩
    · rw [evsText_append, evsText_append, evsText_anns n0, emitContent_text, List.append_nil, ← List.append_assoc]
      exact Rc.congr rfl rfl rfl
  skip := fun acc st l p _ _ ⟨hacc, hR⟩ => ⟨hacc, hR.skipped chunk l _⟩
  whole := fun acc st l p ⟨hacc, hR⟩ => ⟨hacc, RInv.whole p hR _⟩
  tail := by
    intro acc st l p ⟨hacc, hR⟩
    split
    · rename_i hcp
      refine ⟨(posOKW_append _ _ _).2 ⟨hacc, posOKW_single _ _ _ (rinv_report st _ m.gl l.gc hR)⟩, ?_⟩
      rw [evsText_append, evsText_singleton, ← List.append_assoc]
      exact (RInv.tail p hR hT hcp).congr rfl rfl rfl
    · rename_i hcp
      -- only an empty chunk leaves nothing behind the loop
      obtain ⟨rfl, h0⟩ := p.inb.resolve_left hcp
      rw [p.gc, h0] at hR
      rw [List.append_nil]
      exact ⟨hacc, hR.congr rfl rfl rfl⟩

theorem rOnChunk_pos (st : RSt) (chunk : Text) (hT : TokOK chunk) (m : Mapping) (pre : Text) (h : RInv st (adv startPos pre) m.gl m.gc) :
    posOKW pre (rOnChunk st chunk m).2
    ∧ RInv (rOnChunk st chunk m).1 (adv startPos (pre ++ evsText (rOnChunk st chunk m).2)) (innerAfter chunk m.gl m.gc).1 (innerAfter chunk m.gl m.gc).2 :=
  rOnChunk_steps st chunk m (pos_stepsOK st chunk hT m pre) ⟨trivial, by rw [evsText_nil, List.append_nil]; exact h⟩

theorem rEvs_pos : ∀ (evs : List Ev) (st : RSt) (opre ipre : Text), posOKT ipre evs → ChunksTok evs → evsTL evs = false →
    RInv st (adv startPos opre) (adv startPos ipre).line (adv startPos ipre).col →
    posOKW opre (rEvs st evs).2
    ∧ RInv (rEvs st evs).1 (adv startPos (opre ++ evsText (rEvs st evs).2)) (adv startPos (ipre ++ evsText evs)).line (adv startPos (ipre ++ evsText evs)).col := by
  intro evs
  induction evs with
  | nil => intro st opre ipre _ _ _ h; simpa [rEvs, evsText_nil, posOKW] using h
  | cons e es ih =>
    intro st opre ipre hp hT hTL h
    have hTs : ChunksTok es := fun t m hm => hT t m (List.mem_cons_of_mem _ hm)
    rw [evsTL_cons, Bool.or_eq_false_iff] at hTL
    rw [rEvs, posOKW_append, evsText_append, ← List.append_assoc, evsText_cons, ← List.append_assoc]
    suffices hstep : posOKW opre (rEv st e).2 ∧ RInv (rEv st e).1 (adv startPos (opre ++ evsText (rEv st e).2))
        (adv startPos (ipre ++ e.text)).line (adv startPos (ipre ++ e.text)).col ∧ posOKT (ipre ++ e.text) es by
      obtain ⟨i1, i2⟩ := ih (rEv st e).1 (opre ++ evsText (rEv st e).2) (ipre ++ e.text) hstep.2.2 hTs hTL.2 hstep.2.1
      exact ⟨⟨hstep.1, i1⟩, i2⟩
    cases e with
    | chunk t m =>
      cases t with
      | none => exact absurd hTL.1 (by simp [Ev.textless])
      | some t =>
        obtain ⟨hpos, hrest⟩ := hp
        have htok := hT t m List.mem_cons_self
        have hinner : adv startPos (ipre ++ t) = ⟨(innerAfter t m.gl m.gc).1, (innerAfter t m.gl m.gc).2⟩ := by
          rw [adv_append, ← hpos, htok.adv, innerAfter]
          cases endsWithNL t <;> rfl
        rw [← hpos] at h
        obtain ⟨q1, q2⟩ := rOnChunk_pos st t htok m opre h
        exact ⟨q1, by rw [Ev.text, hinner]; exact q2, hrest⟩
    | source i s c =>
      simp only [rEv, evsText_singleton, Ev.text, List.append_nil]
      exact ⟨trivial, h.congr rfl rfl rfl, hp⟩
    | name i n =>
      simp only [rEv, Ev.text, evsText_anns (globalName_anns _ _), List.append_nil]
      exact ⟨posOKW_noChunk _ _ (globalName_anns _ _), h.congr rfl rfl rfl, hp⟩

theorem u32_small (n : Nat) (h : n < 2 ^ 32) : u32 (n : Int) = n := by
  unfold u32
  rw [Int.emod_eq_of_lt (by omega) (by omega)]; rfl

theorem u32_pos (t : Text) (h : t.length + 1 < 2 ^ 32) : (⟨u32 (adv startPos t).line, u32 (adv startPos t).col⟩ : Pos) = adv startPos t := by
  obtain ⟨b1, b2⟩ := adv_bound t
  rw [u32_small _ (by omega), u32_small _ (by omega)]

theorem posOKW_posOKT : ∀ (evs : List Ev) (pre : Text), posOKW pre evs → (pre ++ evsText evs).length + 1 < 2 ^ 32 → posOKT pre evs
  | [], _, _, _ => trivial
  | .chunk (some t) m :: es, pre, ⟨⟨h1, h2⟩, h3⟩, hb => by
    rw [evsText_cons, ← List.append_assoc] at hb
    refine ⟨?_, posOKW_posOKT es (pre ++ t) h3 hb⟩
    rw [← u32_pos pre (by rw [List.length_append, List.length_append] at hb; omega), ← h1, ← h2]
  | .chunk none _ :: es, pre, h, hb | .source .. :: es, pre, h, hb | .name .. :: es, pre, h, hb => posOKW_posOKT es pre h hb

/-- **ReplaceSource, any output size**: if the inner stream reports true positions, carries its texts and cuts them into tokens, then
the spliced stream reports the `u32` conversions of the true positions, and of the true end -/
theorem replaceStream_posOKW (sorted : List Repl) (inner : SResult) (hp : PosOK inner) (hT : ChunksTok inner.evs) (hTL : evsTL inner.evs = false) :
    posOKW [] (replaceStream sorted inner).evs
    ∧ (replaceStream sorted inner).info = ⟨u32 (adv startPos (evsText (replaceStream sorted inner).evs)).line,
        u32 (adv startPos (evsText (replaceStream sorted inner).evs)).col⟩ := by
  obtain ⟨hp1, hp2⟩ := hp
  obtain ⟨q1, q2⟩ := rEvs_pos inner.evs { rest := sorted } [] [] hp1 hT hTL ⟨rfl, rfl, Int.natCast_nonneg _⟩
  rw [List.nil_append, List.nil_append, ← hp2] at q2
  -- the remaining replacements are emitted like a replacement's content
  simp only [replaceStream, rRemainder_eq _ _ none]
  obtain ⟨c1, c2, c3⟩ := emitContent_pos inner.info.col none _ (lines_of_splitLines _) none _ _ _ inner.info.line rfl q2
  rw [evsText_append, emitContent_text, c3, (rinv_report _ _ _ _ c2).1, (rinv_report _ _ _ _ c2).2]
  exact ⟨(posOKW_append _ _ _).2 ⟨q1, c1⟩, rfl⟩

/-- **ReplaceSource**: … and the true positions themselves when the output is shorter than `2^32` bytes -/
theorem replaceStream_posOK (sorted : List Repl) (inner : SResult) (hp : PosOK inner) (hT : ChunksTok inner.evs) (hTL : evsTL inner.evs = false)
    (hb : (evsText (replaceStream sorted inner).evs).length + 1 < 2 ^ 32) : PosOK (replaceStream sorted inner) :=
  have ⟨h1, h2⟩ := replaceStream_posOKW sorted inner hp hT hTL
  ⟨posOKW_posOKT _ _ h1 (by rwa [List.nil_append]), h2.trans (u32_pos _ hb)⟩

end Rs
