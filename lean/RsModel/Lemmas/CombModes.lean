import RsModel.Lemmas.SMMapped
import RsModel.Lemmas.ConcatBounds
/-!
# C03 for the combinator: the text-less stream answers like the normal stream

The combinator is a stateful transducer over the outer map's stream.  Its state changes only at announcements and at *mapped*
chunks, and what it delivers for a chunk does not depend on the chunk's text.  Both modes of the outer stream deliver the same
announcements and the same mapped chunks in the same order (`streamSM_mapped`, `streamSM_linesMapped`), so the combinator goes
through the same states and delivers the same announcements and the same original locations for them (`combRun`); the two outputs
are the two outer chunk lists with these locations woven in (`weave`, `streamCombined_modes`, for either column setting).  A lookup
in a weave is decided by whether the lookup in the woven list finds a mapped chunk, and by the weave of the mapped chunks alone
(`lookupGo_weave`): two outer lists that answer alike and have the same mapped chunks still answer alike after weaving.
-/
namespace Rs

def retext (t : Option Text) : Ev → Ev
  | .chunk _ m => .chunk t m
  | e => e

theorem map_retext_noChunk (t : Option Text) (l : List Ev) (h : ∀ tt mm, Ev.chunk tt mm ∉ l) : l.map (retext t) = l :=
  (List.map_congr_left fun e he => by
    cases e with
    | chunk tt mm => exact absurd he (h tt mm)
    | source i s c => rfl
    | name i n => rfl).trans (List.map_id l)

theorem combOnChunk_retext (cfg : CombCfg) (st : CombSt) (t : Option Text) (m : Mapping) :
    combOnChunk cfg st t m = ((combOnChunk cfg st none m).1, (combOnChunk cfg st none m).2.map (retext t)) := by
  obtain ⟨st', anns, o, e, _, ha, _⟩ := combOnChunk_walk cfg st m
  rw [e t, e none, List.map_append, map_retext_noChunk t anns ha.noChunk]
  rfl

def combRun (cfg : CombCfg) : CombSt → List Mapping → List (Option Orig) × List Ev × CombSt
  | st, [] => ([], [], st)
  | st, m :: ms =>
    let r := combOnChunk cfg st none m
    let rest := combRun cfg r.1 ms
    ((chunkMs r.2).head?.bind (·.orig) :: rest.1, declsOf r.2 ++ rest.2.1, rest.2.2)

def weave : List Mapping → List (Option Orig) → List Mapping
  | [], _ => []
  | m :: ms, os =>
    if isMapped m then
      match os with
      | o :: os' => ⟨m.gl, m.gc, o⟩ :: weave ms os'
      | [] => ⟨m.gl, m.gc, none⟩ :: weave ms []
    else ⟨m.gl, m.gc, none⟩ :: weave ms os

theorem weave_cons_mapped {m : Mapping} (h : isMapped m = true) (ms : List Mapping) (os : List (Option Orig)) :
    weave (m :: ms) os = ⟨m.gl, m.gc, os.head?.join⟩ :: weave ms os.tail := by
  cases os <;> simp only [weave, h, if_true] <;> rfl

theorem weave_cons_unmapped {m : Mapping} (h : isMapped m = false) (ms : List Mapping) (os : List (Option Orig)) :
    weave (m :: ms) os = ⟨m.gl, m.gc, none⟩ :: weave ms os := by
  simp only [weave, h, Bool.false_eq_true, if_false]

theorem combOnChunk_unmapped (cfg : CombCfg) (st : CombSt) (hne : st.innerSourceIndex ≠ -1) (t : Option Text) (gl gc : Nat) :
    combOnChunk cfg st t ⟨gl, gc, none⟩ = (st, [.chunk t ⟨gl, gc, none⟩]) := by
  simp [combOnChunk, hne.symm, combPass]

theorem combFold_weave (cfg : CombCfg) : ∀ (evs : List Ev) (st : CombSt), ISI st → (∀ e ∈ evs, e.isChunk = true) →
    chunkMs (combFold cfg st evs) = weave (chunkMs evs) (combRun cfg st (mappedMs evs)).1
    ∧ declsOf (combFold cfg st evs) = (combRun cfg st (mappedMs evs)).2.1 := by
  intro evs
  induction evs with
  | nil => intro st _ _; exact ⟨rfl, rfl⟩
  | cons e es ih =>
    intro st hi hc
    have hc' : ∀ e ∈ es, e.isChunk = true := fun x hx => hc x (List.mem_cons_of_mem _ hx)
    cases e with
    | chunk t m =>
      simp only [combFold, combStep, chunkMs_append, declsOf_append]
      rcases m with ⟨gl, gc, _ | o⟩
      · obtain ⟨i1, i2⟩ := ih st hi hc'
        rw [combOnChunk_unmapped cfg st (by rcases hi with h | h <;> omega), mappedMs_cons, if_neg (by simp [isMapped])]
        exact ⟨by simp only [chunkMs, List.cons_append, List.nil_append, weave, isMapped, Option.isSome_none, Bool.false_eq_true, if_false, i1],
          by simp only [declsOf, List.nil_append]; exact i2⟩
      · have hq : isMapped ⟨gl, gc, some o⟩ = true := rfl
        -- the call with this text and the text-less call of `combRun` are one walk: same state, announcements and location
        obtain ⟨st', anns, o', e, _, ha, _⟩ := combOnChunk_walk cfg st ⟨gl, gc, some o⟩
        have hi' := isi_combStep cfg st hi (.chunk none ⟨gl, gc, some o⟩)
        simp only [combStep, e none] at hi'
        obtain ⟨i1, i2⟩ := ih st' hi' hc'
        rw [mappedMs_cons, if_pos hq]
        simp only [combRun, e t, e none, chunkMs_append, declsOf_append, chunkMs_noChunk anns ha.isChunk, declsOf_noChunk anns ha.isChunk,
          chunkMs, declsOf, List.nil_append, List.append_nil, List.cons_append, List.head?_cons, Option.bind_some, weave, hq, if_true, i1, i2, and_self]
    | source i s c => cases hc _ List.mem_cons_self
    | name i n => cases hc _ List.mem_cons_self

def lastMatch (l c : Nat) : Option Mapping → List Mapping → Option Mapping
  | acc, [] => acc
  | acc, m :: ms => lastMatch l c (if m.gl = l ∧ m.gc ≤ c then some m else acc) ms

theorem lastMatch_eq (l c : Nat) : ∀ (ms : List Mapping) (acc : Option Mapping),
    lastMatch l c acc ms = (ms.filter fun m => m.gl = l ∧ m.gc ≤ c).getLast?.or acc := by
  intro ms
  induction ms with
  | nil => intro acc; rfl
  | cons m ms ih =>
    intro acc
    rw [lastMatch, ih, List.filter_cons]
    by_cases h : m.gl = l ∧ m.gc ≤ c
    · rw [if_pos h, if_pos (decide_eq_true h), List.getLast?_cons]
      cases (ms.filter fun m => m.gl = l ∧ m.gc ≤ c).getLast? <;> rfl
    · rw [if_neg h, if_neg (by simpa using h)]

theorem lastMatch_none (l c : Nat) (ms : List Mapping) (h : lastMatch l c none ms = none) : ∀ x ∈ ms, ¬ (x.gl = l ∧ x.gc ≤ c) := by
  rw [lastMatch_eq, Option.or_none, List.getLast?_eq_none_iff, List.filter_eq_nil_iff] at h
  exact fun x hx hq => h x hx (decide_eq_true hq)

/-- the three scans run side by side, their accumulators related as their results are: the last qualifying chunk of `A`, when it is
mapped, is also the last qualifying one among the mapped chunks -/
theorem lookupGo_weave (l c : Nat) : ∀ (A : List Mapping) (O : List (Option Orig)) (accA accW accM : Option (Option Orig)),
    accW.join = (if accA.join.isSome then accM.join else none) →
    (lookupGo l c accW (weave A O)).join
      = if (lookupGo l c accA A).join.isSome then (lookupGo l c accM (weave (A.filter isMapped) O)).join else none := by
  intro A
  induction A with
  | nil => intro O accA accW accM h; exact h
  | cons a A ih =>
    intro O accA accW accM h
    by_cases hq : isMapped a = true
    · rw [List.filter_cons_of_pos hq, weave_cons_mapped hq, weave_cons_mapped hq]
      simp only [lookupGo]
      apply ih
      split
      · simp only [Option.join_some, show a.orig.isSome = true from hq, if_true]
      · exact h
    · have hq' : isMapped a = false := by simpa using hq
      rw [List.filter_cons_of_neg hq, weave_cons_unmapped hq']
      simp only [lookupGo]
      apply ih
      split
      · simp only [Option.join_some, show a.orig = none by simpa [isMapped] using hq', Option.isSome_none, Bool.false_eq_true, if_false]
      · exact h

theorem lookupCols_weave (A : List Mapping) (O : List (Option Orig)) (l c : Nat) :
    lookupCols (weave A O) l c = if (lookupCols A l c).isSome then lookupCols (weave (A.filter isMapped) O) l c else none :=
  lookupGo_weave l c A O none none none rfl

theorem lookEq_weave {T : Text} {A B : List Mapping} (O : List (Option Orig)) (hM : A.filter isMapped = B.filter isMapped)
    (hL : LookEq T A B) : LookEq T (weave A O) (weave B O) := fun j hj => by
  rw [lookupCols_weave A, lookupCols_weave B, hL j hj, hM]

/-- `lookEq_weave`; the hypotheses on order (`hA`, `hB`, `hstrict`) and length (`hlen`) are not used -/
theorem weave_lookEq (T : Text) (A B : List Mapping) (O : List (Option Orig)) (hA : A.Pairwise mle) (hB : B.Pairwise mle)
    (hM : A.filter isMapped = B.filter isMapped) (hstrict : (A.filter isMapped).Pairwise mlt) (hlen : O.length = (A.filter isMapped).length)
    (hL : LookEq T A B) : LookEq T (weave A O) (weave B O) :=
  lookEq_weave O hM hL

theorem weave_sorted : ∀ (A : List Mapping) (O : List (Option Orig)) (l c : Nat), sortedFrom l c A → sortedFrom l c (weave A O) := by
  intro A
  induction A with
  | nil => intro O l c _; trivial
  | cons a A ih =>
    intro O l c h
    by_cases hq : isMapped a = true
    · rw [weave_cons_mapped hq]; exact ⟨h.1, ih _ _ _ h.2⟩
    · rw [weave_cons_unmapped (by simpa using hq)]; exact ⟨h.1, ih _ _ _ h.2⟩

theorem chunkMs_of_noKeys (evs : List Ev) (h : evsKeys evs = []) : chunkMs evs = [] := by
  cases hq : chunkMs evs with
  | nil => rfl
  | cons m ms =>
    obtain ⟨k, hk, _⟩ := chunkMs_keys evs m (by rw [hq]; simp)
    rw [h] at hk; cases hk

theorem mappedMs_noChunk (evs : List Ev) (h : ∀ e ∈ evs, e.isChunk = false) : mappedMs evs = [] := by
  simp [mappedMs, chunkMs_noChunk evs h]

theorem combFold_ann (cfg : CombCfg) : ∀ (evs : List Ev) (st : CombSt), (∀ e ∈ evs, e.isChunk = false) →
    Anns (fun s cc => ∃ j, Ev.source j s cc ∈ evs ∧ s ≠ cfg.innerName) (combFold cfg st evs)
  | [], _, _ => .nil
  | e :: es, st, hc =>
    .append ((combStep_annOf cfg st (hc e List.mem_cons_self)).mono fun _ _ ⟨i, he, hne⟩ => ⟨i, he ▸ List.mem_cons_self, hne⟩)
      ((combFold_ann cfg es _ fun x hx => hc x (List.mem_cons_of_mem _ hx)).mono fun _ _ ⟨j, hj, hne⟩ => ⟨j, List.mem_cons_of_mem _ hj, hne⟩)

theorem combFold_modes (cfg : CombCfg) (os : Option Text) (P CF CN : List Ev) (hP : ∀ e ∈ P, e.isChunk = false)
    (cF : ∀ e ∈ CF, e.isChunk = true) (cN : ∀ e ∈ CN, e.isChunk = true) (hM : mappedMs CF = mappedMs CN) :
    ∃ O : List (Option Orig), chunkMs (combFold cfg { innerSource := os } (P ++ CF)) = weave (chunkMs CF) O
      ∧ chunkMs (combFold cfg { innerSource := os } (P ++ CN)) = weave (chunkMs CN) O
      ∧ declsOf (combFold cfg { innerSource := os } (P ++ CF)) = declsOf (combFold cfg { innerSource := os } (P ++ CN)) := by
  have hX := chunkMs_noChunk _ (combFold_ann cfg P { innerSource := os } hP).isChunk
  have hisi := isi_combEnd cfg P { innerSource := os } (Or.inl rfl)
  obtain ⟨wF, dF⟩ := combFold_weave cfg CF _ hisi cF
  obtain ⟨wN, dN⟩ := combFold_weave cfg CN _ hisi cN
  rw [hM] at wF dF
  refine ⟨(combRun cfg (combEnd cfg { innerSource := os } P) (mappedMs CN)).1, ?_, ?_, ?_⟩
  · rw [combFold_append, chunkMs_append, hX, List.nil_append, wF]
  · rw [combFold_append, chunkMs_append, hX, List.nil_append, wN]
  · rw [combFold_append, combFold_append, declsOf_append, declsOf_append, dF, dN]

theorem streamCombined_modes (t : Text) (sm : SMap) (n : Text) (os : Option Text) (im : SMap) (rm : Bool) (c : Bool)
    (hM : mappedMs (streamSM t sm ⟨c, true⟩).evs = mappedMs (streamSM t sm ⟨c, false⟩).evs) :
    ∃ O : List (Option Orig),
      chunkMs (streamCombined t sm n os im rm ⟨c, true⟩).evs = weave (chunkMs (streamSM t sm ⟨c, true⟩).evs) O
      ∧ chunkMs (streamCombined t sm n os im rm ⟨c, false⟩).evs = weave (chunkMs (streamSM t sm ⟨c, false⟩).evs) O
      ∧ declsOf (streamCombined t sm n os im rm ⟨c, true⟩).evs = declsOf (streamCombined t sm n os im rm ⟨c, false⟩).evs := by
  obtain ⟨CF, cF, eF⟩ := streamSM_evs t sm ⟨c, true⟩
  obtain ⟨CN, cN, eN⟩ := streamSM_evs t sm ⟨c, false⟩
  simp only [streamCombined]
  rw [eF, eN] at hM ⊢
  by_cases ht : t = []
  · rw [if_pos ht, if_pos ht]
    exact ⟨[], rfl, rfl, rfl⟩
  · have hP := smAnnEvs_noChunk sm c
    simp only [if_neg ht, mappedMs_append, mappedMs_noChunk _ hP, chunkMs_append, chunkMs_noChunk _ hP, List.nil_append] at hM ⊢
    exact combFold_modes ⟨t, n, im, rm, c⟩ os _ CF CN hP cF cN hM

/-- **T3 for the combinator (columns = true)**: the text-less stream of a SourceMapSource with an inner map is sorted, announces
what the normal stream announces, and answers every lookup at a character position of the generated text like the normal stream —
for an ASCII text of at most `USIZE_MAX` bytes and an outer map that is strictly sorted with every mapped segment on a character of the text -/
theorem streamCombined_m3 (t : Text) (sm : SMap) (n : Text) (os : Option Text) (im : SMap) (rm : Bool)
    (ha : IsAscii t) (hl : t.length ≤ USIZE_MAX) (hs : sortedFrom 1 0 (decode sm.mappings)) (hstrict : (decode sm.mappings).Pairwise mlt)
    (hseg : ∀ m ∈ decode sm.mappings, SegOK (splitLines t) (adv startPos t).line (adv startPos t).col m) :
    sortedFrom 1 0 (chunkMs (streamCombined t sm n os im rm ⟨true, true⟩).evs)
    ∧ declsOf (streamCombined t sm n os im rm ⟨true, true⟩).evs = declsOf (streamCombined t sm n os im rm ⟨true, false⟩).evs
    ∧ LookEq t (chunkMs (streamCombined t sm n os im rm ⟨true, true⟩).evs) (chunkMs (streamCombined t sm n os im rm ⟨true, false⟩).evs) := by
  obtain ⟨mN, mF⟩ := streamSM_mapped t sm ha hl hs hstrict hseg
  obtain ⟨O, wF, wN, hd⟩ := streamCombined_modes t sm n os im rm true (mF.trans mN.symm)
  rw [wF, wN]
  exact ⟨weave_sorted _ _ _ _ (streamSM_final_sorted t sm hs), hd, lookEq_weave O (mF.trans mN.symm) (streamSM_lookEq t sm ha hl hs hseg)⟩

end Rs
