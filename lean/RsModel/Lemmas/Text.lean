import RsModel.Model.Basic
/-!
# Byte windows and char boundaries of a text

`bsub t a b` is the window `t[a..b)`, `bget` is `str::get` (the window, if both ends are char boundaries), `isBoundary` is
`str::is_char_boundary`.  How windows split, nest and sit inside a larger text; the two ends of a text are boundaries; and
positions clamped to the length of the text, as the splice loops of `ReplaceSource::source` and `rope()` take them (`take_min`,
`clamp_next`, `isBoundary_max_clamp`).
-/
namespace Rs

theorem bsub_self (t : Text) (a : Nat) : bsub t a a = [] := by simp [bsub]

theorem bsub_whole (c : Text) : bsub c 0 c.length = c := by simp [bsub]

theorem bsub_to_end (t : Text) (pos : Nat) : bsub t pos t.length = t.drop pos := by
  unfold bsub; rw [List.take_of_length_le (by simp)]

theorem take_drop_eq_bsub (t : Text) (i n : Nat) : (t.drop i).take n = bsub t i (i + n) := by
  unfold bsub; rw [Nat.add_sub_cancel_left]

theorem bsub_length (t : Text) (a b : Nat) (h : b ≤ t.length) : (bsub t a b).length = b - a := by
  rw [bsub, List.length_take, List.length_drop]; omega

theorem bsub_split (t : Text) (a m b : Nat) (h1 : a ≤ m) (h2 : m ≤ b) : bsub t a b = bsub t a m ++ bsub t m b := by
  unfold bsub
  have : b - a = (m - a) + (b - m) := by omega
  rw [this, List.take_add, List.drop_drop]
  congr 3; omega

theorem bsub_append_drop (t : Text) (a b : Nat) (h : a ≤ b) : bsub t a b ++ t.drop b = t.drop a := by
  have : t.drop b = (t.drop a).drop (b - a) := by rw [List.drop_drop, Nat.add_sub_cancel' h]
  rw [this, bsub, List.take_append_drop]

theorem bsub_mid (x y z : Text) (a b : Nat) (ha : x.length ≤ a) (hab : a ≤ b) (hb : b ≤ x.length + y.length) :
    bsub (x ++ y ++ z) a b = bsub y (a - x.length) (b - x.length) := by
  unfold bsub
  rw [List.append_assoc, List.drop_append, List.drop_eq_nil_of_le ha, List.nil_append, List.drop_append, List.take_append]
  have h2 : (z.drop (a - x.length - y.length)).take (b - a - (y.drop (a - x.length)).length) = [] := by
    rw [List.take_eq_nil_iff]; left
    simp only [List.length_drop]; omega
  rw [h2, List.append_nil]
  congr 1; omega

theorem bsub_get (T : Text) (q q' d : Nat) (hq : q' ≤ T.length) (hd : d < q' - q) :
    (bsub T q q')[d]? = T[q + d]? ∧ d < (bsub T q q').length := by
  refine ⟨?_, by rw [bsub_length T q q' hq]; exact hd⟩
  unfold bsub
  rw [List.getElem?_take_of_lt hd, List.getElem?_drop]

theorem bsub_of_prefix_drop (T tok : Text) (k p q : Nat) (h : tok <+: T.drop k) (hq : q ≤ tok.length) :
    bsub tok p q = bsub T (k + p) (k + q) := by
  obtain ⟨r, hr⟩ := h
  unfold bsub
  rw [show k + q - (k + p) = q - p by omega, ← List.drop_drop, ← hr]
  by_cases hp : p ≤ tok.length
  · rw [List.drop_append_of_le_length hp, List.take_append_of_le_length (by rw [List.length_drop]; omega)]
  · rw [show q - p = 0 by omega, List.take_zero, List.take_zero]

theorem bsub_bsub (t : Text) (p q p' q' : Nat) (hq : q ≤ t.length) (h' : q' ≤ q - p) : bsub (bsub t p q) p' q' = bsub t (p + p') (p + q') := by
  refine bsub_of_prefix_drop t (bsub t p q) p p' q' (List.take_prefix _ _) ?_
  rw [bsub_length t p q hq]
  exact h'

theorem isBoundary_zero (c : Text) : isBoundary c 0 = true := by simp [isBoundary]

theorem isBoundary_len (c : Text) : isBoundary c c.length = true := by
  unfold isBoundary
  split
  · rfl
  · simp

theorem bget_eq (c : Text) (a b : Nat) (h1 : a ≤ b) (h2 : b ≤ c.length) :
    bget c a b = if isBoundary c a && isBoundary c b then some (bsub c a b) else none := by
  unfold bget
  by_cases ha : isBoundary c a = true <;> by_cases hb : isBoundary c b = true <;> simp [h1, h2, ha, hb]

theorem bget_some (c : Text) (a b : Nat) (h1 : a ≤ b) (h2 : b ≤ c.length) (ha : isBoundary c a = true) (hb : isBoundary c b = true) :
    bget c a b = some (bsub c a b) := if_pos ⟨h1, h2, ha, hb⟩

theorem take_min (t : Text) (pos s : Nat) : bsub t pos (min s t.length) = (t.drop pos).take (s - pos) := by
  unfold bsub
  rcases Nat.le_total s t.length with h | h
  · rw [Nat.min_eq_left h]
  · rw [Nat.min_eq_right h, List.take_of_length_le (by simp), List.take_of_length_le (by simp; omega)]

theorem drop_clamp {α : Type} (l : List α) (n : Nat) : l.drop n = l.drop (min n l.length) := by
  by_cases h : n ≤ l.length
  · rw [Nat.min_eq_left h]
  · rw [Nat.min_eq_right (Nat.le_of_not_le h), List.drop_length, List.drop_of_length_le (Nat.le_of_not_le h)]

theorem drop_window (chunk tail : Text) (cp d : Nat) (h : cp + d ≤ chunk.length) :
    (chunk.drop cp ++ tail).drop d = chunk.drop (cp + d) ++ tail := by
  rw [List.drop_append_of_le_length (by rw [List.length_drop]; omega), List.drop_drop]

/-- a loop that stands at `pos` and moves on to `q`, clamped to the text: its step taken on the unconsumed suffix `t.drop pos`
is the step taken on `t` -/
theorem clamp_next (t : Text) (pos q : Nat) (hp : pos ≤ t.length) (hq : pos ≤ q) :
    pos + min (q - pos) (t.drop pos).length = min q t.length ∧ (t.drop pos).drop (q - pos) = t.drop (min q t.length) := by
  rw [List.length_drop, List.drop_drop, ← Nat.add_min_add_left, Nat.add_sub_cancel' hq, Nat.add_sub_cancel' hp, ← drop_clamp]
  exact ⟨rfl, rfl⟩

theorem isBoundary_max_clamp (t : Text) (pos stop : Nat) (hp : pos ≤ t.length) (hb : isBoundary t pos = true)
    (he : isBoundary t (min stop t.length) = true) : isBoundary t (min (max pos stop) t.length) = true := by
  rcases Nat.le_total stop pos with h | h
  · rw [Nat.max_eq_left h, Nat.min_eq_left hp]; exact hb
  · rw [Nat.max_eq_right h]; exact he

end Rs
