import RsModel.Lemmas.PosTree
import RsModel.Lemmas.EqViews
/-!
# Cold caches are transparent at any depth

A tree without CachedSource nodes neither reads nor writes the store (`Src.stream_nc`).
`Cold σ ids`: the store holds nothing for these CachedSource nodes; `ColdAt σ ids o`: nothing under the options `o`, the notion
the bookkeeping is proved for (`Cold` is `ColdAt` at every `o`).  `s.strip` removes every CachedSource wrapper.  On a store in
which every cache of the tree is cold (and distinct CachedSource nodes own distinct caches) the tree streams exactly what the
stripped tree streams — in every mode (`Src.stream_strip`) — so the delivered stream does not depend on the rest of the store
(`Src.stream_cold`), `get_map` returns the same map (`getMap_strip`), and every theorem about cache-free trees applies to the first
call on a tree with caches.
-/
namespace Rs

mutual
theorem Src.stream_nc : ∀ (s : Src) (o : Opts) (σ : Store), s.NoCached → (s.stream o σ).2 = σ ∧ (s.stream o σ).1 = (s.stream o []).1
  | .raw .. | .rawStr .. | .rawBuf .. | .orig .. => fun _ _ _ => ⟨rfl, rfl⟩
  | .sms _ _ _ _ inner _ => fun _ _ _ => by cases inner <;> exact ⟨rfl, rfl⟩
  | .concat cs => fun o σ h => by
    obtain ⟨c1, c2⟩ := SrcList.streams_nc cs o σ h
    rw [Src.concat_stream, Src.concat_stream, c2]
    exact ⟨c1, rfl⟩
  | .replace inner rs => fun o σ h => by
    obtain ⟨a1, a2⟩ := Src.stream_nc inner ⟨o.columns, false⟩ σ h
    simp only [Src.stream]
    exact ⟨a1, by rw [a2]⟩
  | .cached _ _ => fun _ _ h => h.elim
theorem SrcList.streams_nc : ∀ (l : SrcList) (o : Opts) (σ : Store), l.NoCachedL → (l.streams o σ).2 = σ ∧ (l.streams o σ).1 = (l.streams o []).1
  | .nil => fun _ _ _ => ⟨rfl, rfl⟩
  | .cons s rest => fun o σ h => by
    obtain ⟨a1, a2⟩ := Src.stream_nc s o σ h.1
    obtain ⟨c1, c2⟩ := SrcList.streams_nc rest o (s.stream o σ).2 h.2
    obtain ⟨_, d2⟩ := SrcList.streams_nc rest o (s.stream o []).2 h.2
    simp only [SrcList.streams]
    refine ⟨by rw [c1, a1], ?_⟩
    rw [a2, c2, d2]
end

mutual
theorem Src.nc_nodes : ∀ (s : Src), s.NoCached → s.cachedNodes = []
  | .raw .. | .rawStr .. | .rawBuf .. | .orig .. | .sms .. => fun _ => rfl
  | .concat cs => SrcList.nc_nodesL cs
  | .replace inner _ => Src.nc_nodes inner
  | .cached _ _ => fun h => h.elim
theorem SrcList.nc_nodesL : ∀ (l : SrcList), l.NoCachedL → l.cachedNodesL = []
  | .nil => fun _ => rfl
  | .cons s r => fun h => by
    simp only [SrcList.cachedNodesL, Src.nc_nodes s h.1, SrcList.nc_nodesL r h.2, List.append_nil]
end

theorem Src.nc_ids (s : Src) (h : s.NoCached) : s.ids = [] := by
  rw [Src.ids, Src.nc_nodes s h]; rfl

theorem Src.nc_nodup (s : Src) (h : s.NoCached) : s.ids.Nodup := Src.nc_ids s h ▸ List.nodup_nil

theorem getMap_nc (inner : Src) (h : inner.NoCached) (o : Opts) (σ : Store) : getMap inner o σ = ((getMap inner o []).1, σ) := by
  simp only [getMap]
  obtain ⟨a, b⟩ := Src.stream_nc inner ⟨o.columns, true⟩ σ h
  rw [a, b]

theorem Src.map_nc : ∀ (s : Src) (o : Opts) (σ : Store), s.NoCached → s.map o σ = ((s.map o []).1, σ)
  | .raw .., _, _, _ | .rawStr .., _, _, _ | .rawBuf .., _, _, _ => rfl
  | .orig t n, o, σ, h | .concat cs, o, σ, h | .sms _ _ _ _ (some _) _, o, σ, h => by
    simp only [Src.map]; rw [getMap_nc _ h o σ, getMap_nc _ h o []]
  | .sms _ _ _ _ none _, _, _, _ => rfl
  | .replace inner rs, o, σ, h => by
    simp only [Src.map]
    split
    · exact Src.map_nc inner o σ h
    · rw [getMap_nc _ h o σ, getMap_nc _ h o []]
  | .cached _ _, _, _, h => h.elim

def Cold (σ : Store) (ids : List Nat) : Prop := ∀ i ∈ ids, ∀ o, σ.get? (i, o) = none

def ColdAt (σ : Store) (ids : List Nat) (o : Opts) : Prop := ∀ i ∈ ids, σ.get? (i, o) = none

theorem cold_coldAt (σ : Store) (ids : List Nat) (h : Cold σ ids) (o : Opts) : ColdAt σ ids o := fun i hi => h i hi o

theorem cold_nil (ids : List Nat) : Cold [] ids := fun _ _ _ => rfl

theorem coldAt_sub (σ : Store) (a b : List Nat) (o : Opts) (h : ColdAt σ (a ++ b) o) : ColdAt σ a o ∧ ColdAt σ b o :=
  ⟨fun i hi => h i (List.mem_append_left _ hi), fun i hi => h i (List.mem_append_right _ hi)⟩

theorem coldAt_after (s : Src) (o o' : Opts) (σ : Store) (ids : List Nat) (h : ColdAt σ ids o') (hd : ∀ i ∈ ids, i ∉ s.ids) :
    ColdAt (s.stream o σ).2 ids o' := by
  intro i hi
  rw [Src.stream_store_other s o σ (i, o') (hd i hi)]
  exact h i hi

theorem coldAt_cons (s : Src) (rest : SrcList) (hn : (SrcList.cons s rest).idsL.Nodup) :
    s.ids.Nodup ∧ rest.idsL.Nodup
    ∧ ∀ σ o', ColdAt σ (SrcList.cons s rest).idsL o' → ColdAt σ s.ids o' ∧ ∀ o, ColdAt (s.stream o σ).2 rest.idsL o' := by
  simp only [SrcList.idsL, SrcList.cachedNodesL, List.map_append] at hn ⊢
  obtain ⟨hn1, hn2, hdisj⟩ := List.nodup_append.1 hn
  refine ⟨hn1, hn2, fun σ o' hc => ⟨(coldAt_sub _ _ _ _ hc).1, fun o => ?_⟩⟩
  exact coldAt_after s o o' σ _ (coldAt_sub _ _ _ _ hc).2 (fun i hi hmem => hdisj i hmem i hi rfl)

theorem cold_cons (s : Src) (rest : SrcList) (hn : (SrcList.cons s rest).idsL.Nodup) :
    s.ids.Nodup ∧ rest.idsL.Nodup ∧ ∀ σ, Cold σ (SrcList.cons s rest).idsL → Cold σ s.ids ∧ ∀ o, Cold (s.stream o σ).2 rest.idsL := by
  obtain ⟨hn1, hn2, h⟩ := coldAt_cons s rest hn
  exact ⟨hn1, hn2, fun σ hc => ⟨fun i hi o => (h σ o (cold_coldAt σ _ hc o)).1 i hi,
    fun o i hi o' => (h σ o' (cold_coldAt σ _ hc o')).2 o i hi⟩⟩

theorem cold_cached (id : Nat) (inner : Src) : ((Src.cached id inner).ids.Nodup → inner.ids.Nodup)
    ∧ ∀ σ, Cold σ (Src.cached id inner).ids → Cold σ inner.ids ∧ ∀ o, ((Src.cached id inner).stream o σ).1 = (inner.stream o σ).1 :=
  ⟨fun hn => (List.nodup_cons.1 hn).2, fun σ hc => ⟨fun i hi => hc i (List.mem_cons_of_mem _ hi),
    fun o => by rw [Src.cached_stream_cold id inner o σ (hc id List.mem_cons_self o)]⟩⟩

mutual
def Src.strip : Src → Src
  | .concat cs => .concat cs.stripL
  | .replace inner rs => .replace inner.strip rs
  | .cached _ inner => inner.strip
  | s => s
def SrcList.stripL : SrcList → SrcList
  | .nil => .nil
  | .cons s r => .cons s.strip r.stripL
end

/-! A predicate given by recursion over the tree unfolds by computation on `strip` of a constructor as on the constructor, so each
case below is the recursive call, with what the node itself asks passed along. -/

mutual
theorem Src.strip_nc : ∀ (s : Src), s.strip.NoCached
  | .raw .. | .rawStr .. | .rawBuf .. | .orig .. | .sms .. => trivial
  | .concat cs => SrcList.stripL_nc cs
  | .replace inner _ | .cached _ inner => Src.strip_nc inner
theorem SrcList.stripL_nc : ∀ (l : SrcList), l.stripL.NoCachedL
  | .nil => trivial
  | .cons s r => ⟨Src.strip_nc s, SrcList.stripL_nc r⟩
end

mutual
theorem Src.strip_src : ∀ (s : Src), s.strip.src = s.src
  | .raw .. | .rawStr .. | .rawBuf .. | .orig .. | .sms .. => rfl
  | .concat cs => SrcList.stripL_srcs cs
  | .replace inner rs => congrArg (replaceSource · rs) (Src.strip_src inner)
  | .cached _ inner => Src.strip_src inner
theorem SrcList.stripL_srcs : ∀ (l : SrcList), l.stripL.srcs = l.srcs
  | .nil => rfl
  | .cons s r => by simp only [SrcList.stripL, SrcList.srcs]; rw [Src.strip_src s, SrcList.stripL_srcs r]
end

mutual
theorem Src.strip_eraseIds : ∀ (s : Src), s.eraseIds.strip = s.strip
  | .raw .. | .rawStr .. | .rawBuf .. | .orig .. | .sms .. => rfl
  | .concat cs => congrArg Src.concat (SrcList.stripL_eraseIdsL cs)
  | .replace inner rs => congrArg (Src.replace · rs) (Src.strip_eraseIds inner)
  | .cached _ inner => Src.strip_eraseIds inner
theorem SrcList.stripL_eraseIdsL : ∀ (l : SrcList), l.eraseIdsL.stripL = l.stripL
  | .nil => rfl
  | .cons s r => by simp only [SrcList.eraseIdsL, SrcList.stripL]; rw [Src.strip_eraseIds s, SrcList.stripL_eraseIdsL r]
end

mutual
theorem Src.strip_wf : ∀ (s : Src), s.WF → s.strip.WF
  | .raw .. | .rawStr .. | .rawBuf .. | .orig .. => fun _ => trivial
  | .sms .. => id
  | .concat cs => SrcList.stripL_wfs cs
  | .replace inner _ => fun h => ⟨Src.strip_wf inner h.1, h.2⟩
  | .cached _ inner => fun h => Src.strip_wf inner h.1
theorem SrcList.stripL_wfs : ∀ (l : SrcList), l.WFs → l.stripL.WFs
  | .nil => fun _ => trivial
  | .cons s r => fun h => ⟨Src.strip_wf s h.1, SrcList.stripL_wfs r h.2⟩
end

mutual
theorem Src.strip_posHyp (c : Bool) : ∀ (s : Src), s.PosHyp c → s.strip.PosHyp c
  | .raw .. | .rawStr .. | .rawBuf .. | .orig .. => fun _ => trivial
  | .sms .. => id
  | .concat cs => SrcList.stripL_posHyps c cs
  | .replace inner rs => fun h => ⟨Src.strip_posHyp c inner h.1, by rw [Src.strip_src]; exact h.2⟩
  | .cached _ inner => fun h => Src.strip_posHyp c inner h.1
theorem SrcList.stripL_posHyps (c : Bool) : ∀ (l : SrcList), l.PosHyps c → l.stripL.PosHyps c
  | .nil => fun _ => trivial
  | .cons s r => fun h => ⟨Src.strip_posHyp c s h.1, SrcList.stripL_posHyps c r h.2⟩
end

mutual
theorem Src.stream_strip : ∀ (s : Src) (o : Opts) (σ : Store), s.ids.Nodup → Cold σ s.ids →
    (s.stream o σ).1 = (s.strip.stream o []).1
  | .raw .. | .rawStr .. | .rawBuf .. | .orig .. => fun _ _ _ _ => rfl
  | .sms _ _ _ _ inner _ => fun _ _ _ _ => by cases inner <;> rfl
  | .concat cs => fun o σ hn hc => by
    rw [Src.strip, Src.concat_stream, Src.concat_stream, SrcList.streams_strip cs o σ hn hc]
  | .replace inner rs => fun o σ hn hc => by
    simp only [Src.strip, Src.stream]
    rw [Src.stream_strip inner ⟨o.columns, false⟩ σ hn hc]
  | .cached id inner => fun o σ hn hc => by
    obtain ⟨hn', hcold⟩ := cold_cached id inner
    rw [Src.strip, (hcold σ hc).2]
    exact Src.stream_strip inner o σ (hn' hn) (hcold σ hc).1
theorem SrcList.streams_strip : ∀ (l : SrcList) (o : Opts) (σ : Store), l.idsL.Nodup → Cold σ l.idsL →
    (l.streams o σ).1 = (l.stripL.streams o []).1
  | .nil => fun _ _ _ _ => rfl
  | .cons s rest => fun o σ hn hc => by
    obtain ⟨hn1, hn2, hcold⟩ := cold_cons s rest hn
    obtain ⟨hc1, hc2⟩ := hcold σ hc
    simp only [SrcList.stripL, SrcList.streams]
    -- the stripped children do not touch the store
    rw [Src.stream_strip s o σ hn1 hc1, SrcList.streams_strip rest o _ hn2 (hc2 o),
      (SrcList.streams_nc rest.stripL o (s.strip.stream o []).2 (SrcList.stripL_nc rest)).2]
end

theorem Src.stream_cold : ∀ (s : Src) (o : Opts) (σ σ' : Store), s.ids.Nodup → Cold σ s.ids → Cold σ' s.ids → (s.stream o σ).1 = (s.stream o σ').1 := by
  intro s o σ σ' hn hc hc'
  rw [Src.stream_strip s o σ hn hc, Src.stream_strip s o σ' hn hc']

theorem SrcList.streams_cold : ∀ (l : SrcList) (o : Opts) (σ σ' : Store), l.idsL.Nodup → Cold σ l.idsL → Cold σ' l.idsL → (l.streams o σ).1 = (l.streams o σ').1 := by
  intro l o σ σ' hn hc hc'
  rw [SrcList.streams_strip l o σ hn hc, SrcList.streams_strip l o σ' hn hc']

theorem getMap_strip (s : Src) (o : Opts) (σ : Store) (hn : s.ids.Nodup) (hc : Cold σ s.ids) :
    (getMap s o σ).1 = (getMap s.strip o []).1 := by
  simp only [getMap]
  rw [Src.stream_strip s ⟨o.columns, true⟩ σ hn hc]

end Rs
