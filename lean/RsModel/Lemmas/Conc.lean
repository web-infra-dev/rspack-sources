import RsModel.Model.Conc
/-!
# invariants of the shared-state protocol, for every interleaving

`TInv` is what one thread may rely on at its program counter, `Inv` the invariant of the system (flag set ⇒ index sorted; lock held ⇒
entry vacant; `TInv` of every thread), `Mono` what a step can only add to the shared state.  A step keeps `Inv` and is `Mono`
(`step_spec`, by cases in `stepThread_spec`), so `Inv` holds in every state reachable from `initSys` under every schedule
(`inv_reach`), and in such a state some thread can step while work is left (`no_deadlock_of_inv`).
-/
namespace Rs.Conc

/-- what thread `i` in local state `t` may rely on, given the shared state -/
structure TInv (sh : Shared) (i : Nat) (t : Thread) : Prop where
  ok : t.ok = true
  sorted2 : t.ops.head? = some .sorted → t.pc ≥ 2 → sh.idxSorted = true
  clone1 : t.ops.head? = some .clone → t.pc ≥ 1 → t.sawFlag = true → sh.idxSorted = true
  clone2 : t.ops.head? = some .clone → t.pc ≥ 2 → t.sawFlag = true → t.gotIdx = true
  holder : sh.lock = some i ↔ (t.ops.head? = some .cstream ∧ t.pc ≥ 1)

structure Inv (s : Sys) : Prop where
  flagIdx : s.sh.flag = true → s.sh.idxSorted = true
  lockVacant : s.sh.lock.isSome → s.sh.entry = none
  lockValid : ∀ i, s.sh.lock = some i → i < s.ths.length
  threads : ∀ i (h : i < s.ths.length), TInv s.sh i s.ths[i]

structure Mono (a b : Shared) : Prop where
  flag : a.flag = true → b.flag = true
  idx : a.idxSorted = true → b.idxSorted = true
  entry : ∀ v, a.entry = some v → b.entry = some v
  once : a.once = true → b.once = true

theorem Mono.refl (a : Shared) : Mono a a := ⟨id, id, fun _ => id, id⟩

/-- at the start of an operation (`pc = 0`) only `ok` and the lock say anything -/
theorem TInv.start {sh : Shared} {i : Nat} {t : Thread} (hok : t.ok = true) (hpc : t.pc = 0) (hl : sh.lock ≠ some i) : TInv sh i t :=
  ⟨hok, fun _ h => by omega, fun _ h => by omega, fun _ h => by omega, iff_of_false hl fun h => by have := h.2; omega⟩

theorem TInv.finish {sh sh' : Shared} {i : Nat} {t : Thread} (ht : TInv sh i t) {good : Bool} (hg : good = true)
    (hl : sh'.lock ≠ some i) : TInv sh' i (t.finish good) :=
  .start (by rw [Thread.finish, ht.ok, hg]; rfl) rfl hl

theorem lock_free {l : Option Nat} {i : Nat} (h : ¬(l.isSome ∧ l ≠ some i)) (hi : l ≠ some i) : l = none := by
  cases l with
  | none => rfl
  | some j => exact absurd ⟨rfl, hi⟩ h

/-! `TInv` by the current operation: the fields that speak of another operation hold vacuously. -/
section
variable {sh : Shared} {i pc : Nat} {rest : List Op} {sf gi : Bool}

theorem TInv.sorted (h2 : pc ≥ 2 → sh.idxSorted = true)
    (hl : sh.lock ≠ some i) : TInv sh i ⟨.sorted :: rest, pc, sf, gi, true⟩ :=
  ⟨rfl, fun _ => h2, nofun, nofun, iff_of_false hl (nomatch ·.1)⟩

theorem TInv.clone (h1 : pc ≥ 1 → sf = true → sh.idxSorted = true)
    (h2 : pc ≥ 2 → sf = true → gi = true) (hl : sh.lock ≠ some i) : TInv sh i ⟨.clone :: rest, pc, sf, gi, true⟩ :=
  ⟨rfl, nofun, fun _ => h1, fun _ => h2, iff_of_false hl (nomatch ·.1)⟩

theorem TInv.cstream (hl : sh.lock = some i ↔ pc ≥ 1) :
    TInv sh i ⟨.cstream :: rest, pc, sf, gi, true⟩ :=
  ⟨rfl, nofun, nofun, nofun, hl.trans ⟨fun h => ⟨rfl, h⟩, (·.2)⟩⟩

theorem TInv.plain {op : Op} (hop : op = .cmap ∨ op = .once)
    (hl : sh.lock ≠ some i) : TInv sh i ⟨op :: rest, pc, sf, gi, true⟩ := by
  rcases hop with rfl | rfl <;> exact ⟨rfl, nofun, nofun, nofun, iff_of_false hl (nomatch ·.1)⟩
end

/- By operation and program counter (the cases of `pc` in increasing order).  With the thread given by its fields `stepThread`
computes, so `hs` names `sh'` and `t'`. -/
theorem stepThread_spec (sh : Shared) (i : Nat) (t : Thread) (sh' : Shared) (t' : Thread)
    (hflag : sh.flag = true → sh.idxSorted = true) (hlv : sh.lock.isSome → sh.entry = none)
    (ht : TInv sh i t) (hs : stepThread sh i t = some (sh', t')) :
    Mono sh sh' ∧ (sh'.flag = true → sh'.idxSorted = true) ∧ (sh'.lock.isSome → sh'.entry = none) ∧ TInv sh' i t'
    ∧ (sh'.lock = sh.lock ∨ (sh.lock = none ∧ sh'.lock = some i) ∨ (sh.lock = some i ∧ sh'.lock = none)) := by
  obtain ⟨ops, pc, sf, gi, ok⟩ := t
  cases (ht.ok : ok = true)
  -- a step that leaves the shared state as it is owes only the thread's own assertion at its new `pc`
  have same {t' : Thread} (h : TInv sh i t') : Mono sh sh ∧ (sh.flag = true → sh.idxSorted = true) ∧ (sh.lock.isSome → sh.entry = none)
      ∧ TInv sh i t' ∧ (sh.lock = sh.lock ∨ (sh.lock = none ∧ sh.lock = some i) ∨ (sh.lock = some i ∧ sh.lock = none)) :=
    ⟨.refl _, hflag, hlv, h, .inl rfl⟩
  cases ops with
  | nil => cases hs
  | cons op rest =>
  cases op with
  | sorted =>
    have hl : sh.lock ≠ some i := fun h => nomatch (ht.holder.mp h).1
    rcases pc with _ | _ | _ | n
    · cases hs
      -- the index is read next only if the flag was seen set
      have h2 : (if sh.flag = true then 3 else 1) ≥ 2 → sh.idxSorted = true := by
        cases hf : sh.flag with
        | true => exact fun _ => hflag hf
        | false => exact fun h => absurd h (by decide)
      exact same (.sorted h2 hl)
    · cases hs
      exact ⟨⟨id, fun _ => rfl, fun _ => id, id⟩, fun _ => rfl, hlv, .sorted (fun _ => rfl) hl, .inl rfl⟩
    · cases hs
      have hidx := ht.sorted2 rfl (Nat.le_refl 2)
      exact ⟨⟨fun _ => rfl, id, fun _ => id, id⟩, fun _ => hidx, hlv, .sorted (fun _ => hidx) hl, .inl rfl⟩
    · cases hs
      exact same (ht.finish (ht.sorted2 rfl (Nat.le_add_left 2 (n + 1))) hl)
  | clone =>
    have hl : sh.lock ≠ some i := fun h => nomatch (ht.holder.mp h).1
    rcases pc with _ | _ | n
    · cases hs
      exact same (.clone (fun _ hf => hflag hf) (fun h => (Nat.not_succ_le_zero _ (Nat.le_of_succ_le_succ h)).elim) hl)
    · cases hs
      have hidx := ht.clone1 rfl (Nat.le_refl 1)
      exact same (.clone (fun _ => hidx) (fun _ => hidx) hl)
    · cases hs
      refine same (ht.finish ?_ hl)
      have hgot := ht.clone2 rfl (Nat.le_add_left 2 n)
      cases sf with
      | false => rfl
      | true => exact hgot rfl
  | cmap =>
    have hl : sh.lock ≠ some i := fun h => nomatch (ht.holder.mp h).1
    simp only [stepThread] at hs
    split at hs
    · cases hs
    next hnb =>
    rcases pc with _ | _ | n
    · cases he : sh.entry with
      | some v =>
        rw [he] at hs; cases hs
        exact same (ht.finish rfl hl)
      | none =>
        rw [he] at hs; cases hs
        exact same (.plain (.inl rfl) hl)
    · cases hs
      exact same (.plain (.inl rfl) hl)
    · cases hs
      -- `or_insert`: an entry that is there stays; nobody holds the lock
      refine ⟨⟨id, id, fun v hv => ?_, id⟩, hflag, fun h => ?_, ht.finish rfl hl, .inl rfl⟩
      · show some (sh.entry.getD .M) = some v
        rw [hv]; rfl
      · rw [show sh.lock = none from lock_free hnb hl] at h; cases h
  | cstream =>
    simp only [stepThread] at hs
    split at hs
    · cases hs
    next hnb =>
    rcases pc with _ | _ | n
    · have hl : sh.lock ≠ some i := fun h => (Nat.not_succ_le_zero _ (ht.holder.mp h).2).elim
      cases he : sh.entry with
      | some v =>
        rw [he] at hs; cases hs
        exact same (ht.finish rfl hl)
      | none =>
        rw [he] at hs; cases hs
        exact ⟨⟨id, id, fun _ hv => he.symm.trans hv, id⟩, hflag, fun _ => rfl, .cstream (iff_of_true rfl (Nat.le_refl 1)),
          .inr (.inl ⟨lock_free hnb hl, rfl⟩)⟩
    · cases hs
      have hmine : sh.lock = some i := ht.holder.mpr ⟨rfl, Nat.le_refl 1⟩
      exact same (.cstream (iff_of_true hmine (Nat.le_succ 1)))
    · cases hs
      -- the holder's entry is still vacant, so the unconditional store replaces nothing
      have hmine : sh.lock = some i := ht.holder.mpr ⟨rfl, Nat.le_add_left 1 (n + 1)⟩
      have hvac : sh.entry = none := hlv (by rw [hmine]; rfl)
      exact ⟨⟨id, id, fun v hv => (by rw [hvac] at hv; cases hv), id⟩, hflag, nofun, ht.finish rfl nofun,
        .inr (.inr ⟨hmine, rfl⟩)⟩
  | once =>
    have hl : sh.lock ≠ some i := fun h => nomatch (ht.holder.mp h).1
    rcases pc with _ | n
    · simp only [stepThread] at hs
      split at hs
      · cases hs
        exact same (ht.finish rfl hl)
      · cases hs
        exact same (.plain (.inr rfl) hl)
    · cases hs
      exact ⟨⟨id, id, fun _ => id, fun _ => rfl⟩, hflag, hlv, ht.finish rfl hl, .inl rfl⟩

theorem stepThread_isSome (sh : Shared) (i : Nat) (t : Thread) (hne : t.ops ≠ [])
    (hnb : ¬(sh.lock.isSome ∧ sh.lock ≠ some i)) : (stepThread sh i t).isSome = true := by
  -- the branches that return `none`: no operation left, `cmap` blocked, `cstream` blocked
  fun_cases stepThread sh i t
  case case1 h => exact absurd h hne
  case case9 hb | case14 hb => exact absurd hb hnb
  all_goals rfl

theorem tinv_other (sh sh' : Shared) (i j : Nat) (hne : j ≠ i) (t : Thread) (hm : Mono sh sh')
    (hl : sh'.lock = sh.lock ∨ (sh.lock = none ∧ sh'.lock = some i) ∨ (sh.lock = some i ∧ sh'.lock = none))
    (h : TInv sh j t) : TInv sh' j t := by
  refine ⟨h.ok, fun a b => hm.idx (h.sorted2 a b), fun a b c => hm.idx (h.clone1 a b c), h.clone2, ?_⟩
  -- `i` takes or releases the lock only when `j` does not hold it
  have hj : sh'.lock = some j ↔ sh.lock = some j := by
    rcases hl with hl | ⟨h1, h2⟩ | ⟨h1, h2⟩
    · rw [hl]
    · rw [h1, h2]; exact iff_of_false (fun e => hne (Option.some.inj e).symm) nofun
    · rw [h1, h2]; exact iff_of_false nofun (fun e => hne (Option.some.inj e).symm)
  exact hj.trans h.holder

theorem step_eq {s s' : Sys} {i : Nat} (hs : step s i = some s') :
    ∃ (hi : i < s.ths.length) (sh' : Shared) (t' : Thread),
      stepThread s.sh i s.ths[i] = some (sh', t') ∧ s' = { sh := sh', ths := s.ths.set i t' } := by
  unfold step at hs
  split at hs
  · cases hs
  next t hti =>
    obtain ⟨hi, rfl⟩ := List.getElem?_eq_some_iff.mp hti
    obtain ⟨⟨sh', t'⟩, hst, rfl⟩ := Option.map_eq_some_iff.mp hs
    exact ⟨hi, sh', t', hst, rfl⟩

theorem step_spec (s s' : Sys) (i : Nat) (h : Inv s) (hs : step s i = some s') : Inv s' ∧ Mono s.sh s'.sh := by
  obtain ⟨hi, sh', t', hst, rfl⟩ := step_eq hs
  obtain ⟨hm, hf, hlv, hti', hlk⟩ := stepThread_spec s.sh i _ sh' t' h.flagIdx h.lockVacant (h.threads i hi) hst
  refine ⟨⟨hf, hlv, fun j hj => ?_, fun j hj => ?_⟩, hm⟩
  · rw [List.length_set]
    rcases hlk with hl | ⟨_, h2⟩ | ⟨_, h2⟩
    · exact h.lockValid j (hl ▸ hj)
    · cases h2.symm.trans hj; exact hi
    · cases h2.symm.trans hj
  · rw [List.length_set] at hj
    rw [List.getElem_set]
    split
    next hji => exact hji ▸ hti'
    next hji => exact tinv_other s.sh sh' i j (Ne.symm hji) _ hm hlk (h.threads j hj)

theorem inv_step (s s' : Sys) (i : Nat) (h : Inv s) (hs : step s i = some s') : Inv s' :=
  (step_spec s s' i h hs).1

theorem inv_run (sched : List Nat) : ∀ s : Sys, Inv s → Inv (run s sched) := by
  induction sched with
  | nil => exact fun s h => h
  | cons i is ih =>
    intro s h
    rw [run]
    cases hs : step s i with
    | none => exact ih s h
    | some s' => exact ih s' (step_spec s s' i h hs).1

theorem inv_init (progs : List (List Op)) : Inv (initSys progs) := by
  refine ⟨nofun, nofun, nofun, fun i hi => ?_⟩
  simp only [initSys, List.getElem_map]
  exact .start rfl rfl nofun

theorem inv_reach (progs : List (List Op)) (sched : List Nat) : Inv (run (initSys progs) sched) :=
  inv_run sched _ (inv_init progs)

/-- the holder of the shard lock is never blocked, and when nobody holds it nobody is -/
theorem no_deadlock_of_inv (s : Sys) (h : Inv s) (hwork : ∃ t ∈ s.ths, t.ops ≠ []) : ∃ i, (step s i).isSome = true := by
  obtain ⟨i, hi, hne, hnb⟩ : ∃ i, ∃ hi : i < s.ths.length, s.ths[i].ops ≠ [] ∧ ¬(s.sh.lock.isSome ∧ s.sh.lock ≠ some i) := by
    cases hl : s.sh.lock with
    | some k =>
      have hk := h.lockValid k hl
      have hhead := ((h.threads k hk).holder.mp hl).1
      exact ⟨k, hk, fun e => (by rw [e] at hhead; cases hhead), fun hb => hb.2 rfl⟩
    | none =>
      obtain ⟨t, ht, hne⟩ := hwork
      obtain ⟨i, hi, rfl⟩ := List.getElem_of_mem ht
      exact ⟨i, hi, hne, fun hb => nomatch hb.1⟩
  refine ⟨i, ?_⟩
  simp only [step, List.getElem?_eq_getElem hi, Option.isSome_map]
  exact stepThread_isSome s.sh i _ hne hnb

end Rs.Conc
