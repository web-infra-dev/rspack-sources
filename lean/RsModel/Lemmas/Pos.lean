import RsModel.Lemmas.Lines
import RsModel.Lemmas.CharStarts
/-!
# C02 — reported positions are true positions: vocabulary and the leaf streams

`posOKT pre evs`: every chunk of `evs` that carries text is reported at the position reached after writing `pre` and the
texts of the chunks before it.

The leaves cut their text into pieces that hold a line break at most as their last byte (`TokOK`; `Toks` for what the tokenizer
cuts, `Lines` for what the line splitter cuts, and lines are cut as tokens are, `Lines.toks`).  Writing such a piece leads to the
start of the next line or along the line by its length (`TokOK.adv`): that is the rule by which the token walk of an OriginalSource
keeps its place (`origTokChunks_pos`), and with "line `k` starts `k` lines down at column 0" (`lines_get`) it gives the streams of
one chunk per line (`lineEvs_pos`) and the end of a text (`adv_text_end`).  Slices of such a piece are such pieces (`tokOK_bsub`,
`tokOK_csub`), and a proper prefix of one holds no line break (`tok_prefix_noNL`); `ChunksTok`: the streams all of whose chunks are such.
The order of positions (`posLt`, `posLe`): writing text never leads back (`adv_ge`, `adv_gt`).
-/
namespace Rs

def startPos : Pos := ⟨1, 0⟩

def posOKT : Text → List Ev → Prop
  | _, [] => True
  | pre, .chunk (some t) m :: es => (⟨m.gl, m.gc⟩ : Pos) = adv startPos pre ∧ posOKT (pre ++ t) es
  | pre, _ :: es => posOKT pre es

/-- the whole contract of C02 in normal mode: every chunk at its true position, and the returned info is the end position -/
def PosOK (r : SResult) : Prop := posOKT [] r.evs ∧ r.info = adv startPos (evsText r.evs)

theorem posOKT_append : ∀ (a b : List Ev) (pre : Text), posOKT pre (a ++ b) ↔ posOKT pre a ∧ posOKT (pre ++ evsText a) b := by
  intro a
  induction a with
  | nil => intro b pre; simp [posOKT, evsText]
  | cons e es ih =>
    intro b pre
    rcases e with ⟨_ | t, m⟩ | _ | _ <;>
      simp only [List.cons_append, posOKT, ih, evsText_cons, Ev.text, List.nil_append, List.append_assoc, and_assoc]

theorem posOKT_cons (pre : Text) (e : Ev) (es : List Ev) : posOKT pre (e :: es) ↔ posOKT pre [e] ∧ posOKT (pre ++ e.text) es := by
  have := posOKT_append [e] es pre
  simpa [evsText_singleton] using this

theorem posOKT_mem (evs : List Ev) (pre : Text) (hp : posOKT pre evs) (t : Text) (m : Mapping) (h : Ev.chunk (some t) m ∈ evs) :
    ∃ pre' rest, pre ++ evsText evs = pre' ++ t ++ rest ∧ (⟨m.gl, m.gc⟩ : Pos) = adv startPos pre' := by
  obtain ⟨a, b, rfl⟩ := List.append_of_mem h
  exact ⟨pre ++ evsText a, evsText b, by rw [evsText_append, evsText_cons, List.append_assoc, List.append_assoc]; rfl,
    ((posOKT_append a _ pre).1 hp).2.1⟩

theorem posOKT_nochunk : ∀ (evs : List Ev) (pre : Text), (∀ e ∈ evs, e.isChunk = false) → posOKT pre evs
  | [], _, _ => trivial
  | .chunk _ _ :: _, _, h => nomatch h _ List.mem_cons_self
  | .source .. :: es, pre, h => posOKT_nochunk es pre fun x hx => h x (List.mem_cons_of_mem _ hx)
  | .name .. :: es, pre, h => posOKT_nochunk es pre fun x hx => h x (List.mem_cons_of_mem _ hx)

theorem adv_noNL : ∀ (t : Text) (p : Pos), (∀ c ∈ t, c ≠ NL) → adv p t = ⟨p.line, p.col + t.length⟩ := by
  intro t
  induction t with
  | nil => intro p _; rfl
  | cons c cs ih =>
    intro p h
    have hc : c ≠ NL := h c (by simp)
    simp only [adv, hc, if_false]
    rw [ih _ (fun x hx => h x (by simp [hx]))]
    simp; omega

theorem adv_line (t : Text) (p : Pos) (h : ∀ c ∈ t, c ≠ NL) : adv p (t ++ [NL]) = ⟨p.line + 1, 0⟩ := by
  rw [adv_append, adv_noNL t p h]; simp [adv]

theorem adv_step (p : Pos) (c : UInt8) (cs : Text) : adv p (c :: cs) = adv (adv p [c]) cs := adv_append p [c] cs

def posLt (a b : Pos) : Prop := a.line < b.line ∨ (a.line = b.line ∧ a.col < b.col)
def posLe (a b : Pos) : Prop := a.line < b.line ∨ (a.line = b.line ∧ a.col ≤ b.col)

theorem posLe_refl (p : Pos) : posLe p p := Or.inr ⟨rfl, Nat.le_refl _⟩

theorem posLe_trans {a b c : Pos} (h1 : posLe a b) (h2 : posLe b c) : posLe a c := by
  unfold posLe at *
  omega

theorem posLe_of_lt {a b : Pos} (h : posLt a b) : posLe a b := h.imp id fun h => ⟨h.1, Nat.le_of_lt h.2⟩

theorem posLt_of_lt_of_le {a b c : Pos} (h1 : posLt a b) (h2 : posLe b c) : posLt a c := by
  unfold posLt posLe at *
  omega

theorem posLt_irrefl (p : Pos) : ¬ posLt p p := fun h => h.elim (Nat.lt_irrefl _) fun h => Nat.lt_irrefl _ h.2

theorem adv_one_gt (p : Pos) (c : UInt8) : posLt p (adv p [c]) := by
  simp only [adv]
  split
  · exact Or.inl (Nat.lt_succ_self _)
  · exact Or.inr ⟨rfl, Nat.lt_succ_self _⟩

theorem adv_ge : ∀ (t : Text) (p : Pos), posLe p (adv p t)
  | [], _ => Or.inr ⟨rfl, Nat.le_refl _⟩
  | c :: cs, p => by rw [adv_step]; exact posLe_trans (posLe_of_lt (adv_one_gt p c)) (adv_ge cs _)

theorem adv_gt (c : UInt8) (cs : Text) (p : Pos) : posLt p (adv p (c :: cs)) := by
  rw [adv_step]; exact posLt_of_lt_of_le (adv_one_gt p c) (adv_ge cs _)

theorem charPos_lt_end' (p : Pos) (t : Text) (j : Nat) (hj : j < t.length) : posLt (adv p (t.take j)) (adv p t) := by
  have hsplit : t = t.take j ++ t.drop j := (List.take_append_drop j t).symm
  have hd : t.drop j = t[j] :: t.drop (j + 1) := List.drop_eq_getElem_cons hj
  conv => rhs; rw [hsplit, adv_append, hd]
  exact adv_gt _ _ _

theorem endsWithNL_snoc (t : Text) : endsWithNL (t ++ [NL]) = true := by simp [endsWithNL]

theorem endsWithNL_noNL (t : Text) (h : ∀ c ∈ t, c ≠ NL) : endsWithNL t = false := by
  unfold endsWithNL
  cases hl : t.getLast? with
  | none => rfl
  | some c => simpa using h c (List.mem_of_getLast? hl)

def TokOK (t : Text) : Prop := ∃ s, (∀ x ∈ s, x ≠ NL) ∧ (t = s ∨ t = s ++ [NL])

theorem TokOK.adv {t : Text} (h : TokOK t) (p : Pos) : adv p t = if endsWithNL t then ⟨p.line + 1, 0⟩ else ⟨p.line, p.col + t.length⟩ := by
  obtain ⟨s, hs, rfl | rfl⟩ := h
  · rw [endsWithNL_noNL t hs, adv_noNL t p hs]; rfl
  · rw [endsWithNL_snoc, adv_line s p hs]; rfl

theorem tokOK_nil : TokOK [] := ⟨[], by simp, Or.inl rfl⟩

theorem tokOK_singleton (x : UInt8) : TokOK [x] := by
  by_cases h : x = NL
  · exact ⟨[], nofun, .inr (h ▸ rfl)⟩
  · exact ⟨[x], fun y hy => List.mem_singleton.1 hy ▸ h, .inl rfl⟩

theorem tokOK_take (t : Text) (h : TokOK t) (n : Nat) : TokOK (t.take n) := by
  obtain ⟨s, hs, hc⟩ := h
  rcases hc with rfl | rfl
  · exact ⟨t.take n, fun x hx => hs x (List.mem_of_mem_take hx), Or.inl rfl⟩
  · by_cases hn : n ≤ s.length
    · rw [List.take_append_of_le_length hn]
      exact ⟨s.take n, fun x hx => hs x (List.mem_of_mem_take hx), Or.inl rfl⟩
    · rw [List.take_of_length_le (by simp; omega)]
      exact ⟨s, hs, Or.inr rfl⟩

theorem tokOK_drop (t : Text) (h : TokOK t) (n : Nat) : TokOK (t.drop n) := by
  obtain ⟨s, hs, hc⟩ := h
  rcases hc with rfl | rfl
  · exact ⟨t.drop n, fun x hx => hs x (List.mem_of_mem_drop hx), Or.inl rfl⟩
  · by_cases hn : n ≤ s.length
    · rw [List.drop_append_of_le_length hn]
      exact ⟨s.drop n, fun x hx => hs x (List.mem_of_mem_drop hx), Or.inr rfl⟩
    · rw [List.drop_of_length_le (by simp; omega)]
      exact tokOK_nil

theorem tokOK_bsub (t : Text) (h : TokOK t) (a b : Nat) : TokOK (bsub t a b) := tokOK_take _ (tokOK_drop t h a) _

theorem tokOK_csub (t : Text) (h : TokOK t) (a b : Nat) : TokOK (csub t a b) := by
  unfold csub
  split
  · exact tokOK_nil
  · exact tokOK_bsub t h _ _

theorem tokOK_getD (ls : List Text) (h : ∀ ln ∈ ls, TokOK ln) (k : Nat) : TokOK (ls.getD k []) := forall_getD tokOK_nil h k

theorem tok_prefix_noNL (chunk : Text) (h : TokOK chunk) (b : Nat) (hb : b < chunk.length) : ∀ x ∈ chunk.take b, x ≠ NL := by
  obtain ⟨s, hs, hc⟩ := h
  rcases hc with rfl | rfl
  · exact fun x hx => hs x (List.mem_of_mem_take hx)
  · intro x hx
    rw [List.take_append_of_le_length (by simp at hb; omega)] at hx
    exact hs x (List.mem_of_mem_take hx)

theorem bsub_noNL (chunk : Text) (h : TokOK chunk) (a b : Nat) (hb : b < chunk.length) : ∀ x ∈ bsub chunk a b, x ≠ NL := by
  intro x hx
  rw [bsub, ← List.drop_take] at hx
  exact tok_prefix_noNL chunk h b hb x (List.mem_of_mem_drop hx)

def ChunksTok (evs : List Ev) : Prop := ∀ t m, Ev.chunk (some t) m ∈ evs → TokOK t

/-- what `split_into_potential_tokens` cuts; `s` says whether the list begins at the start of a line: a token is not empty and holds
no line break except as its last byte, and a token that is nothing but a line break stands at the start of a line -/
inductive Toks : Bool → List Text → Prop
  | nil {s : Bool} : Toks s []
  | tok {s : Bool} {t : Text} {rest : List Text} : t ≠ [] → (∀ c ∈ t, c ≠ NL) → Toks false rest → Toks s (t :: rest)
  | eol {s : Bool} {t : Text} {rest : List Text} : (∀ c ∈ t, c ≠ NL) → (t = [] → s = true) → Toks true rest →
      Toks s ((t ++ [NL]) :: rest)

theorem Toks.mem {s : Bool} {toks : List Text} (h : Toks s toks) : ∀ x ∈ toks, TokOK x ∧ x ≠ [] := by
  induction h with
  | nil => nofun
  | tok hne hno _ ih => exact List.forall_mem_cons.2 ⟨⟨⟨_, hno, .inl rfl⟩, hne⟩, ih⟩
  | eol hno _ _ ih =>
    exact List.forall_mem_cons.2 ⟨⟨⟨_, hno, .inr rfl⟩, List.append_ne_nil_of_right_ne_nil _ (List.cons_ne_nil _ _)⟩, ih⟩

/-- the pieces `splitLines` yields: each is non-empty, free of line breaks except that every piece but the last ends with one -/
inductive Lines : List Text → Prop where
  | nil : Lines []
  | last (t : Text) : t ≠ [] → (∀ c ∈ t, c ≠ NL) → Lines [t]
  | lastNL (t : Text) : (∀ c ∈ t, c ≠ NL) → Lines [t ++ [NL]]
  | cons (t : Text) (rest : List Text) : (∀ c ∈ t, c ≠ NL) → rest ≠ [] → Lines rest → Lines ((t ++ [NL]) :: rest)

/-- `lastNL` and `cons` as one case: a piece closed by a line break, followed by any `Lines` -/
theorem Lines.rec3 {motive : (ls : List Text) → Lines ls → Prop} (nil : motive [] .nil)
    (last : ∀ t (hne : t ≠ []) (hno : ∀ c ∈ t, c ≠ NL), motive [t] (.last t hne hno))
    (step : ∀ t rest (_ : ∀ c ∈ t, c ≠ NL) (hr : Lines rest) (h : Lines ((t ++ [NL]) :: rest)),
      motive rest hr → motive ((t ++ [NL]) :: rest) h)
    {ls : List Text} (h : Lines ls) : motive ls h := by
  induction h with
  | nil => exact nil
  | last t hne hno => exact last t hne hno
  | lastNL t hno => exact step t [] hno .nil _ nil
  | cons t rest hno _ hr ih => exact step t rest hno hr _ ih

/-- `lastNL` and `cons` as one constructor -/
theorem Lines.step {t : Text} {rest : List Text} (hno : ∀ c ∈ t, c ≠ NL) (hr : Lines rest) : Lines ((t ++ [NL]) :: rest) := by
  cases rest with
  | nil => exact .lastNL t hno
  | cons r rs => exact .cons t _ hno (List.cons_ne_nil _ _) hr

theorem noNL_reverse {acc : Text} (ha : ∀ x ∈ acc, x ≠ NL) : ∀ x ∈ acc.reverse, x ≠ NL := fun x hx => ha x (List.mem_reverse.1 hx)

/-- `acc` holds the bytes of the line begun, reversed -/
theorem splitLinesAux_lines (t acc : Text) (ha : ∀ c ∈ acc, c ≠ NL) : Lines (splitLinesAux acc t) := by
  fun_induction splitLinesAux acc t with
  | case1 => exact .nil
  | case2 acc h => exact .last _ (mt List.reverse_eq_nil_iff.1 (by simpa using h)) (noNL_reverse ha)
  | case3 acc cs ih => rw [List.reverse_cons]; exact .step (noNL_reverse ha) (ih nofun)
  | case4 acc c cs hc ih => exact ih (List.forall_mem_cons.2 ⟨hc, ha⟩)

theorem lines_of_splitLines (t : Text) : Lines (splitLines t) := splitLinesAux_lines t [] nofun

theorem Lines.toks {ls : List Text} (h : Lines ls) : Toks true ls := by
  induction h using Lines.rec3 with
  | nil => exact .nil
  | last t hne hno => exact .tok hne hno .nil
  | step t rest hno _ _ ih => exact .eol hno (fun _ => rfl) ih

theorem lines_ne (ls : List Text) (h : Lines ls) : ∀ ln ∈ ls, ln ≠ [] := fun ln hln => (h.toks.mem ln hln).2

theorem tokOK_of_lines (ls : List Text) (h : Lines ls) : ∀ ln ∈ ls, TokOK ln := fun ln hln => (h.toks.mem ln hln).1

theorem lines_get : ∀ (ls : List Text), Lines ls → ∀ (k : Nat), k < ls.length →
    (∃ s, (∀ x ∈ s, x ≠ NL) ∧ ((ls.getD k [] = s ++ [NL]) ∨ (k + 1 = ls.length ∧ ls.getD k [] = s)))
    ∧ ∀ l : Nat, adv ⟨l, 0⟩ ((ls.take k).flatten) = ⟨l + k, 0⟩ := by
  intro ls h
  induction h using Lines.rec3 with
  | nil => nofun
  | last t hne hno =>
    intro k hk
    obtain rfl : k = 0 := Nat.lt_one_iff.1 hk
    exact ⟨⟨t, hno, .inr ⟨rfl, rfl⟩⟩, fun _ => rfl⟩
  | step t rest hno _ _ ih =>
    intro k hk
    cases k with
    | zero => exact ⟨⟨t, hno, .inl rfl⟩, fun _ => rfl⟩
    | succ k =>
      obtain ⟨⟨s, hs, hcase⟩, hadv⟩ := ih k (Nat.lt_of_succ_lt_succ hk)
      refine ⟨⟨s, hs, hcase.imp id (.imp (congrArg (· + 1)) id)⟩, fun l => ?_⟩
      rw [List.take_succ_cons, List.flatten_cons, adv_append, adv_line t _ hno, hadv, Nat.add_right_comm]
      rfl

theorem lineEvs_pos (g : Nat → Option Orig) (ls : List Text) (h : Lines ls) : ∀ (pre : Text) (l : Nat), adv startPos pre = ⟨l, 0⟩ →
    posOKT pre (lineEvs g l ls) := by
  induction h using Lines.rec3 with
  | nil => intro _ _ _; trivial
  | last t _ _ => intro pre l hp; exact ⟨hp.symm, trivial⟩
  | step t rest hno _ _ ih =>
    intro pre l hp
    exact ⟨hp.symm, ih (pre ++ (t ++ [NL])) (l + 1) (by rw [adv_append, hp, adv_line t _ hno])⟩

theorem adv_text_end (t : Text) : adv startPos t = lineLoopInfo (splitLines t) := by
  have hL := lines_of_splitLines t
  rw [lineLoopInfo]
  cases hl : (splitLines t).getLast? with
  | none => rw [← splitLines_join t, List.getLast?_eq_none_iff.1 hl]; rfl
  | some last =>
    -- the lines before the last lead to the start of the last line, and the last line is a token
    obtain ⟨ys, hys⟩ := List.getLast?_eq_some_iff.1 hl
    obtain ⟨_, hadv⟩ := lines_get _ hL ys.length (by rw [hys, List.length_append]; exact Nat.lt_succ_self _)
    rw [hys, List.take_left' rfl] at hadv
    conv => lhs; rw [← splitLines_join t]
    rw [hys, List.flatten_append, adv_append, startPos, hadv, List.flatten_singleton, (hL.toks.mem last (List.mem_of_getLast? hl)).1.adv,
      List.length_append]
    dsimp only [List.length_singleton]
    rw [Nat.zero_add, Nat.add_comm 1]

/-- **C02 for a stream of one chunk per line** of a text `t`, after events that are no chunks and closed by `lineLoopInfo`: the raw
leaf, an OriginalSource and a SourceMapSource without columns.  Holds for every text, whatever locations the lines carry. -/
theorem lineStream_posOK {hd : List Ev} (hnc : ∀ e ∈ hd, e.isChunk = false) (g : Nat → Option Orig) (t : Text) :
    PosOK ⟨hd ++ lineEvs g 1 (splitLines t), lineLoopInfo (splitLines t)⟩ := by
  have h := lineEvs_pos g (splitLines t) (lines_of_splitLines t) [] 1 rfl
  refine ⟨(posOKT_append _ _ _).2 ⟨posOKT_nochunk _ _ hnc, by rw [evsText_anns hnc]; exact h⟩, ?_⟩
  rw [evsText_append, evsText_anns hnc, lineEvs_text, List.nil_append, splitLines_join, adv_text_end]

theorem streamRaw_posOK (t : Text) (c : Bool) : PosOK (streamRaw t ⟨c, false⟩) := by
  simp only [streamRaw, Bool.false_eq_true, if_false, rawChunks_eq]
  exact lineStream_posOK (hd := []) nofun _ t

theorem tail_ne_nl : ∀ c : UInt8, isTail c = true → c ≠ NL := by
  rintro c h rfl; revert h; decide

theorem nonstop_ne_nl : ∀ c : UInt8, isStop c = false → c ≠ NL := by
  rintro c h rfl; revert h; decide

theorem stop_nontail_nl (c : UInt8) (h1 : isStop c = true) (h2 : isTail c = false) : c = NL := by
  have h : ∀ c ∈ Generated.tokenStop, isTail c = false → c = NL := by decide
  exact h c (List.contains_iff_mem.1 h1) h2

/-- `acc` holds the bytes of the token begun, reversed; it is empty only before the first byte of a token, and `s` says whether
that place is the start of a line -/
theorem tokAux_toks (cs : Text) (b : Bool) (acc : Text) (s : Bool) (ha : ∀ x ∈ acc, x ≠ NL) (hb : b = true → acc ≠ [])
    (hs : acc = [] → s = true) : Toks s (tokAux b acc cs) := by
  fun_induction tokAux b acc cs generalizing s with
  | case1 => exact .nil
  | case2 _ acc h => exact .tok (mt List.reverse_eq_nil_iff.1 (by simpa using h)) (noNL_reverse ha) .nil
  | case3 acc c cs h ih => exact ih s (List.forall_mem_cons.2 ⟨nonstop_ne_nl c (by simpa using h), ha⟩) nofun nofun
  | case4 acc c cs _ h ih => exact ih s (List.forall_mem_cons.2 ⟨tail_ne_nl c h, ha⟩) nofun nofun
  | case5 acc c cs h1 h2 ih =>
    rw [List.reverse_cons, stop_nontail_nl c (by simpa using h1) (by simpa using h2)]
    exact .eol (noNL_reverse ha) (fun e => hs (List.reverse_eq_nil_iff.1 e)) (ih true nofun nofun fun _ => rfl)
  | case6 acc c cs h ih => exact ih s (List.forall_mem_cons.2 ⟨tail_ne_nl c h, ha⟩) nofun nofun
  | case7 acc cs _ ih =>
    rw [List.reverse_cons]
    exact .eol (noNL_reverse ha) (fun e => absurd (List.reverse_eq_nil_iff.1 e) (hb rfl)) (ih true nofun nofun fun _ => rfl)
  | case8 acc c cs _ hc ih =>
    exact .tok (mt List.reverse_eq_nil_iff.1 (hb rfl)) (noNL_reverse ha) (ih false (List.forall_mem_cons.2 ⟨hc, nofun⟩) nofun nofun)

theorem tokens_toks (t : Text) : Toks true (tokens t) := tokAux_toks t false [] true nofun nofun fun _ => rfl

theorem tokens_ok (t : Text) : ∀ x ∈ tokens t, TokOK x := fun x hx => ((tokens_toks t).mem x hx).1

theorem tokens_ne (t : Text) : ∀ x ∈ tokens t, x ≠ [] := fun x hx => ((tokens_toks t).mem x hx).2

theorem origTokChunks_pos : ∀ (toks : List Text), (∀ x ∈ toks, TokOK x) → ∀ (pre : Text) (l c : Nat), adv startPos pre = ⟨l, c⟩ →
    posOKT pre (origTokChunks false l c toks).1 ∧ (origTokChunks false l c toks).2 = adv startPos (pre ++ toks.flatten)
  | [], _, pre, l, c, hp => ⟨trivial, by rw [List.flatten_nil, List.append_nil, hp]; rfl⟩
  | tok :: toks, hok, pre, l, c, hp => by
    obtain ⟨o, l', c', e, _, hn⟩ := origTokChunks_cons l c tok toks
    -- the place where the walk goes on is the place where the token ends
    have ih := origTokChunks_pos toks (fun x hx => hok x (List.mem_cons_of_mem _ hx)) (pre ++ tok) l' c'
      (by rw [adv_append, hp, hn]; exact (hok tok List.mem_cons_self).adv _)
    rw [e, List.flatten_cons, ← List.append_assoc]
    exact ⟨⟨hp.symm, ih.1⟩, ih.2⟩

theorem streamOriginal_posOK (t name : Text) (c : Bool) : PosOK (streamOriginal t name ⟨c, false⟩) := by
  cases c with
  | false =>
    simp only [streamOriginal, Bool.false_eq_true, if_false, origLineChunks_eq]
    exact lineStream_posOK (hd := [_]) (List.forall_mem_singleton.2 rfl) _ t
  | true =>
    obtain ⟨h1, h2⟩ := origTokChunks_pos (tokens t) (tokens_ok t) [] 1 0 rfl
    simp only [streamOriginal, if_true, PosOK, posOKT]
    refine ⟨h1, ?_⟩
    rw [h2, evsText_cons, origTokChunks_text]
    simp [Ev.text]

end Rs
