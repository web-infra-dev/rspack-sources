import RsModel.Lemmas.Codec
import RsModel.Lemmas.Lookup
/-! # lists sorted from a position; what the encoder drops changes no lookup; re-encoding is idempotent -/
namespace Rs

theorem linesOK_of_sorted : ∀ (ms : List Mapping) (l c : Nat), sortedFrom l c ms → linesOK l ms
  | [], _, _, _ => trivial
  | _ :: ms, _, _, ⟨h1, h2⟩ => ⟨by omega, linesOK_of_sorted ms _ _ h2⟩

theorem decode_encode_sorted (ms : List Mapping) (hs : ∀ m ∈ ms, m.small) (h : sortedFrom 1 0 ms) :
    decode (encodeFull ms) = keptFrom {} ms :=
  decode_encode ms hs (linesOK_of_sorted ms 1 0 h)

theorem encodeFrom_kept (ms : List Mapping) (e : EncSt) : encodeFrom e (keptFrom e ms) = encodeFrom e ms := by
  fun_induction keptFrom e ms with
  | case1 => rfl
  | case2 e m ms hs ih => rw [encodeFrom, if_pos hs, ih]
  | case3 e m ms hs ih => rw [encodeFrom, encodeFrom, if_neg hs, if_neg hs, ih]

def EncSt.activeOrig (e : EncSt) : Option Orig :=
  if e.activeMapping then some ⟨e.curSrc, e.curOL, e.curOC, if e.activeName then some e.curName else none⟩ else none

theorem activeOrig_next (e : EncSt) (m : Mapping) : (encNext e m).activeOrig = m.orig := by
  obtain ⟨gl, gc, orig⟩ := m
  cases orig with
  | none => simp [encNext, EncSt.activeOrig]
  | some o =>
    obtain ⟨s, l, c, n⟩ := o
    cases n <;> simp [encNext, EncSt.activeOrig]

theorem encSkip_orig (e : EncSt) (m : Mapping) (h : encSkip e m = true) :
    m.orig = if e.curLine = m.gl then e.activeOrig else none := by
  obtain ⟨gl, gc, orig⟩ := m
  unfold encSkip at h
  unfold EncSt.activeOrig
  by_cases hl : e.curLine = gl
  · cases ha : e.activeMapping
    · simpa [ha, hl] using h
    · cases orig with
      | none => simp [ha, hl] at h
      | some o =>
        obtain ⟨s, ln, cl, n⟩ := o
        simp only [ha, hl, beq_self_eq_true, Bool.and_self, if_true, Bool.and_eq_true, beq_iff_eq, Bool.not_eq_true',
          Option.isNone_iff_eq_none] at h
        obtain ⟨⟨⟨⟨rfl, rfl⟩, rfl⟩, hn⟩, rfl⟩ := h
        simp [hl, hn]
  · simpa [hl] using h

/-- relation between the lookup accumulators over the kept list (`aK`) and over the full list (`aF`) -/
structure LRel (l c : Nat) (e : EncSt) (aK aF : Option (Option Orig)) : Prop where
  same : aK.join = aF.join
  init : e.initial = true → aK = none
  inact : e.initial = true → e.activeMapping = false
  before : e.curLine < l → aK = none
  at_ : e.initial = false → e.curLine = l → e.curCol ≤ c → aK = some e.activeOrig

/-- Dropping what the encoder drops changes no lookup.  The two accumulators are compared as resolved (`join`: an unmapped segment
governing and no segment governing are one answer), since that is all a dropped segment leaves alone.  What makes a drop harmless:
before the encoder reaches line `l` the answer is `none`, and while it stands on `l` at or before column `c` the answer is the
location it holds active, which is what a segment it would drop there carries (`encSkip_orig`).  `LRel` says the same of the
accumulators themselves and then needs two more clauses for the encoder's initial state, where `none` stands for `some none`. -/
theorem kept_lookupGo (l c : Nat) (ms : List Mapping) (e : EncSt) (aK aF : Option (Option Orig))
    (hsort : sortedFrom e.curLine e.curCol ms) (hs : aK.join = aF.join) (hb : e.curLine < l → aK.join = none)
    (ha : e.curLine = l → e.curCol ≤ c → aK.join = e.activeOrig) :
    (lookupGo l c aK (keptFrom e ms)).join = (lookupGo l c aF ms).join := by
  fun_induction keptFrom e ms generalizing aK aF with
  | case1 => exact hs
  | case2 e m ms hskip ih =>
    -- dropped: where `m` answers the lookup, it answers what the kept accumulator resolves to already
    obtain ⟨hle, hrest⟩ := id hsort
    rw [lookupGo]
    refine ih aK _ (sortedFrom_of_le _ _ _ _ hle _ hrest) ?_ hb ha
    split
    · rename_i hm
      rw [Option.join_some, encSkip_orig e m hskip]
      rcases hle with hlt | ⟨heq, hcol⟩
      · rw [if_neg (Nat.ne_of_lt hlt)]; exact hb (hm.1 ▸ hlt)
      · rw [if_pos heq]; exact ha (heq.trans hm.1) (Nat.le_trans hcol hm.2)
    · exact hs
  | case3 e m ms hskip ih =>
    -- kept: both accumulators take the same step, and the encoder now stands on `m` with `m.orig` active
    obtain ⟨hle, hrest⟩ := id hsort
    rw [lookupGo, lookupGo]
    have hle' : e.curLine ≤ m.gl := hle.elim Nat.le_of_lt fun h => Nat.le_of_eq h.1
    have hline := encNext_line e m hle'
    have hcol : (encNext e m).curCol = m.gc := by unfold encNext; cases m.orig <;> rfl
    refine ih _ _ (by rw [hline, hcol]; exact hrest) ?_ (fun hlt => ?_) (fun h1 h2 => ?_)
    · split
      · rfl
      · exact hs
    · rw [hline] at hlt
      rw [if_neg fun h => Nat.ne_of_lt hlt h.1]
      exact hb (Nat.lt_of_le_of_lt hle' hlt)
    · rw [hline] at h1
      rw [hcol] at h2
      rw [if_pos ⟨h1, h2⟩, activeOrig_next]
      rfl

theorem lookupCols_kept (ms : List Mapping) (h : sortedFrom 1 0 ms) (l c : Nat) : lookupCols (keptFrom {} ms) l c = lookupCols ms l c :=
  kept_lookupGo l c ms {} none none h rfl (fun _ => rfl) (fun _ _ => rfl)

end Rs
