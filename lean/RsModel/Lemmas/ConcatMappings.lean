import RsModel.Lemmas.ModeLeaves
/-!
# What a ConcatSource delivers for one child, as chunk mappings (either mode)

`trMs` is the child's chunk mappings at their own positions with the original locations translated as `concatEvs` translates
them; `shiftM st` moves a child-local position to its generated one.  The closed forms: `concatEvs_ms` and `concatChild_ms`
(the delivered mappings are a close at the child's origin, if one is due, followed by `(trMs …).map (shiftM st)`) and
`concatEvs_state` (what the walker remembers afterwards).  Lookups through them: `concatEvs_look`, `concatChild_look`.
-/
namespace Rs

def trMs (final : Bool) : CSt → List Ev → List Mapping
  | _, [] => []
  | st, .chunk t m :: es => ⟨m.gl, m.gc, trans st.sim st.nim m.orig⟩ :: trMs final (concatEv final st (.chunk t m)).1 es
  | st, .source i s c :: es => trMs final (concatEv final st (.source i s c)).1 es
  | st, .name i n :: es => trMs final (concatEv final st (.name i n)).1 es

theorem concatEv_chunk_ms (final : Bool) (st : CSt) (text : Option Text) (m : Mapping) :
    chunkMs (concatEv final st (.chunk text m)).2 =
      (if (st.needClose && (m.gl != 1 || m.gc != 0)) = true then [(⟨st.lineOff + 1, st.colOff, none⟩ : Mapping)] else [])
        ++ [⟨m.gl + st.lineOff, if (m.gl == 1) = true then m.gc + st.colOff else m.gc, trans st.sim st.nim m.orig⟩] := by
  rw [concatEv_chunk, chunkMs_append, CSt.pending]
  congr 1
  split <;> rfl

def firstOff : List Ev → Bool
  | [] => false
  | .chunk _ m :: _ => (m.gl != 1 || m.gc != 0)
  | _ :: es => firstOff es

def hasChunk : List Ev → Bool
  | [] => false
  | .chunk _ _ :: _ => true
  | _ :: es => hasChunk es

theorem trMs_cons_decl (final : Bool) (st : CSt) (e : Ev) (es : List Ev) (he : e.isChunk = false) :
    trMs final st (e :: es) = trMs final (concatEv final st e).1 es := by
  cases e with
  | chunk => cases he
  | source | name => rfl

theorem trMs_all (final : Bool) (P : Nat → Nat → Prop) (evs : List Ev) : ∀ (st : CSt), (∀ m ∈ chunkMs evs, P m.gl m.gc) →
    ∀ m ∈ trMs final st evs, P m.gl m.gc := by
  induction evs using evs_induction with
  | nil => intro _ _ m hm; cases hm
  | chunk t m0 es ih =>
    intro st h m hm
    rcases List.mem_cons.1 hm with rfl | hm
    · exact h m0 List.mem_cons_self
    · exact ih _ (fun x hx => h x (List.mem_cons_of_mem _ hx)) m hm
  | decl e es he ih =>
    intro st h
    rw [trMs_cons_decl _ _ _ _ he]
    rw [chunkMs_cons_decl _ _ he] at h
    exact ih _ h

theorem trMs_linesOK (final : Bool) (evs : List Ev) : ∀ (st : CSt) (l : Nat), linesOK l (chunkMs evs) → linesOK l (trMs final st evs) := by
  induction evs using evs_induction with
  | nil => intro _ _ _; trivial
  | chunk t m es ih => intro st l h; exact ⟨h.1, ih _ _ h.2⟩
  | decl e es he ih =>
    intro st l h
    rw [trMs_cons_decl _ _ _ _ he]
    rw [chunkMs_cons_decl _ _ he] at h
    exact ih _ _ h

theorem firstOff_cons_decl (e : Ev) (es : List Ev) (he : e.isChunk = false) : firstOff (e :: es) = firstOff es := by
  cases e with
  | chunk => cases he
  | source | name => rfl

theorem hasChunk_cons_decl (e : Ev) (es : List Ev) (he : e.isChunk = false) : hasChunk (e :: es) = hasChunk es := by
  cases e with
  | chunk => cases he
  | source | name => rfl

theorem trMs_first (final : Bool) (c' : Nat) (evs : List Ev) : ∀ (st : CSt), hasChunk evs = true → firstOff evs = false →
    lookupGo 1 c' none (trMs final st evs) ≠ none := by
  induction evs using evs_induction with
  | nil => intro _ h; cases h
  | chunk t m es _ =>
    intro st _ h2
    simp only [firstOff, Bool.or_eq_false_iff, bne_eq_false_iff_eq] at h2
    simp only [trMs, lookupGo, h2.1, h2.2, Nat.zero_le, and_self, if_true]
    rw [lookupGo_acc]
    cases lookupGo 1 c' none (trMs final (concatEv final st (.chunk t m)).1 es) <;> simp
  | decl e es he ih =>
    intro st
    rw [hasChunk_cons_decl _ _ he, firstOff_cons_decl _ _ he, trMs_cons_decl _ _ _ _ he]
    exact ih _

theorem lookupGo_close (L C : Nat) (acc : Option (Option Orig)) (p : Prop) [Decidable p] (pl pc : Nat) :
    lookupGo L C acc (if p then [(⟨pl, pc, none⟩ : Mapping)] else []) = if p ∧ pl = L ∧ pc ≤ C then some none else acc := by
  by_cases h : p
  · simp [h, lookupGo]
  · simp [h, lookupGo]

/-- the generated position of a child-local position `(l', c')`, for a walker whose child starts at `(lineOff + 1, colOff)` -/
def shiftL (st : CSt) (l' : Nat) : Nat := l' + st.lineOff

def shiftC (st : CSt) (l' c' : Nat) : Nat := if l' = 1 then c' + st.colOff else c'

def shiftM (st : CSt) (m : Mapping) : Mapping := ⟨m.gl + st.lineOff, if m.gl == 1 then m.gc + st.colOff else m.gc, m.orig⟩

theorem shiftM_gl (st : CSt) (m : Mapping) : (shiftM st m).gl = m.gl + st.lineOff := rfl

theorem shiftM_congr {st st' : CSt} (h1 : st'.lineOff = st.lineOff) (h2 : st'.colOff = st.colOff) : shiftM st' = shiftM st := by
  funext m; simp only [shiftM, h1, h2]

theorem shift_match (st : CSt) (l' c' : Nat) (m : Mapping) :
    (m.gl + st.lineOff = shiftL st l' ∧ (if (m.gl == 1) = true then m.gc + st.colOff else m.gc) ≤ shiftC st l' c') ↔ (m.gl = l' ∧ m.gc ≤ c') := by
  unfold shiftL shiftC
  rw [Nat.add_right_cancel_iff]
  refine and_congr_right fun h => ?_
  subst h
  by_cases h1 : m.gl = 1
  · simp [h1]
  · simp [h1]

/-- the child's origin `(lineOff + 1, colOff)` answers exactly the lookups on the child's first line -/
theorem origin_match (st : CSt) (l' c' : Nat) : (st.lineOff + 1 = shiftL st l' ∧ st.colOff ≤ shiftC st l' c') ↔ l' = 1 := by
  unfold shiftL shiftC
  constructor
  · rintro ⟨h, _⟩; omega
  · rintro rfl; exact ⟨by omega, by simp⟩

theorem lookupGo_shift (st : CSt) (l' c' : Nat) : ∀ (ms : List Mapping) (acc : Option (Option Orig)),
    lookupGo (shiftL st l') (shiftC st l' c') acc (ms.map (shiftM st)) = lookupGo l' c' acc ms
  | [], _ => rfl
  | m :: ms, acc => by
    simp only [List.map_cons, lookupGo, shiftM, shift_match]
    exact lookupGo_shift st l' c' ms _

theorem concatEvs_ms (final : Bool) (evs : List Ev) : ∀ (st : CSt), chunkMs (concatEvs final st evs).2 =
    (if (st.needClose && firstOff evs) = true then [(⟨st.lineOff + 1, st.colOff, none⟩ : Mapping)] else [])
      ++ (trMs final st evs).map (shiftM st) := by
  induction evs using evs_induction with
  | nil => intro st; simp [concatEvs, chunkMs, trMs, firstOff]
  | chunk t m es ih =>
    intro st
    have hst := concatEv_chunk final st t m
    have hsh : shiftM (concatEv final st (.chunk t m)).1 = shiftM st := shiftM_congr (by rw [hst]) (by rw [hst])
    have hnc : (concatEv final st (.chunk t m)).1.needClose = false := by rw [hst]
    simp only [concatEvs, chunkMs_append, ih, hnc, hsh, concatEv_chunk_ms, trMs, firstOff, List.map_cons, Bool.false_and,
      Bool.false_eq_true, if_false, List.nil_append, List.append_assoc, List.singleton_append]
    rfl
  | decl e es he ih =>
    intro st
    obtain ⟨d1, d2, d3, d4, _⟩ := concatEv_ann final st e he
    simp only [concatEvs, chunkMs_append, ih, chunkMs_noChunk _ d1, d2, d3, d4, shiftM_congr d3 d4, trMs_cons_decl _ _ _ _ he, firstOff_cons_decl _ _ he,
      List.nil_append]

/-- **lookups through `concatEvs`**: the delivered mappings answer a lookup at a shifted position like the child's translated
mappings answer it at the local position; when they have no answer, a pending close (emitted before the first chunk, when that
chunk is not at the child's origin) answers "unmapped" on the child's first line, and otherwise the earlier answer stands. -/
theorem concatEvs_look (final : Bool) (l' c' : Nat) : ∀ (evs : List Ev) (st : CSt) (acc0 : Option (Option Orig)),
    lookupGo (shiftL st l') (shiftC st l' c') acc0 (chunkMs (concatEvs final st evs).2) =
      match lookupGo l' c' none (trMs final st evs) with
      | some x => some x
      | none => if st.needClose = true ∧ l' = 1 ∧ firstOff evs = true then some none else acc0 := by
  intro evs st acc0
  rw [concatEvs_ms, lookupGo_append, lookupGo_shift, lookupGo_acc, lookupGo_close]
  have : ((st.needClose = true ∧ firstOff evs = true) ∧ l' = 1) ↔ (st.needClose = true ∧ l' = 1 ∧ firstOff evs = true) :=
    ⟨fun ⟨⟨a, b⟩, c⟩ => ⟨a, c, b⟩, fun ⟨a, c, b⟩ => ⟨⟨a, b⟩, c⟩⟩
  simp only [origin_match, Bool.and_eq_true, this]
  rfl

/-- `last_mapping_line` after the child's events: the line of the last chunk if that chunk is (still) mapped -/
def lastML (init : Nat) (ms : List Mapping) : Nat :=
  match ms.getLast? with
  | none => init
  | some m => if m.orig.isNone then 0 else m.gl

theorem lastML_cons (init : Nat) (m : Mapping) (ms : List Mapping) :
    lastML init (m :: ms) = lastML (if m.orig.isNone then 0 else m.gl) ms := by
  unfold lastML
  cases ms with
  | nil => rfl
  | cons x xs =>
    rw [List.getLast?_cons_cons]
    cases h : (x :: xs).getLast? with
    | none => simp at h
    | some z => rfl

theorem concatEvs_state (final : Bool) : ∀ (evs : List Ev) (st : CSt),
    (concatEvs final st evs).1.lineOff = st.lineOff ∧ (concatEvs final st evs).1.colOff = st.colOff
    ∧ (concatEvs final st evs).1.needClose = (if hasChunk evs then false else st.needClose)
    ∧ (concatEvs final st evs).1.lastMappingLine = lastML st.lastMappingLine (trMs final st evs)
    ∧ (hasChunk evs = false → trMs final st evs = []) := by
  intro evs
  induction evs using evs_induction with
  | nil => intro st; simp [concatEvs, hasChunk, trMs, lastML]
  | chunk t m es ih =>
    intro st
    obtain ⟨i1, i2, i3, i4, _⟩ := ih (concatEv final st (.chunk t m)).1
    have hst := concatEv_chunk final st t m
    simp only [concatEvs, trMs, lastML_cons]
    refine ⟨by rw [i1, hst], by rw [i2, hst], by rw [i3, hst]; simp [hasChunk], by rw [i4, hst], fun h => nomatch h⟩
  | decl e es he ih =>
    intro st
    obtain ⟨i1, i2, i3, i4, i5⟩ := ih (concatEv final st e).1
    obtain ⟨_, d2, d3, d4, d5⟩ := concatEv_ann final st e he
    simp only [concatEvs, trMs_cons_decl _ _ _ _ he, hasChunk_cons_decl _ _ he]
    exact ⟨by rw [i1, d3], by rw [i2, d4], by rw [i3, d2], by rw [i4, d5], i5⟩

theorem firstOff_noChunk : ∀ (evs : List Ev), hasChunk evs = false → firstOff evs = false := by
  intro evs
  induction evs using evs_induction with
  | nil => intro _; rfl
  | chunk t m es _ => intro h; cases h
  | decl e es he ih => rw [hasChunk_cons_decl _ _ he, firstOff_cons_decl _ _ he]; exact ih

/-- does the ConcatSource deliver a closing (unmapped) mapping at the child's origin? -/
def closes (st : CSt) (child : SResult) : Prop :=
  st.needClose = true ∧ (firstOff child.evs = true ∨ (hasChunk child.evs = false ∧ (child.info.line != 1 || child.info.col != 0) = true))

instance (st : CSt) (child : SResult) : Decidable (closes st child) := by unfold closes; infer_instance

theorem concatChild_ms (final : Bool) (st : CSt) (c : SResult) : chunkMs (concatChild final st c).2 =
    (if closes st c then [(⟨st.lineOff + 1, st.colOff, none⟩ : Mapping)] else []) ++ (trMs final (childStart st) c.evs).map (shiftM st) := by
  obtain ⟨s1, s2, s3, _, s5⟩ := concatEvs_state final c.evs (childStart st)
  rw [concatChild_eq, CSt.pending, chunkMs_append, concatEvs_ms, s1, s2, s3]
  change ((if (st.needClose && firstOff c.evs) = true then [(⟨st.lineOff + 1, st.colOff, none⟩ : Mapping)] else []) ++ List.map (shiftM st) _) ++
    chunkMs (if ((if hasChunk c.evs = true then false else st.needClose) && _) = true then [Ev.chunk none ⟨st.lineOff + 1, st.colOff, none⟩] else []) = _
  cases hch : hasChunk c.evs with
  | true =>
    have hcl : closes st c ↔ (st.needClose && firstOff c.evs) = true := by simp [closes, hch]
    simp [hcl, chunkMs]
  | false =>
    have hcl : closes st c ↔ (st.needClose && (c.info.line != 1 || c.info.col != 0)) = true := by
      simp [closes, hch, firstOff_noChunk _ hch]
    rw [s5 hch, firstOff_noChunk _ hch]
    by_cases h : closes st c
    · simp [h, hcl.1 h, chunkMs]
    · simp [h, (not_congr hcl).1 h, chunkMs]

theorem concatChild_look (final : Bool) (l' c' : Nat) (st : CSt) (child : SResult) (acc0 : Option (Option Orig)) :
    lookupGo (shiftL st l') (shiftC st l' c') acc0 (chunkMs (concatChild final st child).2) =
      match lookupGo l' c' none (trMs final (childStart st) child.evs) with
      | some x => some x
      | none => if closes st child ∧ l' = 1 then some none else acc0 := by
  rw [concatChild_ms, lookupGo_append, lookupGo_shift, lookupGo_acc, lookupGo_close]
  simp only [origin_match]
  rfl

end Rs
