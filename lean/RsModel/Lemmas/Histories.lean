import RsModel.Lemmas.WarmTree
/-!
# Call histories of any length on a tree with CachedSource nodes

A cache entry is keyed by the node and the options `(columns, final_source)`.  For a tree with no CachedSource beneath a
ReplaceSource (`Src.NoCR`; beneath one, a call with `final_source = true` reads the entries of `final_source = false` — K5), a
call with options `o` reads and writes only entries keyed by `o`.  So in ANY history of streaming calls — any length, options in
any order — starting on cold caches, the k-th call returns

* the stream of the cache-free tree (`Src.strip`, in `ColdStrip`) if its options did not occur before, and
* the stream of the replay tree (`Src.warm o`, in `WarmTree`: every outermost CachedSource replays the map the first call with `o` stored)
  otherwise —

always the same two answers per option, whatever happened in between (`runCalls_results`).  The two-call theorems about the
first and the second answer therefore speak about every call of every history.

`Src.first_call` is `Src.stream_strip` with `Src.stream_fills` (ColdStrip, WarmTree) for entries cold at `o` only (`ColdAt`) instead
of at every option (`Cold`); the price is `NoCR` — a ReplaceSource streams its child with `⟨o.columns, false⟩` whatever `o` is —
which the `Cold` family does not ask, so neither family gives the other.
-/
namespace Rs

mutual
/-- no CachedSource beneath a ReplaceSource, anywhere in the tree -/
def Src.NoCR : Src → Prop
  | .concat cs => cs.NoCRs
  | .replace inner _ => inner.NoCached
  | .cached _ inner => inner.NoCR
  | _ => True
def SrcList.NoCRs : SrcList → Prop
  | .nil => True
  | .cons s r => s.NoCR ∧ r.NoCRs
end

mutual
theorem Src.noCR_cachedOK : ∀ (s : Src), s.NoCR → s.CachedOK
  | .raw .. | .rawStr .. | .rawBuf .. | .orig .. | .sms .. | .cached .. => fun _ => trivial
  | .concat cs => SrcList.noCRs_cachedOKs cs
  | .replace .. => id
theorem SrcList.noCRs_cachedOKs : ∀ (l : SrcList), l.NoCRs → l.CachedOKs
  | .nil => fun _ => trivial
  | .cons s r => fun h => ⟨Src.noCR_cachedOK s h.1, SrcList.noCRs_cachedOKs r h.2⟩
end

mutual
theorem Src.stream_store_opts : ∀ (s : Src) (o : Opts) (σ : Store) (k : Nat × Opts), s.NoCR → k.2 ≠ o → (s.stream o σ).2.get? k = σ.get? k
  | .raw .. | .rawStr .. | .rawBuf .. | .orig .. => fun _ _ _ _ _ => rfl
  | .sms _ _ _ _ inner _ => fun _ _ _ _ _ => by cases inner <;> rfl
  | .concat cs => fun o σ k h hk => by rw [Src.concat_stream]; exact SrcList.streams_store_opts cs o σ k h hk
  | .replace inner rs => fun o σ _ h _ => by rw [(Src.stream_nc (.replace inner rs) o σ h).1]
  | .cached id inner => fun o σ k h hk => by
    cases hg : σ.get? (id, o) with
    | some e => rw [Src.cached_stream_hit id inner o σ e hg]
    | none =>
      rw [Src.cached_stream_cold id inner o σ hg, get_insertNew_other _ (id, o) k _ (fun e => hk (by rw [← e]))]
      exact Src.stream_store_opts inner o σ k h hk
theorem SrcList.streams_store_opts : ∀ (l : SrcList) (o : Opts) (σ : Store) (k : Nat × Opts), l.NoCRs → k.2 ≠ o → (l.streams o σ).2.get? k = σ.get? k
  | .nil => fun _ _ _ _ _ => rfl
  | .cons s rest => fun o σ k h hk => (SrcList.streams_store_opts rest o _ k h.2 hk).trans (Src.stream_store_opts s o σ k h.1 hk)
end

mutual
/-- the first call with options `o` (the entries keyed by `o` cold): it returns what the cache-free tree streams and leaves every
outermost CachedSource holding the map of its subtree's stream -/
theorem Src.first_call : ∀ (s : Src) (o : Opts) (σ : Store), s.NoCR → s.ids.Nodup → ColdAt σ s.ids o →
    (s.stream o σ).1 = (s.strip.stream o []).1 ∧ s.WarmFor (s.stream o σ).2 o
  | .raw .. | .rawStr .. | .rawBuf .. | .orig .. => fun _ _ _ _ _ => ⟨rfl, trivial⟩
  | .sms _ _ _ _ inner _ => fun _ _ _ _ _ => ⟨by cases inner <;> rfl, trivial⟩
  | .concat cs => fun o σ hk hn hc => by
    obtain ⟨a, b⟩ := SrcList.first_calls cs o σ hk hn hc
    rw [Src.strip, Src.concat_stream, Src.concat_stream, a]
    exact ⟨rfl, b⟩
  | .replace inner rs => fun o σ hk _ _ => by
    simp only [Src.strip, Src.stream]
    rw [Src.strip_of_nc inner hk, (Src.stream_nc inner _ σ hk).2]
    exact ⟨rfl, hk⟩
  | .cached id inner => fun o σ hk hn hc => by
    obtain ⟨hf, hn'⟩ := List.nodup_cons.1 hn
    have e := (Src.first_call inner o σ hk hn' (fun i hi => hc i (List.mem_cons_of_mem _ hi))).1
    have h0 := hc id List.mem_cons_self
    simp only [Src.WarmFor]
    rw [Src.cached_stream_fills id inner o σ h0 hf, Src.strip, Src.cached_stream_cold _ _ _ _ h0, e]
    exact ⟨rfl, rfl⟩
theorem SrcList.first_calls : ∀ (l : SrcList) (o : Opts) (σ : Store), l.NoCRs → l.idsL.Nodup → ColdAt σ l.idsL o →
    (l.streams o σ).1 = (l.stripL.streams o []).1 ∧ l.WarmFors (l.streams o σ).2 o
  | .nil => fun _ _ _ _ _ => ⟨rfl, trivial⟩
  | .cons s rest => fun o σ hk hn hc => by
    obtain ⟨hn1, hn2, hcold⟩ := coldAt_cons s rest hn
    obtain ⟨a1, a2⟩ := Src.first_call s o σ hk.1 hn1 (hcold σ o hc).1
    obtain ⟨b1, b2⟩ := SrcList.first_calls rest o _ hk.2 hn2 ((hcold σ o hc).2 o)
    simp only [SrcList.stripL, SrcList.streams, SrcList.WarmFors]
    -- the stripped children do not touch the store; the later children keep what the first one stored
    rw [a1, b1, (SrcList.streams_nc rest.stripL o (s.strip.stream o []).2 (SrcList.stripL_nc rest)).2]
    exact ⟨rfl, Src.warmFor_mono s _ _ o (SrcList.streams_store_mono rest o _) a2, b2⟩
end

theorem Src.stream_stripO : ∀ (s : Src) (o : Opts) (σ : Store), s.NoCR → s.ids.Nodup → ColdAt σ s.ids o →
    (s.stream o σ).1 = (s.strip.stream o []).1 :=
  fun s o σ hk hn hc => (Src.first_call s o σ hk hn hc).1

theorem SrcList.streams_stripO : ∀ (l : SrcList) (o : Opts) (σ : Store), l.NoCRs → l.idsL.Nodup → ColdAt σ l.idsL o →
    (l.streams o σ).1 = (l.stripL.streams o []).1 :=
  fun l o σ hk hn hc => (SrcList.first_calls l o σ hk hn hc).1

theorem SrcList.streams_fillsO : ∀ (l : SrcList) (o : Opts) (σ : Store), l.NoCRs → l.idsL.Nodup → ColdAt σ l.idsL o → l.WarmFors (l.streams o σ).2 o :=
  fun l o σ hk hn hc => (SrcList.first_calls l o σ hk hn hc).2

/-- a history of streaming calls on one tree, each with its own options, threading the store -/
def runCalls (s : Src) : List Opts → Store → List SResult × Store
  | [], σ => ([], σ)
  | o :: os, σ => (((s.stream o σ).1 :: (runCalls s os (s.stream o σ).2).1), (runCalls s os (s.stream o σ).2).2)

/-- what a call with options `o` returns after the calls `seen`: the stream of the replay tree if `o` was used before, of the
cache-free tree if not -/
def answerOf (s : Src) (seen : List Opts) (o : Opts) : SResult :=
  if o ∈ seen then ((s.warm o).stream o []).1 else (s.strip.stream o []).1

/-- Every answer of a history is the cold stream of a CachedSource-free tree with the text of `s` — the replay tree or the
cache-free tree; what holds of both trees (`P`) holds of the tree that answered. -/
theorem answerOf_cases (s : Src) (hck : s.CachedOK) (seen : List Opts) (o : Opts) (P : Src → Prop)
    (hwarm : P (s.warm o)) (hstrip : P s.strip) :
    ∃ t : Src, answerOf s seen o = (t.stream o []).1 ∧ t.NoCached ∧ t.src = s.src ∧ P t := by
  unfold answerOf
  split
  · exact ⟨_, rfl, Src.warm_nc s o hck, Src.warm_src s o, hwarm⟩
  · exact ⟨_, rfl, Src.strip_nc s, Src.strip_src s, hstrip⟩

/-- the store after the calls `seen`: every outermost CachedSource holds its fill for each option set used so far, and the caches
are cold for every other -/
def HistInv (s : Src) (seen : List Opts) (σ : Store) : Prop :=
  ∀ o, (o ∈ seen → s.WarmFor σ o) ∧ (o ∉ seen → ColdAt σ s.ids o)

theorem histInv_step (s : Src) (hk : s.NoCR) (hn : s.ids.Nodup) (seen : List Opts) (σ : Store) (h : HistInv s seen σ) (o : Opts) :
    (s.stream o σ).1 = answerOf s seen o ∧ HistInv s (seen ++ [o]) (s.stream o σ).2 := by
  by_cases hs : o ∈ seen
  · -- answered from the entries, which stay as they are
    have hw := (h o).1 hs
    rw [Src.stream_warm s o σ hw]
    refine ⟨by simp only [answerOf, hs, if_true], fun o' => ⟨fun hm => ?_, fun hno => (h o').2 fun hm => hno (List.mem_append_left _ hm)⟩⟩
    rcases List.mem_append.1 hm with h1 | h1
    · exact (h o').1 h1
    · rw [List.mem_singleton.1 h1]; exact hw
  · -- the first call with `o`: entries of the options seen stay, those of `o` are filled, no other key is touched
    have hc := (h o).2 hs
    obtain ⟨hans, hfill⟩ := Src.first_call s o σ hk hn hc
    refine ⟨by rw [hans]; simp only [answerOf, hs, if_false], fun o' => ⟨fun hm => ?_, fun hno i hi => ?_⟩⟩
    · rcases List.mem_append.1 hm with h1 | h1
      · exact Src.warmFor_mono s _ _ o' (Src.stream_store_mono s o σ) ((h o').1 h1)
      · rw [List.mem_singleton.1 h1]; exact hfill
    · rw [Src.stream_store_opts s o σ (i, o') hk fun e => hno (List.mem_append_right _ (List.mem_singleton.2 e))]
      exact (h o').2 (fun hm => hno (List.mem_append_left _ hm)) i hi

theorem runCalls_at (s : Src) : ∀ (calls : List Opts) (σ : Store) (k : Nat) (o : Opts), calls[k]? = some o →
    (runCalls s calls σ).1[k]? = some (s.stream o (runCalls s (calls.take k) σ).2).1
  | [], _, _, _, h => nomatch h
  | c :: cs, σ, 0, o, h => by cases h; rfl
  | c :: cs, σ, k + 1, o, h => runCalls_at s cs _ k o h

theorem histInv_run (s : Src) (hk : s.NoCR) (hn : s.ids.Nodup) : ∀ (calls seen : List Opts) (σ : Store), HistInv s seen σ →
    HistInv s (seen ++ calls) (runCalls s calls σ).2
  | [], seen, σ, h => by rw [List.append_nil]; exact h
  | c :: cs, seen, σ, h => by
    have := histInv_run s hk hn cs (seen ++ [c]) _ (histInv_step s hk hn seen σ h c).2
    rwa [List.append_assoc] at this

/-- `c10_every_history` (Props/C10.lean) says what this claims; here the proof: `HistInv` holds after the first `k` calls
(`histInv_run`), and `histInv_step` gives the answer of the next -/
theorem runCalls_results (s : Src) (hk : s.NoCR) (hn : s.ids.Nodup) (σ : Store) (hc : Cold σ s.ids) (calls : List Opts) :
    ∀ k o, calls[k]? = some o → (runCalls s calls σ).1[k]? = some (answerOf s (calls.take k) o) := by
  intro k o h
  have hinv := histInv_run s hk hn (calls.take k) [] σ (fun o' => ⟨fun hm => (by cases hm), fun _ => cold_coldAt σ _ hc o'⟩)
  rw [List.nil_append] at hinv
  rw [runCalls_at s calls σ k o h, (histInv_step s hk hn _ _ hinv o).1]

end Rs
