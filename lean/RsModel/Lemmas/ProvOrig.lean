import RsModel.Lemmas.ModeLeaves
import RsModel.Lemmas.AttrTree
/-!
# C04: where the bytes of an OriginalSource are attributed (columns = true, normal stream)

Every byte of the text is attributed to source 0 at its own line and at the column of the token it belongs to — which is not
after the byte's own column, and is exactly the byte's column at a token start; the only unattributed bytes are the line breaks
of empty lines.  `OrigShape` (`streamOriginal_shape`) is how the chunks are mapped, under either setting of columns (with
columns = false the chunks are the lines, all mapped).
-/
namespace Rs

def chunkOffs : Nat → List Ev → List (Nat × Nat)
  | _, [] => []
  | off, .chunk (some t) _ :: es => (off, t.length) :: chunkOffs (off + t.length) es
  | off, _ :: es => chunkOffs off es

def OrigShape (evs : List Ev) : Prop :=
  ∀ t m, Ev.chunk (some t) m ∈ evs → m.orig = some ⟨0, m.gl, m.gc, none⟩ ∨ (m.orig = none ∧ t = [NL] ∧ m.gc = 0)

theorem origTok_shape : ∀ (toks : List Text) (l c : Nat) (s : Bool), NLStart s toks → (s = true → c = 0) →
    OrigShape (origTokChunks false l c toks).1 := by
  intro toks
  induction toks with
  | nil => intro _ _ _ _ _ _ _ hm; exact nomatch hm
  | cons tok toks ih =>
    intro l c s hns hc t m hm
    obtain ⟨o, l', c', e, ho, hn⟩ := origTokChunks_cons l c tok toks
    rw [e] at hm
    rcases List.mem_cons.1 hm with h | hm
    · cases h
      rw [ho]
      split
      · rename_i hb
        have := bare_nl tok (Bool.and_eq_true_iff.1 hb).1 (Bool.and_eq_true_iff.1 hb).2
        exact .inr ⟨rfl, this, hc (hns.1 this)⟩
      · exact .inl rfl
    · exact ih l' c' (endsWithNL tok) hns.2 (fun h => by rw [h] at hn; cases hn; rfl) t m hm

theorem streamOriginal_shape (t name : Text) (c : Bool) : OrigShape (streamOriginal t name ⟨c, false⟩).evs := by
  intro tt m hm
  cases c
  · -- the chunks are the lines, each mapped to its own start
    simp only [streamOriginal, Bool.false_eq_true, if_false, origLineChunks_eq, List.mem_cons, reduceCtorEq, false_or] at hm
    obtain ⟨_, _, l, e⟩ := lineEvs_mem hm
    cases e; exact .inl rfl
  · simp only [streamOriginal, if_true, List.mem_cons] at hm
    rcases hm with hm | hm
    · cases hm
    · exact origTok_shape (tokens t) 1 0 true (tokens_nlstart t) (fun _ => rfl) tt m hm

theorem chunkOffs_append (a b : List Ev) (off : Nat) : chunkOffs off (a ++ b) = chunkOffs off a ++ chunkOffs (off + (evsText a).length) b := by
  fun_induction chunkOffs off a with
  | case1 off => rfl
  | case2 off t m es ih => rw [evsText_cons, List.length_append, ← Nat.add_assoc]; exact congrArg (List.cons _) ih
  | case3 off e es hne ih => rw [evsText_cons, Ev.text.eq_2 e hne, List.nil_append, ← ih, List.cons_append, chunkOffs.eq_3 _ _ _ hne]

theorem attr_identity (evs : List Ev) (pre : Text) (hp : posOKT pre evs) (hT : ChunksTok evs) (hS : OrigShape evs)
    (j : Nat) (hj : j < (evsText evs).length) (p : Pos) (hpos : adv startPos (pre ++ (evsText evs).take j) = p) :
      ((attrOf evs)[j]? = some none ∧ (evsText evs)[j]? = some NL ∧ p.col = 0)
      ∨ ∃ k len, k ≤ j ∧ j < k + len ∧ (pre.length + k, len) ∈ chunkOffs pre.length evs ∧ j - k ≤ p.col
          ∧ (attrOf evs)[j]? = some (some ⟨0, p.line, p.col - (j - k), none⟩) := by
  obtain ⟨A, t, m, B, d, rfl, rfl, hd, ha⟩ := attrOf_split evs j hj
  have hm : Ev.chunk (some t) m ∈ A ++ .chunk (some t) m :: B := List.mem_append_right _ List.mem_cons_self
  rw [cover_pos hp (hT t m hm) hd] at hpos
  subst hpos
  rw [ha]
  rcases hS t m hm with ho | ⟨ho, rfl, hc⟩
  · refine Or.inr ⟨(evsText A).length, t.length, Nat.le_add_right _ _, Nat.add_lt_add_left hd _, ?_, ?_, ?_⟩
    · rw [chunkOffs_append]
      exact List.mem_append_right _ List.mem_cons_self
    · rw [Nat.add_sub_cancel_left]; exact Nat.le_add_left _ _
    · rw [ho, Nat.add_sub_cancel_left, Nat.add_sub_cancel]
  · obtain rfl : d = 0 := by simpa using hd
    exact Or.inl ⟨by rw [ho], cover_byte A B _ m hd, hc⟩

/-- (start offset, length) of each of the tokens, laid end to end from offset `off` -/
def tokOffs : Nat → List Text → List (Nat × Nat)
  | _, [] => []
  | off, tok :: toks => (off, tok.length) :: tokOffs (off + tok.length) toks

theorem origTok_offs : ∀ (toks : List Text) (l c off : Nat), chunkOffs off (origTokChunks false l c toks).1 = tokOffs off toks := by
  intro toks
  induction toks with
  | nil => intro _ _ _; rfl
  | cons tok toks ih =>
    intro l c off
    obtain ⟨o, l', c', e, _⟩ := origTokChunks_cons l c tok toks
    rw [e, tokOffs, ← ih l' c']
    rfl

/-- `c04_original_attr` (Props/C04.lean) says what this claims; here the proof: `attr_identity` at the shape of the stream
(`streamOriginal_shape`), whose chunks are the potential tokens (`origTok_offs`) -/
theorem original_attr (t name : Text) (j : Nat) (hj : j < t.length) :
    ((attrOf (streamOriginal t name ⟨true, false⟩).evs)[j]? = some none ∧ t[j]? = some NL ∧ (adv startPos (t.take j)).col = 0)
    ∨ ∃ k len, k ≤ j ∧ j < k + len ∧ (k, len) ∈ tokOffs 0 (tokens t) ∧ j - k ≤ (adv startPos (t.take j)).col
        ∧ (attrOf (streamOriginal t name ⟨true, false⟩).evs)[j]? = some (some ⟨0, (adv startPos (t.take j)).line, (adv startPos (t.take j)).col - (j - k), none⟩) := by
  have hp := streamOriginal_posOK t name true
  have hT := streamOriginal_tok t name true
  have hx := streamOriginal_text t name true
  have := attr_identity _ [] hp.1 hT (streamOriginal_shape t name true) j (by rw [hx]; exact hj) _ rfl
  rw [hx] at this
  simp only [List.nil_append, List.length_nil, Nat.zero_add] at this
  have hoffs : chunkOffs 0 (streamOriginal t name ⟨true, false⟩).evs = tokOffs 0 (tokens t) := by
    simp only [streamOriginal, if_true, chunkOffs]
    exact origTok_offs _ _ _ _
  rw [hoffs] at this
  exact this

end Rs
