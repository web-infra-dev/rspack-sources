import RsModel.Lemmas.LinesSM
/-!
# The mapped chunks of a map-driven stream are the mapped segments of the map, in order

A map-driven stream is empty, or its announcements followed by chunks only, in all four modes (`streamSM_evs`); in normal mode its
chunks stand on lines from 1 on, whatever the map (`streamSM_gl`).  For a strictly sorted map whose mapped segments start on
characters of the text, both splitters — the text-less one (`stream_chunks_of_source_map_final`) and the one that cuts the text
(`…_full`) — deliver exactly one mapped chunk per mapped segment, with the segment's own position and original location, in the
order of the map (`streamSM_mapped`); the two line-granular splitters deliver the same mapped chunks whatever the map
(`streamSM_linesMapped`).  (The unmapped chunks differ between the two modes.)  This is what makes a stateful consumer of the
stream — the combinator of C09 — go through the same states in both modes.

The text-less stream is read off its closed form (`streamSMFinal_ms` of ModeLeaves; `thin_mapped`: `thin` drops unmapped segments
only).  The splitter that cuts the text is followed with the segment the walker stands on (`FullSt.cur`, pending while it is
mapped): every move of a call delivers the chunk of that segment, or nothing (`Move.stretch` of SMText), so a call for `m` delivers
the pending chunk and leaves the walker on `m` (`smFullStep_mapped`), provided `m` may follow (`follows`) the segment the walker
stood on.
-/
namespace Rs

def isMapped (m : Mapping) : Bool := m.orig.isSome

def mappedMs (evs : List Ev) : List Mapping := (chunkMs evs).filter isMapped

theorem mappedMs_append (a b : List Ev) : mappedMs (a ++ b) = mappedMs a ++ mappedMs b := by
  simp [mappedMs, chunkMs_append]

theorem mappedMs_unmapped (evs : List Ev) (h : ∀ m ∈ chunkMs evs, m.orig = none) : mappedMs evs = [] := by
  unfold mappedMs
  rw [List.filter_eq_nil_iff]
  intro m hm
  simp [isMapped, h m hm]

theorem mappedMs_nil : mappedMs [] = [] := rfl

theorem mappedMs_cons (t : Option Text) (m : Mapping) (es : List Ev) :
    mappedMs (Ev.chunk t m :: es) = if isMapped m then m :: mappedMs es else mappedMs es := by
  simp only [mappedMs, chunkMs, List.filter_cons]

theorem isChunk_of_origs {P : Orig → Prop} (evs : List Ev) (h : ChunkOrigs P evs) : ∀ e ∈ evs, e.isChunk = true := by
  intro e he
  obtain ⟨t, m, rfl, _⟩ := h e he
  rfl

/-- the announcements a map-driven stream opens with: the files, and with `columns` the names -/
def smAnnEvs (sm : SMap) : Bool → List Ev
  | true => smSourceEvs sm ++ smNameEvs sm
  | false => smSourceEvs sm

theorem smAnnEvs_noChunk (sm : SMap) : ∀ (c : Bool), ∀ e ∈ smAnnEvs sm c, e.isChunk = false
  | true => fun e he => (List.mem_append.1 he).elim (smSourceEvs_noChunk sm e) (smNameEvs_noChunk sm e)
  | false => smSourceEvs_noChunk sm

/-- which chunks, mode by mode: `streamSMLinesFull_evs`, `streamSMLinesFinal_evs` (LinesSM), `streamSMFull_eq` (PosSM), `smFinalGo_eq`
(SMWalk) -/
theorem streamSM_evs (t : Text) (sm : SMap) (o : Opts) :
    ∃ C, (∀ e ∈ C, e.isChunk = true) ∧ (streamSM t sm o).evs = if t = [] then [] else smAnnEvs sm o.columns ++ C := by
  obtain ⟨c, b⟩ := o
  by_cases ht : t = []
  · refine ⟨[], nofun, ?_⟩
    subst ht
    rw [if_pos rfl]
    cases c <;> cases b <;> rfl
  · simp only [if_neg ht]
    cases c <;> cases b
    · exact ⟨_, isChunk_of_origs _ (lineEvs_origs (fun _ => True) (fun _ _ _ => trivial) _ _), streamSMLinesFull_evs t sm ht⟩
    · exact ⟨_, isChunk_of_origs _ (mappedLines_origs (fun _ => True) (fun _ _ _ => trivial) _ _), streamSMLinesFinal_evs t sm ht⟩
    · exact ⟨_, isChunk_of_origs _ (smFullGo_origs (fun _ => True) _ _ _ _ _ (fun _ _ => trivial) (fun _ _ _ _ => trivial)),
        congrArg SResult.evs (streamSMFull_eq t sm ht)⟩
    · exact ⟨_, isChunk_of_origs _ (smFinalGo_origs (fun _ => True) _ _ _ (fun _ _ _ _ => trivial)),
        by simp only [streamSM, streamSMFinal, genInfo_start_iff, ht, if_false]; rfl⟩

theorem streamSM_shape (t : Text) (sm : SMap) (b : Bool) :
    ((streamSM t sm ⟨true, b⟩).evs = [] ∧ t = [])
    ∨ (t ≠ [] ∧ ∃ C, (streamSM t sm ⟨true, b⟩).evs = (smSourceEvs sm ++ smNameEvs sm) ++ C ∧ ∀ e ∈ C, e.isChunk = true) := by
  obtain ⟨C, cC, e⟩ := streamSM_evs t sm ⟨true, b⟩
  by_cases ht : t = []
  · exact .inl ⟨by rw [e, if_pos ht], ht⟩
  · exact .inr ⟨ht, C, by rw [e, if_neg ht]; rfl, cC⟩

theorem streamSM_outer (t : Text) (sm : SMap) (c : Bool) :
    ∃ C, ((streamSM t sm ⟨c, false⟩).evs = [] ∨ (streamSM t sm ⟨c, false⟩).evs = smAnnEvs sm c ++ C)
      ∧ (∀ e ∈ smAnnEvs sm c, e.isChunk = false) ∧ ∀ e ∈ C, e.isChunk = true := by
  obtain ⟨C, cC, e⟩ := streamSM_evs t sm ⟨c, false⟩
  exact ⟨C, by rw [e]; split <;> simp, smAnnEvs_noChunk sm c, cC⟩

def LineChunks (lo : Nat) (ms : List Mapping) : Prop :=
  ms.Pairwise (fun a b => a.gl < b.gl) ∧ ∀ m ∈ ms, lo ≤ m.gl ∧ m.gc = 0

theorem lineEvs_lineChunks (g : Nat → Option Orig) : ∀ (ls : List Text) (l : Nat), LineChunks l (chunkMs (lineEvs g l ls))
  | [], _ => ⟨List.Pairwise.nil, nofun⟩
  | _ :: ts, l => by
    obtain ⟨p, r⟩ := lineEvs_lineChunks g ts (l + 1)
    refine ⟨List.pairwise_cons.2 ⟨fun m hm => (r m hm).1, p⟩, fun m hm => ?_⟩
    rcases List.mem_cons.1 hm with rfl | hm
    · exact ⟨Nat.le_refl l, rfl⟩
    · exact ⟨Nat.le_of_succ_le (r m hm).1, (r m hm).2⟩

theorem streamSMLinesFull_lineChunks (t : Text) (sm : SMap) : LineChunks 1 (chunkMs (streamSM t sm ⟨false, false⟩).evs) := by
  simp only [streamSM]
  rw [(streamSMLines_ms t sm).1]
  exact lineEvs_lineChunks _ _ 1

theorem streamSM_gl (t : Text) (sm : SMap) : ∀ (c : Bool), ∀ m ∈ chunkMs (streamSM t sm ⟨c, false⟩).evs, 1 ≤ m.gl
  | false => fun m hm => ((streamSMLinesFull_lineChunks t sm).2 m hm).1
  | true => fun m hm => by
    obtain ⟨x, hx⟩ := chunk_of_mem_chunkMs _ m hm
    simp only [streamSM, streamSMFull] at hx
    split at hx
    · cases hx
    · rcases List.mem_append.1 hx with hx | hx
      · exact nomatch smAnnEvs_noChunk sm true _ hx
      · obtain ⟨_, _, _, _, e, hl, _⟩ := smFullGo_mem _ (fun _ => True) _ _ _ _ trivial (fun _ _ => trivial) _ hx
        cases e
        exact hl

theorem streamSMLines_annN (t : Text) (sm : SMap) (f : Bool) : annN (streamSM t sm ⟨false, f⟩).evs = [] := by
  obtain ⟨C, cC, e⟩ := streamSM_evs t sm ⟨false, f⟩
  rw [e]
  split
  · rfl
  · rw [annN_append, annN_chunks C cC, List.append_nil]
    exact List.eq_nil_of_length_eq_zero ((annN_length _).trans (smSourceEvs_decl sm 0).2.2)

theorem adv_ne_start (t : Text) (h : t ≠ []) : adv startPos t ≠ ⟨1, 0⟩ := mt (adv_eq_start t).1 h

theorem thin_mapped : ∀ (ms : List Mapping) (act : Nat), (thin act ms).filter isMapped = ms.filter isMapped
  | [], _ => rfl
  | m :: ms, act => by
    rw [thin]
    split
    · rw [List.filter_cons, List.filter_cons, thin_mapped]
    · -- a mapping that is dropped is unmapped
      rename_i h
      rw [List.filter_cons_of_neg (p := isMapped) fun hq => h (Or.inl hq)]
      exact thin_mapped ms act

theorem smLines_mapped (lines : List Text) : ∀ (ms : List Mapping) (cur : Nat),
    mappedMs (smLinesFinalGo lines.length cur ms) = mappedMs (smLinesFullGo lines cur ms).1 := by
  intro ms cur
  -- the two loops take the same branch at every mapping
  fun_induction smLinesFullGo lines cur ms with
  | case1 => rfl
  | case2 cur m ms ho ih => rw [smLinesFinalGo, ho]; exact ih
  | case3 cur m ms o ho hc ih =>
    rw [smLinesFinalGo, ho]
    dsimp only
    rw [if_neg (by simp only [Bool.or_eq_true, decide_eq_true_eq] at hc; simp only [Bool.and_eq_true, decide_eq_true_eq]; omega)]
    exact ih
  | case4 cur m ms o ho hc o3 cur1 ev r ih =>
    have hc' : cur ≤ m.gl ∧ m.gl ≤ lines.length := by simpa only [Bool.or_eq_true, decide_eq_true_eq, not_or, Nat.not_lt] using hc
    rw [smLinesFinalGo, ho]
    dsimp only
    rw [if_pos (by simpa only [Bool.and_eq_true, decide_eq_true_eq] using hc'), mappedMs_append,
      mappedMs_unmapped _ (chunkMs_wholeLines lines _ _), List.nil_append, mappedMs_cons, mappedMs_cons, ← ih,
      show cur1 = m.gl from Nat.max_eq_right hc'.1]

theorem streamSM_linesMapped (t : Text) (sm : SMap) :
    mappedMs (streamSM t sm ⟨false, true⟩).evs = mappedMs (streamSM t sm ⟨false, false⟩).evs := by
  by_cases ht : t = []
  · subst ht; rfl
  · simp only [streamSM, streamSMLinesFinal, streamSMLinesFull, genInfo_start_iff, splitLines_isEmpty_iff, ht, if_false, finalLine_eq t,
      mappedMs_append, mappedMs_unmapped _ (chunkMs_wholeLines _ _ _), List.append_nil]
    rw [smLines_mapped]

def FullSt.cur (s : FullSt) : Mapping := ⟨s.line, s.col, if s.active then s.orig else none⟩

/-- the mapping whose chunk has not been delivered yet -/
def pendM (s : FullSt) : List Mapping := [s.cur].filter isMapped

structure PInv (lines : List Text) (s : FullSt) : Prop where
  act : s.active = true → s.orig.isSome = true ∧ s.line ≤ lines.length ∧ s.col < (lineAt lines s.line).length

theorem pendM_inactive {s : FullSt} (h : s.active = false) : pendM s = [] := by
  simp only [pendM, FullSt.cur, h, Bool.false_eq_true, if_false]
  rfl

theorem csub_ne (ln : Text) (ha : IsAscii ln) (a b : Nat) (hab : a < b) (hal : a < ln.length) : csub ln a b ≠ [] := fun h => by
  have hlen := csub_length_ascii ln ha a b
  rw [h, List.length_nil] at hlen
  omega

def mlt (a b : Mapping) : Prop := a.gl < b.gl ∨ (a.gl = b.gl ∧ a.gc < b.gc)

/-- `b` may come after `a` in the map: not before it, and strictly after it when `a` is mapped (the chunk of `a` ends where `b` starts,
and must not be empty) -/
def follows (a b : Mapping) : Prop := mle a b ∧ (isMapped a = true → mlt a b)

theorem smFullStep_mapped (lines : List Text) (E : Env lines) (fl fc : Nat) (s : FullSt) (m : Mapping)
    (hp : PInv lines s) (hf : follows s.cur m)
    (hbefore : isMapped m = true → m.gl < fl ∨ (m.gl = fl ∧ m.gc < fc))
    (hin : isMapped m = true → m.gl ≤ lines.length ∧ m.gc < (lineAt lines m.gl).length) :
    mappedMs (smFullStep lines fl fc s m).2 = pendM s ∧ (smFullStep lines fl fc s m).1.cur = m ∧ PInv lines (smFullStep lines fl fc s m).1 := by
  -- between the moves: the mapped chunks delivered so far and the pending one make up `pendM s`, and an active walker stands strictly
  -- before `m`
  have hW : MoveOK (fun acc s' => mappedMs acc ++ pendM s' = pendM s ∧ PInv lines s'
        ∧ (s'.active = true → s'.line < m.gl ∨ (s'.line = m.gl ∧ s'.col < m.gc)))
      (fun acc s' => mappedMs acc = pendM s ∧ s'.cur = m ∧ PInv lines s') lines fl fc m :=
    { move := fun acc s evs s' h hv => by
        -- every move delivers the stretch up to some column `b` as the chunk of the segment the walker stands on, or nothing if it is
        -- empty, and leaves the walker inactive
        obtain ⟨b, hd, ha', he⟩ := hv.stretch E.wf
        have hs' : s'.active = false :=
          Bool.eq_false_iff.2 fun hx => Nat.lt_irrefl _ (Nat.lt_of_lt_of_le (ha' hx).2 (h.2.1.act (ha' hx).1).2.1)
        refine ⟨?_, ⟨fun hc => by rw [hs'] at hc; cases hc⟩, fun hc => by rw [hs'] at hc; cases hc⟩
        rw [mappedMs_append, pendM_inactive hs', List.append_nil, ← h.1]
        refine congrArg _ ?_
        rcases he with ⟨rfl, hnil⟩ | ⟨_, rfl⟩
        · -- the stretch of an active walker begins with a character of the line and goes beyond it
          refine (pendM_inactive (Bool.eq_false_iff.2 fun ha => ?_)).symm
          have hb : s.col < b := by
            have := h.2.2 ha
            have := Nat.lt_of_lt_of_le (h.2.1.act ha).2.2 (lineAt_small lines E.wf s.line)
            omega
          exact csub_ne _ (ascii_lineAt lines E.ascii _) _ _ hb (h.2.1.act ha).2.2 hnil
        · rfl
      activate := fun acc s' h hq hl hc => by
        have hact := hq.inactive fun ha => (h.2.1.act ha).2.1
        obtain ⟨p5l, p5c⟩ := smStep5_pos fl fc s' m
        obtain ⟨q1, q2⟩ := smStep5_cur fl fc s' m hact hbefore
        refine ⟨by have := h.1; rwa [pendM_inactive hact, List.append_nil] at this, ?_, ⟨fun ha => ?_⟩⟩
        · rw [FullSt.cur, p5l, p5c, hl, hc, q1]
        · rw [p5l, p5c, hl, hc]
          rw [if_pos ha] at q1
          exact ⟨q1 ▸ q2 ha, hin (q2 ha)⟩ }
  have := smFullStep_walk hW [] s ⟨List.nil_append _, hp, fun ha => hf.2 (by simp only [isMapped, FullSt.cur, ha, if_true]; exact (hp.act ha).1)⟩ hf.1
  rwa [List.nil_append] at this

/-- **the walk over a map in which each mapping may follow the one before**: the mapped chunks delivered, with the one pending at
the end, are the mapped segments of the map, with the one pending at the start; the walker ends on the last mapping -/
theorem smFullGo_mapped (lines : List Text) (E : Env lines) (fl fc : Nat) :
    ∀ (ms : List Mapping) (s : FullSt), PInv lines s → (s.cur :: ms).Pairwise follows →
      (∀ m ∈ ms, isMapped m = true → (m.gl < fl ∨ (m.gl = fl ∧ m.gc < fc)) ∧ m.gl ≤ lines.length ∧ m.gc < (lineAt lines m.gl).length) →
      mappedMs (smFullGo lines fl fc s ms) ++ pendM (smFullState lines fl fc s ms) = (s.cur :: ms).filter isMapped
      ∧ (s.cur :: ms).getLast? = some (smFullState lines fl fc s ms).cur
  | [], s, _, _, _ => ⟨rfl, rfl⟩
  | m :: rest, s, hp, hpw, hm => by
    obtain ⟨hp1, hp2⟩ := List.pairwise_cons.1 hpw
    have hmm := hm m List.mem_cons_self
    obtain ⟨a1, a2, a3⟩ := smFullStep_mapped lines E fl fc s m hp (hp1 m List.mem_cons_self) (fun h => (hmm h).1) (fun h => (hmm h).2)
    rw [smFullGo, smFullState]
    generalize smFullStep lines fl fc s m = r at a1 a2 a3
    obtain ⟨i1, i2⟩ := smFullGo_mapped lines E fl fc rest r.1 a3 (a2 ▸ hp2) fun x hx => hm x (List.mem_cons_of_mem _ hx)
    rw [a2] at i1 i2
    exact ⟨by rw [mappedMs_append, List.append_assoc, i1, a1]; exact (List.filter_append [s.cur] _).symm, by rw [List.getLast?_cons_cons, i2]⟩

theorem on_char (lines : List Text) (hL : Lines lines) (hne : lines ≠ []) (fl fc : Nat) (hend : lineLoopInfo lines = ⟨fl, fc⟩)
    (m : Mapping) (hi : Inside lines m) (hb : m.gl < fl ∨ (m.gl = fl ∧ m.gc < fc)) :
    m.gl ≤ lines.length ∧ m.gc < (lineAt lines m.gl).length := by
  obtain ⟨_, hflb, hfcb, _⟩ := end_of_lines lines hne fl fc hend
  have hle := line_le_of_before_end _ fl fc m.gl m.gc hflb hfcb hb
  have h1 := hi.1
  have hw := hi.2 hle
  obtain ⟨⟨sfx, hs, hcase⟩, _⟩ := lines_get lines hL (m.gl - 1) (by omega)
  unfold lineAt at hw ⊢
  refine ⟨hle, ?_⟩
  rcases hcase with hc | ⟨hlast, hc⟩
  · rw [hc] at hw ⊢
    rw [(width_cases sfx hs).1] at hw
    rw [List.length_append, List.length_singleton]
    exact Nat.lt_succ_of_le hw
  · -- the last line, and it does not end with a line break: the text ends at its end
    have hidx : lines.getLast? = some (lines.getD (m.gl - 1) []) := by
      rw [List.getLast?_eq_getElem?, List.getD_eq_getElem?_getD, show lines.length - 1 = m.gl - 1 by omega,
        List.getElem?_eq_getElem (by omega)]
      rfl
    rw [lineLoopInfo, hidx, hc] at hend
    dsimp only at hend
    rw [endsWithNL_noNL sfx hs, if_neg Bool.false_ne_true] at hend
    cases hend
    rw [hc]
    omega

theorem smFull_mapped (lines : List Text) (E : Env lines) (hne : lines ≠ []) (fl fc : Nat) (hend : lineLoopInfo lines = ⟨fl, fc⟩)
    (ms : List Mapping) (hstrict : ms.Pairwise mlt) (hseg : ∀ m ∈ ms, SegOK lines fl fc m) :
    mappedMs (smFullGo lines fl fc {} (ms ++ [⟨fl, fc, none⟩])) = ms.filter isMapped := by
  obtain ⟨h1fl, _, _, _⟩ := end_of_lines lines hne fl fc hend
  have hfirst : ∀ x ∈ ms ++ [⟨fl, fc, none⟩], follows (FullSt.cur {}) x := fun x hx => by
    -- the walk starts at `(1, 0)`, unmapped, and no line is before the first
    have : 1 ≤ x.gl := (List.mem_append.1 hx).elim (fun h => (hseg x h).1.1) fun h => List.mem_singleton.1 h ▸ h1fl
    exact ⟨show 1 < x.gl ∨ (1 = x.gl ∧ 0 ≤ x.gc) by omega, nofun⟩
  have hchain : List.Pairwise follows (ms ++ [⟨fl, fc, none⟩]) := by
    refine List.pairwise_append.2 ⟨hstrict.imp fun h => ⟨h.imp id (And.imp id Nat.le_of_lt), fun _ => h⟩, List.pairwise_singleton _ _,
      fun m hm x hx => ?_⟩
    rw [List.mem_singleton.1 hx]
    exact ⟨(hseg m hm).2.2, (hseg m hm).2.1⟩
  have hall : ∀ m ∈ ms ++ [⟨fl, fc, none⟩], isMapped m = true →
      (m.gl < fl ∨ (m.gl = fl ∧ m.gc < fc)) ∧ m.gl ≤ lines.length ∧ m.gc < (lineAt lines m.gl).length := by
    intro m hm hq
    rcases List.mem_append.1 hm with h | h
    · exact ⟨(hseg m h).2.1 hq, on_char lines E.ls hne fl fc hend m (hseg m h).1 ((hseg m h).2.1 hq)⟩
    · rw [List.mem_singleton.1 h] at hq
      cases hq
  obtain ⟨hgo, hpe⟩ := smFullGo_mapped lines E fl fc _ {}
    ⟨fun h => nomatch h⟩ (List.pairwise_cons.2 ⟨hfirst, hchain⟩) hall
  -- the walk starts on an unmapped place and ends on the sentinel
  rw [← List.cons_append, List.getLast?_concat] at hpe
  rw [pendM, ← Option.some.inj hpe, List.filter_cons_of_neg (show ¬ isMapped (FullSt.cur {}) = true from Bool.false_ne_true),
    List.filter_append] at hgo
  exact List.append_cancel_right hgo

theorem filter_isMapped_of_start (lines : List Text) (ms : List Mapping) (fl fc : Nat) (hfl : fl = 1) (hfc : fc = 0)
    (hseg : ∀ m ∈ ms, SegOK lines fl fc m) : ms.filter isMapped = [] := by
  rw [List.filter_eq_nil_iff]
  intro m hm hq
  have := (hseg m hm).2.1 hq
  have := (hseg m hm).1.1
  omega

/-- **both column modes of a SourceMapSource leaf deliver the mapped segments of the map, in order, as their mapped chunks** -/
theorem streamSM_mapped (t : Text) (sm : SMap) (ha : IsAscii t) (hl : t.length ≤ USIZE_MAX) (hsorted : sortedFrom 1 0 (decode sm.mappings))
    (hstrict : (decode sm.mappings).Pairwise mlt)
    (hseg : ∀ m ∈ decode sm.mappings, SegOK (splitLines t) (adv startPos t).line (adv startPos t).col m) :
    mappedMs (streamSM t sm ⟨true, false⟩).evs = (decode sm.mappings).filter isMapped
    ∧ mappedMs (streamSM t sm ⟨true, true⟩).evs = (decode sm.mappings).filter isMapped := by
  by_cases ht : t = []
  · -- both streams are empty
    subst ht
    exact ⟨(filter_isMapped_of_start _ _ 1 0 rfl rfl hseg).symm, (filter_isMapped_of_start _ _ 1 0 rfl rfl hseg).symm⟩
  constructor
  · -- the mode that cuts the text
    rw [mappedMs, show streamSM t sm ⟨true, false⟩ = streamSMFull t sm from rfl, streamSMFull_eq t sm ht, chunkMs_append, chunkMs_append,
      chunkMs_smSourceEvs, chunkMs_smNameEvs]
    exact smFull_mapped (splitLines t) (env_of_ascii t ha hl) (splitLines_ne_nil ht) _ _ (adv_text_end t).symm _ hstrict hseg
  · -- the text-less mode: `thin` drops unmapped segments only, and no mapped segment lies at or beyond the end of the text
    rw [mappedMs, show streamSM t sm ⟨true, true⟩ = streamSMFinal t sm from rfl, streamSMFinal_ms, if_neg ht, thin_mapped, List.filter_filter]
    refine List.filter_congr fun m hm => ?_
    cases hq : isMapped m
    · rfl
    · have := genInfo_adv t ▸ (hseg m hm).2.1 hq
      simp only [Bool.true_and, Bool.not_eq_true', Bool.and_eq_false_iff, Bool.or_eq_false_iff, decide_eq_false_iff_not]
      omega

end Rs
