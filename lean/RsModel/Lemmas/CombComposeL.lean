import RsModel.Lemmas.CombCompose
/-!
# C09, columns = false: composition at (file, line) granularity

With `columns = false` both the outer and the inner map are streamed by the line-granular splitter: one chunk per generated line,
at column 0 (`LineChunks`), mapped to the line's first mapped segment (names dropped).  The combinator then finds, for an outer chunk
that points into the inner source at inner line `L`, the one segment recorded for line `L` (`findInner_innerLines`).
-/
namespace Rs

theorem lineChunks_mono (lo lo' : Nat) (ms : List Mapping) (h : LineChunks lo ms) (hl : lo' ≤ lo) : LineChunks lo' ms :=
  ⟨h.1, fun m hm => ⟨by have := (h.2 m hm).1; omega, (h.2 m hm).2⟩⟩

theorem lineChunks_tail (lo : Nat) (m : Mapping) (ms : List Mapping) (h : LineChunks lo (m :: ms)) : LineChunks (m.gl + 1) ms := by
  obtain ⟨q1, q2⟩ := List.pairwise_cons.1 h.1
  exact ⟨q2, fun x hx => ⟨q1 x hx, (h.2 x (List.mem_cons_of_mem _ hx)).2⟩⟩

theorem lineChunks_lookup (L C : Nat) : ∀ (ms : List Mapping) (lo : Nat), LineChunks lo ms →
    lookupLines ms L = (lookupCols ms L C).map fun o => (o.src, o.line) := by
  intro ms
  induction ms with
  | nil => intro lo _; rfl
  | cons m ms ih =>
    intro lo h
    have ht := lineChunks_tail lo m ms h
    unfold lookupCols
    rw [lookupGo]
    by_cases hm : m.gl = L
    · -- the one chunk of line `L`: nothing after it stands on that line
      have hgc : m.gc ≤ C := by have := (h.2 m List.mem_cons_self).2; omega
      rw [if_pos ⟨hm, hgc⟩, lookupGo_skip L C ms _ fun x hx hq => by have := (ht.2 x hx).1; omega, lookupLines_cons]
      cases ho : m.orig with
      | some o => rw [if_pos ⟨hm, rfl⟩]; rfl
      | none =>
        rw [if_neg (fun hq => nomatch hq.2)]
        exact lookupLines_none L ms fun x hx hq => by have := (ht.2 x hx).1; omega
    · rw [if_neg (fun hq => hm hq.1), lookupLines_cons, if_neg (fun hq => hm hq.1)]
      exact ih _ ht

theorem findInner_innerLines (st : CombSt) (Tin : Text) (Min : SMap) (hs : sortedFrom 1 0 (decode Min.mappings))
    (hrec : ∀ L, 1 ≤ L → segsAt st.lineData L = ((chunkMs (streamSM Tin Min ⟨false, false⟩).evs).filter fun x => x.gl == L).map toSeg)
    (L C : Nat) (h1 : 1 ≤ L) (hL : L ≤ (splitLines Tin).length) :
    (∀ p, lookupLines (decode Min.mappings) L = some p →
      ∃ idx mm' o', findInner st L C = some idx ∧ (st.lineData.getD (L - 1) {}).segs.getD idx default = toSeg mm' ∧ mm'.orig = some o' ∧ (o'.src, o'.line) = p)
    ∧ (lookupLines (decode Min.mappings) L = none →
        ∀ idx, findInner st L C = some idx → ((st.lineData.getD (L - 1) {}).segs.getD idx default).src < 0) := by
  have hlc := streamSMLinesFull_lineChunks Tin Min
  obtain ⟨F1, F2⟩ := findInner_recorded st _ (hlc.1.imp Or.inl) L C h1 (hrec L h1)
  rw [← show lookupLines (chunkMs (streamSM Tin Min ⟨false, false⟩).evs) L = _ from streamSMLinesFull_lines Tin Min hs L h1 hL,
    lineChunks_lookup L C _ 1 hlc]
  refine ⟨fun p hp => ?_, fun hnone => F2 (Option.map_eq_none_iff.1 hnone)⟩
  obtain ⟨o', ho', rfl⟩ := Option.map_eq_some_iff.1 hp
  obtain ⟨idx, mm', hfi, hsegeq, hmm', _⟩ := F1 o' ho'
  exact ⟨idx, mm', o', hfi, hsegeq, hmm', rfl⟩

/-- **C09, names, columns = false**: names are dropped — no chunk of the combined line-granular stream carries a name -/
theorem streamCombined_namesL (t : Text) (sm : SMap) (n : Text) (os : Option Text) (im : SMap) (rm : Bool) (Tin : Text)
    (h1 : MapIdxOK sm) (h2 : MapIdxOK im) (honce : OnceInner n (smSourceEvs sm))
    (hTin : ∀ k c, Ev.source k n c ∈ smSourceEvs sm → (os.or c).getD [] = Tin) :
    ∀ t' mm, Ev.chunk t' mm ∈ (streamCombined t sm n os im rm ⟨false, false⟩).evs → ∀ y, mm.orig = some y → y.name = none := by
  intro t' mm hmem y hy
  obtain ⟨C, hev, hP, cN⟩ := streamSM_outer t sm false
  obtain ⟨m, st', S0, N0, k, c, _, _, _, h⟩ := comb_chunk_at_of_shape ⟨t, n, im, rm, false⟩ h2 os _ _ C Tin hev hP cN (streamSM_declOK t sm _ h1)
    honce hTin t' mm hmem
  -- neither stream announces a name, so both tables of names are empty, and a name a chunk carries is an entry of one of them
  have hON : st'.nameIndexValueMapping.length = 0 := by rw [h.names, streamSMLines_annN]; rfl
  have hIN : st'.innerNameIndexValueMapping.length = 0 := by rw [h.known.names, streamSMLines_annN]; rfl
  obtain ⟨_, _, _, sem⟩ := combOnChunk_ok _ st' S0 N0 _ h.inv t' m h.nameBound
  cases hyn : y.name with
  | none => rfl
  | some kk =>
    exfalso
    rcases sem with hp | ⟨seg, idx, _, _, _, _, hf⟩
    · exact Nat.not_lt_zero _ (hON ▸ (((hp _ mm h.emitted).2.2.2 y hy).2.2.2.2.2 kk hyn).2.2)
    · rcases ((hf _ mm h.emitted).2.2.2 y hy).2.2.2.2 kk hyn with ⟨_, _, _, r⟩ | ⟨_, _, r, _⟩
      · exact Nat.not_lt_zero _ (hIN ▸ r)
      · exact Nat.not_lt_zero _ (hON ▸ r)

end Rs
