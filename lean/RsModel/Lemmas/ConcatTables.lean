import RsModel.Lemmas.ConcatMappings
/-!
# ConcatSource: the index translation is the same in both modes

The translation tables evolve with the source / name events only (`Tb`, `tbFold` over `declsOf`: `concatEvs_tb_modes`,
`concatChild_decls`); for a child that announces before use (`DeclOK`) every chunk is translated as by the child's final tables
(`trMs_final_tables`, `trMs_look`).
-/
namespace Rs

/-- the part of the walker state the translation depends on -/
structure Tb where
  sm : Assoc
  nm : Assoc
  sim : List Nat
  nim : List Nat

def tbOf (st : CSt) : Tb := ⟨st.sourceMapping, st.nameMapping, st.sim, st.nim⟩

def tbStep (tb : Tb) : Ev → Tb × List Ev
  | .chunk _ _ => (tb, [])
  | .source i s c => let g := globalSource tb.sm s c; ({ tb with sm := g.1, sim := lmInsert 0 tb.sim i g.2.2 }, g.2.1)
  | .name i n => let g := globalName tb.nm n; ({ tb with nm := g.1, nim := lmInsert 0 tb.nim i g.2.2 }, g.2.1)

def tbFold (tb : Tb) : List Ev → Tb × List Ev
  | [] => (tb, [])
  | e :: es => let r := tbStep tb e; let r2 := tbFold r.1 es; (r2.1, r.2 ++ r2.2)

theorem concatEv_tb (final : Bool) (st : CSt) (e : Ev) :
    tbOf (concatEv final st e).1 = (tbStep (tbOf st) e).1 ∧ declsOf (concatEv final st e).2 = (tbStep (tbOf st) e).2 := by
  cases e with
  | chunk t m => exact ⟨by rw [concatEv_chunk]; rfl, declsOf_chunks _ (concatEv_chunk_isChunk final st t m)⟩
  | source i s c => rw [concatEv_source]; exact ⟨rfl, declsOf_noChunk _ (globalSource_anns _ _ _)⟩
  | name i n => rw [concatEv_name]; exact ⟨rfl, declsOf_noChunk _ (globalName_anns _ _)⟩

theorem tbStep_chunk (tb : Tb) (e : Ev) (h : e.isChunk = true) : tbStep tb e = (tb, []) := by
  cases e <;> simp_all [Ev.isChunk, tbStep]

theorem tbFold_decls (evs : List Ev) : ∀ (tb : Tb), tbFold tb evs = tbFold tb (declsOf evs) := by
  induction evs using evs_induction with
  | nil => intro tb; rfl
  | chunk t m es ih => intro tb; simp only [tbFold, tbStep, declsOf, List.nil_append]; exact ih tb
  | decl e es he ih => intro tb; rw [declsOf_cons_decl _ _ he]; simp only [tbFold, ih]

theorem concatEvs_tb (final : Bool) : ∀ (evs : List Ev) (st : CSt),
    tbOf (concatEvs final st evs).1 = (tbFold (tbOf st) evs).1 ∧ declsOf (concatEvs final st evs).2 = (tbFold (tbOf st) evs).2 := by
  intro evs
  induction evs with
  | nil => intro st; exact ⟨rfl, rfl⟩
  | cons e es ih =>
    intro st
    obtain ⟨a, b⟩ := concatEv_tb final st e
    obtain ⟨c, d⟩ := ih (concatEv final st e).1
    simp only [concatEvs, tbFold, declsOf_append]
    rw [c, d, a, b]
    exact ⟨rfl, rfl⟩

theorem concatEvs_tb_modes (evsF evsN : List Ev) (stF stN : CSt) (ht : tbOf stF = tbOf stN) (hd : declsOf evsF = declsOf evsN) :
    tbOf (concatEvs true stF evsF).1 = tbOf (concatEvs false stN evsN).1
    ∧ declsOf (concatEvs true stF evsF).2 = declsOf (concatEvs false stN evsN).2 := by
  obtain ⟨a, b⟩ := concatEvs_tb true evsF stF
  obtain ⟨c, d⟩ := concatEvs_tb false evsN stN
  rw [a, b, c, d, ht, tbFold_decls evsF, tbFold_decls evsN, hd]
  exact ⟨rfl, rfl⟩

theorem concatChild_state (final : Bool) (st : CSt) (c : SResult) :
    (concatChild final st c).1.lineOff = st.lineOff + (c.info.line - 1)
    ∧ (concatChild final st c).1.colOff = (if c.info.line > 1 then c.info.col else st.colOff + c.info.col)
    ∧ (concatChild final st c).1.needClose =
        ((if ((if hasChunk c.evs then false else st.needClose) && (c.info.line != 1 || c.info.col != 0)) = true then false
          else (if hasChunk c.evs then false else st.needClose))
         || (final && lastML 0 (trMs final (childStart st) c.evs) == c.info.line))
    ∧ tbOf (concatChild final st c).1 = tbOf (concatEvs final (childStart st) c.evs).1 := by
  obtain ⟨_, _, s3, s4, _⟩ := concatEvs_state final c.evs (childStart st)
  refine ⟨(concatChild_offs final st c).1, (concatChild_offs final st c).2, ?_, rfl⟩
  rw [concatChild_eq]
  simp only [CSt.childEnd]
  rw [s3, s4]
  rfl

theorem tb_child (stF stN : CSt) (h1 : stF.sourceMapping = stN.sourceMapping) (h2 : stF.nameMapping = stN.nameMapping) :
    tbOf (childStart stF) = tbOf (childStart stN) := by
  simp only [tbOf, childStart, h1, h2]

theorem concatChild_decls (cf cn : SResult) (stF stN : CSt) (h1 : stF.sourceMapping = stN.sourceMapping) (h2 : stF.nameMapping = stN.nameMapping)
    (hd : declsOf cf.evs = declsOf cn.evs) :
    declsOf (concatChild true stF cf).2 = declsOf (concatChild false stN cn).2
    ∧ (concatChild true stF cf).1.sourceMapping = (concatChild false stN cn).1.sourceMapping
    ∧ (concatChild true stF cf).1.nameMapping = (concatChild false stN cn).1.nameMapping := by
  have htb := concatEvs_tb_modes cf.evs cn.evs (childStart stF) (childStart stN) (tb_child stF stN h1 h2) hd
  obtain ⟨_, _, _, t4N⟩ := concatChild_state false stN cn
  obtain ⟨_, _, _, t4F⟩ := concatChild_state true stF cf
  refine ⟨?_, congrArg Tb.sm (t4F.trans (htb.1.trans t4N.symm)), congrArg Tb.nm (t4F.trans (htb.1.trans t4N.symm))⟩
  rw [concatChild_eq, concatChild_eq, declsOf_append, declsOf_append, declsOf_chunks _ (CSt.pending_isChunk _ _),
    declsOf_chunks _ (CSt.pending_isChunk _ _), List.append_nil, List.append_nil]
  exact htb.2

theorem getElem?_prefix {α} (a b : List α) (i : Nat) (h : i < a.length) : (a ++ b)[i]? = a[i]? := List.getElem?_append_left h

theorem trans_prefix (sim nim es en : List Nat) (orig : Option Orig)
    (h : ∀ o, orig = some o → IdxLt sim.length nim.length o) :
    trans (sim ++ es) (nim ++ en) orig = trans sim nim orig := by
  cases orig with
  | none => rfl
  | some o =>
    obtain ⟨h1, h2⟩ := h o rfl
    rw [trans_of_some, trans_of_some, List.getElem?_append_left h1]
    cases hn : o.name with
    | none => rfl
    | some k => simp only [Option.bind_some, List.getElem?_append_left (h2 k hn)]

theorem concatEv_decl_grow (final : Bool) (st : CSt) (e : Ev) (es : List Ev) (he : e.isChunk = false) {ns nn : Nat}
    (hd : DeclOK ns nn (e :: es)) (h1 : st.sim.length = ns) (h2 : st.nim.length = nn) :
    ∃ a b, (concatEv final st e).1.sim = st.sim ++ a ∧ (concatEv final st e).1.nim = st.nim ++ b
      ∧ DeclOK (ns + a.length) (nn + b.length) es ∧ cntS (e :: es) = a.length + cntS es := by
  cases e with
  | chunk => cases he
  | source i s c =>
    refine ⟨[(globalSource st.sourceMapping s c).2.2], [], ?_, (List.append_nil _).symm, hd.2, Nat.add_comm _ _⟩
    simp only [concatEv]; rw [hd.1, ← h1]; exact lmInsert_at_length _ _ _
  | name i n =>
    refine ⟨[], [(globalName st.nameMapping n).2.2], (List.append_nil _).symm, ?_, hd.2, (Nat.zero_add _).symm⟩
    simp only [concatEv]; rw [hd.1, ← h2]; exact lmInsert_at_length _ _ _

theorem trMs_final_tables (final : Bool) (evs : List Ev) : ∀ (st : CSt) (ns nn : Nat), DeclOK ns nn evs → st.sim.length = ns → st.nim.length = nn →
    (∃ es en, (concatEvs final st evs).1.sim = st.sim ++ es ∧ (concatEvs final st evs).1.nim = st.nim ++ en ∧ es.length = cntS evs)
    ∧ trMs final st evs = (chunkMs evs).map fun m => ⟨m.gl, m.gc, trans (concatEvs final st evs).1.sim (concatEvs final st evs).1.nim m.orig⟩ := by
  induction evs using evs_induction with
  | nil => intro st ns nn _ _ _; exact ⟨⟨[], [], (List.append_nil _).symm, (List.append_nil _).symm, rfl⟩, rfl⟩
  | chunk t m es ih =>
    intro st ns nn hd h1 h2
    have hst := concatEv_chunk final st t m
    have hs1 : (concatEv final st (.chunk t m)).1.sim = st.sim := by rw [hst]
    have hs2 : (concatEv final st (.chunk t m)).1.nim = st.nim := by rw [hst]
    obtain ⟨⟨es', en', e1, e2, hl⟩, i2⟩ := ih (concatEv final st (.chunk t m)).1 ns nn hd.2 (hs1 ▸ h1) (hs2 ▸ h2)
    rw [hs1] at e1; rw [hs2] at e2
    refine ⟨⟨es', en', e1, e2, hl⟩, ?_⟩
    simp only [concatEvs, trMs, chunkMs, List.map_cons]
    rw [i2, e1, e2, trans_prefix st.sim st.nim es' en' m.orig (by rw [h1, h2]; exact hd.1)]
  | decl e es he ih =>
    intro st ns nn hd h1 h2
    obtain ⟨a, b, ha, hb, hd', hc⟩ := concatEv_decl_grow final st e es he hd h1 h2
    obtain ⟨⟨es', en', e1, e2, hl⟩, i2⟩ := ih (concatEv final st e).1 _ _ hd' (by rw [ha, List.length_append, h1]) (by rw [hb, List.length_append, h2])
    rw [ha, List.append_assoc] at e1; rw [hb, List.append_assoc] at e2
    refine ⟨⟨a ++ es', b ++ en', e1, e2, by rw [List.length_append, hl, hc]⟩, ?_⟩
    rw [trMs_cons_decl _ _ _ _ he, chunkMs_cons_decl _ _ he]
    exact i2

theorem join_map_trans (sim nim : List Nat) (x : Option (Option Orig)) : (x.map (trans sim nim)).join = trans sim nim x.join := by
  cases x with
  | none => rfl
  | some y => rfl

theorem trMs_lookup (final : Bool) (evs : List Ev) (st : CSt) (hd : DeclOK 0 0 evs) (l c : Nat) :
    lookupGo l c none (trMs final (childStart st) evs)
      = (lookupGo l c none (chunkMs evs)).map (trans (concatEvs final (childStart st) evs).1.sim (concatEvs final (childStart st) evs).1.nim) := by
  rw [(trMs_final_tables final evs (childStart st) 0 0 hd rfl rfl).2]
  exact lookupGo_map l c _ (chunkMs evs) none

theorem trMs_look (final : Bool) (evs : List Ev) (st : CSt) (hd : DeclOK 0 0 evs) (l c : Nat) :
    (lookupGo l c none (trMs final (childStart st) evs)).join
      = trans (concatEvs final (childStart st) evs).1.sim (concatEvs final (childStart st) evs).1.nim (lookupCols (chunkMs evs) l c) := by
  rw [trMs_lookup final evs st hd, join_map_trans]
  rfl

end Rs
