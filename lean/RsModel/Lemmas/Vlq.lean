import RsModel.Model.Codec
/-! # VLQ digit lemmas and table facts (over the *extracted* tables) -/
namespace Rs

/-- decode digits: accumulate `value |= (d & 31) << pos` -/
def undigits : List Nat → Nat
  | [] => 0
  | d :: ds => d % 32 + 32 * undigits ds

theorem undigits_vlqDigits (n : Nat) : undigits (vlqDigits n) = n := by
  induction n using Nat.strongRecOn with
  | _ n ih =>
    unfold vlqDigits
    split
    · simp [undigits]; omega
    · simp only [undigits]
      rw [ih (n / 32) (by omega)]
      omega

theorem vlqDigits_shape (n : Nat) :
    ∃ init last, vlqDigits n = init ++ [last] ∧ last < 32 ∧ ∀ d ∈ init, 32 ≤ d ∧ d < 64 := by
  induction n using Nat.strongRecOn with
  | _ n ih =>
    unfold vlqDigits
    split
    · exact ⟨[], n, by simp, by assumption, by simp⟩
    · obtain ⟨init, last, he, hl, hi⟩ := ih (n / 32) (by omega)
      refine ⟨(n % 32 + 32) :: init, last, by simp [he], hl, ?_⟩
      intro d hd
      simp at hd
      rcases hd with rfl | hd
      · omega
      · exact hi d hd

theorem vlqDigits_lt (n : Nat) : ∀ d ∈ vlqDigits n, d < 64 := by
  obtain ⟨init, last, he, hl, hi⟩ := vlqDigits_shape n
  intro d hd
  rw [he, List.mem_append, List.mem_singleton] at hd
  rcases hd with hd | rfl
  · exact (hi d hd).2
  · omega

theorem b64Chars_pass : ∀ p ∈ Generated.b64Chars.zipIdx, (b64Val p.1).toNat = p.2 ∧ p.1 ≠ COMMA ∧ p.1 ≠ SEMI := by
  decide +kernel

/-- walking the list once instead of indexing it at each of the 256 bytes is what keeps this cheap to check -/
theorem b64Table_pass : ∀ p ∈ Generated.b64Table.zipIdx,
    p.1 = Generated.ERR ∨ (UInt8.ofNat p.2 = COMMA ∧ p.1 = Generated.COM) ∨ (UInt8.ofNat p.2 = SEMI ∧ p.1 = Generated.SEM)
      ∨ (p.1.toNat < 64 ∧ b64At p.1.toNat = UInt8.ofNat p.2) := by
  decide +kernel

theorem digit_masks : ∀ i, i < 64 → UInt8.ofNat i ≠ Generated.ERR ∧ (UInt8.ofNat i &&& Generated.COM) = 0
    ∧ ((UInt8.ofNat i &&& Generated.CONTINUATION_BIT) = 0 ↔ i < 32) ∧ (UInt8.ofNat i &&& Generated.DATA_MASK).toNat = i % 32 := by
  decide +kernel

theorem getD_mem_zipIdx {α} (l : List α) (i : Nat) (d : α) (h : i < l.length) : (l.getD i d, i) ∈ l.zipIdx := by
  rw [List.mem_zipIdx_iff_getElem?, List.getD_eq_getElem?_getD, List.getElem?_eq_getElem h]; rfl

theorem b64At_mem {d : Nat} (h : d < 64) : b64At d ∈ Generated.b64Chars := by
  rw [b64At, List.getD_eq_getElem?_getD, List.getElem?_eq_getElem (h : d < Generated.b64Chars.length)]
  exact List.getElem_mem _

/-- the decode table inverts the alphabet: `B64[B64_CHARS[i]] = i` -/
theorem b64Val_b64At (i : Nat) (h : i < 64) : (b64Val (b64At i)).toNat = i :=
  (b64Chars_pass _ (getD_mem_zipIdx Generated.b64Chars i 0 h)).1

theorem b64Val_b64At_class (i : Nat) (h : i < 64) :
    b64Val (b64At i) ≠ Generated.ERR ∧ (b64Val (b64At i) &&& Generated.COM) = 0
    ∧ ((b64Val (b64At i) &&& Generated.CONTINUATION_BIT) = 0 ↔ i < 32)
    ∧ (b64Val (b64At i) &&& Generated.DATA_MASK).toNat = i % 32 := by
  rw [← UInt8.ofNat_toNat (x := b64Val (b64At i)), b64Val_b64At i h]
  exact digit_masks i h

theorem b64Val_total : ∀ c : UInt8, b64Val c = Generated.ERR ∨ (c = COMMA ∧ b64Val c = Generated.COM)
    ∨ (c = SEMI ∧ b64Val c = Generated.SEM) ∨ ((b64Val c).toNat < 64 ∧ b64At (b64Val c).toNat = c) := by
  intro c
  have := b64Table_pass _ (getD_mem_zipIdx Generated.b64Table c.toNat Generated.ERR
    (Nat.lt_of_lt_of_eq c.toNat_lt (by decide +kernel)))
  rwa [UInt8.ofNat_toNat] at this

theorem b64At_ne_sep : ∀ i, i < 64 → b64At i ≠ COMMA ∧ b64At i ≠ SEMI :=
  fun i h => (b64Chars_pass _ (getD_mem_zipIdx Generated.b64Chars i 0 h)).2

theorem b64Val_comma : b64Val COMMA = Generated.COM := by decide +kernel
theorem b64Val_semi : b64Val SEMI = Generated.SEM := by decide +kernel
theorem sem_ne_err : Generated.SEM ≠ Generated.ERR ∧ Generated.COM ≠ Generated.ERR
    ∧ (Generated.SEM &&& Generated.COM) ≠ 0 ∧ (Generated.COM &&& Generated.COM) ≠ 0 ∧ Generated.COM ≠ Generated.SEM := by
  decide +kernel

theorem b64At_zero : b64At 0 = CH_A := by decide +kernel
theorem decInit_eq : decInitSt = {} := by decide +kernel

end Rs
