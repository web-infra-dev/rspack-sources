import RsModel.Lemmas.Codec
import RsModel.Lemmas.DeclMap
import RsModel.Lemmas.ModeTree
import RsModel.Lemmas.StrictOrder
import RsModel.Lemmas.WarmMap
/-!
# C11 on warm caches: the second `map()` of a tree with CachedSource nodes is strictly ordered too

The map a CachedSource stored from its subtree's text-less stream is itself strictly sorted (`getMap_strict` on the subtree), so the
replay tree the second call streams (`Src.warm`, in `WarmTree`) is again in the domain of the strict-order theorem.
-/
namespace Rs

theorem getMap_decode (s : Src) (h : s.ModeHypC) (hn : s.ids.Nodup) (σ : Store) (hc : Cold σ s.ids) (final : Bool)
    (hsmall : ∀ m ∈ chunkMs (s.stream ⟨true, true⟩ σ).1.evs, m.small) (sm : SMap) (hm : (getMap s ⟨true, final⟩ σ).1 = some sm) :
    decode sm.mappings = keptFrom {} (chunkMs (s.stream ⟨true, true⟩ σ).1.evs) := by
  simp only [getMap] at hm
  rw [mapOfEvs_mappings _ sm hm, decode_encode_sorted _ hsmall (Src.m3c s h hn σ σ hc hc).sorted]

/-- segments of `map()` stand at strictly increasing characters of `source()` (columns = true, cold caches) -/
theorem getMap_strict (s : Src) (h : s.ModeHypC) (hs : s.StrictMaps) (hn : s.ids.Nodup) (σ : Store) (hc : Cold σ s.ids) (final : Bool)
    (hsmall : ∀ m ∈ chunkMs (s.stream ⟨true, true⟩ σ).1.evs, m.small) (sm : SMap) (hm : (getMap s ⟨true, final⟩ σ).1 = some sm) :
    (decode sm.mappings).Pairwise mlt
    ∧ ∀ m ∈ decode sm.mappings, ∃ k, k < s.src.length ∧ adv startPos (s.src.take k) = ⟨m.gl, m.gc⟩ := by
  rw [getMap_decode s h hn σ hc final hsmall sm hm]
  have hinc : IncP s.src 0 s.src.length ((keptFrom {} (chunkMs (s.stream ⟨true, true⟩ σ).1.evs)).map fun m => (m.gl, m.gc)) :=
    incP_sublist _ _ _ ((keptFrom_sublist _ {}).map _) _ _ (Src.incC s h hs hn σ hc)
  constructor
  · have := incP_pairwise _ _ _ _ (Nat.le_refl _) hinc
    rw [List.pairwise_map] at this
    exact this
  · intro m hmem
    obtain ⟨k, _, hk, e⟩ := incP_lower _ _ _ _ hinc (m.gl, m.gc) (List.mem_map.2 ⟨m, hmem, rfl⟩)
    exact ⟨k, hk, e⟩

mutual
theorem Src.warm_strict : ∀ (s : Src), s.ModeHypC → s.StrictMaps → s.SmallF → (s.warm ⟨true, true⟩).StrictMaps
  | .raw .. | .rawStr .. | .rawBuf .. | .orig .. | .replace .. => fun _ _ _ => trivial
  | .sms .. => fun _ h _ => h
  | .concat cs => SrcList.warmL_strict cs
  | .cached id inner => fun h hs hf => by
    rw [Src.warm]
    cases hm : mapOfEvs true (inner.strip.stream ⟨true, true⟩ []).1.evs with
    | none => trivial
    | some sm =>
      -- (`hm` as it stands is accepted too, but only after the unifier has unfolded `mapOfEvs` on its side, which is slow)
      exact (getMap_strict inner.strip (Src.strip_modeHypC inner h.1) (Src.strip_strict inner hs) (Src.nc_nodup _ (Src.strip_nc inner))
        [] (cold_nil _) true hf sm (by simp only [getMap]; exact hm)).1
theorem SrcList.warmL_strict : ∀ (l : SrcList), l.ModeHypsC → l.StrictMapsL → l.SmallFs → (l.warmL ⟨true, true⟩).StrictMapsL
  | .nil => fun _ _ _ => trivial
  | .cons s r => fun h hs hf => ⟨Src.warm_strict s h.1 hs.1 hf.1, SrcList.warmL_strict r h.2 hs.2 hf.2⟩
end

theorem getMap_twice_strict (s : Src) (σ : Store) (h : s.ModeHypC) (hst : s.StrictMaps) (hk : s.CachedOK) (hs : s.SmallF) (hn : s.ids.Nodup)
    (hc : Cold σ s.ids) (f1 f2 : Bool)
    (hsmall2 : ∀ m ∈ chunkMs ((s.warm ⟨true, true⟩).stream ⟨true, true⟩ []).1.evs, m.small)
    (sm2 : SMap) (h2 : (getMap s ⟨true, f2⟩ (getMap s ⟨true, f1⟩ σ).2).1 = some sm2) :
    (decode sm2.mappings).Pairwise mlt
    ∧ ∀ m ∈ decode sm2.mappings, ∃ k, k < s.src.length ∧ adv startPos (s.src.take k) = ⟨m.gl, m.gc⟩ := by
  rw [getMap_second s σ hk hn hc f1 f2] at h2
  rw [← Src.warm_src s ⟨true, true⟩]
  exact getMap_strict (s.warm ⟨true, true⟩) (Src.warmF_NA s h hk hs).2 (Src.warm_strict s h hst hs)
    (Src.nc_nodup _ (Src.warm_nc s _ hk)) [] (cold_nil _) f2 hsmall2 sm2 h2

end Rs
