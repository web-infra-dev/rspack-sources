import RsModel.Lemmas.ModeTree
import RsModel.Lemmas.MapTables
/-!
# C03 at name level: file *names* and *names*, not indices

The indices of the map returned by `get_map` resolve, through the map's own `sources` / `names` tables, to the same file name and
name that the chunk of the normal stream resolves to through the announcements of that stream.

Defined here: `NLoc` (file name, line, column, name), `resolveMF` (an `Orig` read through a map's tables) and `NA` (the bytes of a
stream resolved through its own announcements).  `NA_via_tables` turns a statement on indices into one on names; `M3.map_NA` is
`M3.map_attr` at name level, and `getMap_names` is its case `get_map` on a tree of `ModeHypC` with cold caches.
-/
namespace Rs

structure NLoc where
  file : Option Text
  line : Nat
  col : Nat
  name : Option (Option Text)
deriving DecidableEq

def RLoc.toN (r : RLoc) : NLoc := ⟨r.file.map (·.1), r.line, r.col, r.name⟩

/-- what a consumer of the SourceMap resolves an original location to (names only) -/
def resolveMF (sm : SMap) (o : Orig) : NLoc := ⟨sm.sources[o.src]?, o.line, o.col, o.name.map fun k => sm.names[k]?⟩

/-- what a consumer of the stream resolves every byte to, through the stream's own announcements -/
def NA (evs : List Ev) : List (Option NLoc) := (attrN emptyS emptyN evs).map (Option.map RLoc.toN)

theorem upd_below {α} (T : Nat → Option α) (v : Nat → α) (s n i : Nat) :
    (if s + 1 ≤ i ∧ i < s + 1 + n then some (v i) else upd T s (v s) i) = if s ≤ i ∧ i < s + (n + 1) then some (v i) else T i := by
  unfold upd
  by_cases h : i = s
  · rw [if_neg (by omega), if_pos h, if_pos (by omega), h]
  · rw [if_neg h]
    by_cases h1 : s + 1 ≤ i ∧ i < s + 1 + n
    · rw [if_pos h1, if_pos (by omega)]
    · rw [if_neg h1, if_neg (by omega)]

theorem tblS_sourceEvs (f : Nat → Text) (g : Nat → Option Text) : ∀ (n s : Nat) (S : SrcTbl) (i : Nat),
    tblS S ((List.range' s n).map fun k => Ev.source k (f k) (g k)) i = if s ≤ i ∧ i < s + n then some (f i, g i) else S i
  | 0, s, S, i => (if_neg (by omega)).symm
  | n + 1, s, S, i => by
    simp only [List.range'_succ, List.map_cons, tblS]
    rw [tblS_sourceEvs f g n (s + 1) _ i]
    exact upd_below S (fun k => (f k, g k)) s n i

theorem tblN_nameEvs (f : Nat → Text) : ∀ (n s : Nat) (N : NameTbl) (i : Nat),
    tblN N ((List.range' s n).map fun k => Ev.name k (f k)) i = if s ≤ i ∧ i < s + n then some (f i) else N i
  | 0, s, N, i => (if_neg (by omega)).symm
  | n + 1, s, N, i => by
    simp only [List.range'_succ, List.map_cons, tblN]
    rw [tblN_nameEvs f n (s + 1) _ i]
    exact upd_below N f s n i

theorem tblS_noSource : ∀ (evs : List Ev) (S : SrcTbl), cntS evs = 0 → tblS S evs = S := by
  intro evs
  induction evs with
  | nil => intro S _; rfl
  | cons e es ih =>
    intro S h
    cases e with
    | chunk t m => simp only [cntS] at h; simp only [tblS]; exact ih S h
    | source i s c => simp [cntS] at h
    | name i n => simp only [cntS] at h; simp only [tblS]; exact ih S h

theorem tblN_noName : ∀ (evs : List Ev) (N : NameTbl), cntN evs = 0 → tblN N evs = N := by
  intro evs
  induction evs with
  | nil => intro N _; rfl
  | cons e es ih =>
    intro N h
    cases e with
    | chunk t m => simp only [cntN] at h; simp only [tblN]; exact ih N h
    | source i s c => simp only [cntN] at h; simp only [tblN]; exact ih N h
    | name i n => simp [cntN] at h

/-- A map whose `sources` / `names` are the tables accumulated from a stream's announcements resolves every chunk of that stream to
the names the stream itself announces: name-level statements about `map()` and about replays reduce to index-level ones. -/
theorem NA_via_tables (evs : List Ev) (hd : DeclOK 0 0 evs) (sm : SMap)
    (hs : sm.sources = (evs.foldl mapAccEv {}).sources) (hn : sm.names = (evs.foldl mapAccEv {}).names) :
    NA evs = (attrOf evs).map (Option.map (resolveMF sm)) := by
  obtain ⟨_, _, r4, r5⟩ := mapAcc_tblRelF_empty evs hd
  unfold NA
  rw [attrN_end_tables _ 0 0 emptyS emptyN hd, List.map_map, Option.map_comp_map]
  refine attrOf_map_congr evs hd _ _ fun o ho => ?_
  simp only [Function.comp, resolveMF, resolveO, RLoc.toN, NLoc.mk.injEq, true_and]
  refine ⟨by rw [r4 o.src ho.1, hs], ?_⟩
  cases hn' : o.name with
  | none => rfl
  | some k => simp only [Option.map_some]; rw [r5 k (ho.2 k hn'), hn]

/-- **the map built from a stream that stands for `N` resolves like `N`, names included**: `M3.map_attr` read through the map's tables,
which are `N`'s announcements (`M3.decls`) -/
theorem M3.map_NA {F N : SResult} {T : Text} (m : M3 F N T) (hp : PosOK N) (hT : ChunksTok N.evs) (hTL : evsTL N.evs = false)
    (hx : evsText N.evs = T) (hd : DeclOK 0 0 N.evs) (hsmall : ∀ m ∈ chunkMs F.evs, m.small) (sm : SMap)
    (hm : mapOfEvs true F.evs = some sm) : (attrFrom (decode sm.mappings) startPos T).map (Option.map (resolveMF sm)) = NA N.evs := by
  obtain ⟨t1, _, t2⟩ := mapOfEvs_tablesOf m.decls hm
  rw [(m.map_attr hp hT hTL hx hsmall).1 sm hm]
  exact (NA_via_tables _ hd sm t1 t2).symm

/-- `c03_names` (Props/C03.lean) says what this claims; here the proof: `M3.map_NA` at `Src.m3c` -/
theorem getMap_names (s : Src) (h : s.ModeHypC) (hn : s.ids.Nodup) (σF σN : Store) (hcF : Cold σF s.ids) (hcN : Cold σN s.ids) (final : Bool)
    (hsmall : ∀ m ∈ chunkMs (s.stream ⟨true, true⟩ σF).1.evs, m.small) (sm : SMap) (hm : (getMap s ⟨true, final⟩ σF).1 = some sm) :
    (attrFrom (decode sm.mappings) startPos s.src).map (Option.map (resolveMF sm))
      = (attrN emptyS emptyN (s.stream ⟨true, false⟩ σN).1.evs).map (Option.map RLoc.toN) := by
  have b := Src.base_factsC s h hn σF σN hcF hcN
  simp only [getMap] at hm
  exact (Src.m3c s h hn σF σN hcF hcN).map_NA b.pos b.tok b.tl b.text b.declN hsmall sm hm

end Rs
