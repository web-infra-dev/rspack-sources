import RsModel.Lemmas.ProvOrig
import RsModel.Lemmas.MapTables
import RsModel.Lemmas.ModeTree
/-!
# C04 for trees of OriginalSource and raw leaves under ConcatSource (columns = true)

`Src.OrigTree` is the domain; it lies inside the domains of C03 and C11 and all its announcements carry content.
`prov s`: for every byte of `source()`, the file it was copied from, that file's text and the byte's offset in it — computed from
the tree alone.  `GoodN r p`: the resolved attribution `r` is right for a byte of provenance `p`.  `Src.prov_stream`: the stream
attributes every byte rightly (the leaf theorem of ProvOrig, composed by ConcatSource as in C06).
-/
namespace Rs

mutual
def Src.OrigTree : Src → Prop
  | .raw _ _ _ => True
  | .rawStr _ => True
  | .rawBuf _ _ => True
  | .orig _ _ => True
  | .concat cs => cs.OrigTrees
  | _ => False
def SrcList.OrigTrees : SrcList → Prop
  | .nil => True
  | .cons s r => s.OrigTree ∧ r.OrigTrees
end

mutual
theorem Src.origTree_mode : ∀ (s : Src), s.OrigTree → s.ModeHyp
  | .raw .. | .rawStr .. | .rawBuf .. | .orig .. => fun _ => trivial
  | .concat cs => SrcList.origTrees_mode cs
  | .sms .. | .replace .. | .cached .. => fun h => h.elim
theorem SrcList.origTrees_mode : ∀ (l : SrcList), l.OrigTrees → l.ModeHyps
  | .nil => fun _ => trivial
  | .cons s r => fun h => ⟨Src.origTree_mode s h.1, SrcList.origTrees_mode r h.2⟩
end

theorem Src.origTree_nc : ∀ (s : Src), s.OrigTree → s.NoCached :=
  fun s h => (Src.modeHyp_hypC s (Src.origTree_mode s h)).1
theorem SrcList.origTrees_nc : ∀ (l : SrcList), l.OrigTrees → l.NoCachedL :=
  fun l h => (SrcList.modeHyps_hypsC l (SrcList.origTrees_mode l h)).1

theorem Src.OrigTree.hereditary : Src.Hereditary Src.OrigTree := ⟨id, False.elim, False.elim⟩

theorem Src.origTree_allContent : ∀ (s : Src) (o : Opts) (σ : Store), s.OrigTree → AllContent (s.stream o σ).1.evs :=
  Src.stream_induct Src.OrigTree.hereditary (Src.allContent_facts (fun _ _ _ _ _ _ => id) fun _ _ => id)

theorem SrcList.origTrees_allContent : ∀ (l : SrcList) (o : Opts) (σ : Store), l.OrigTrees → ∀ c ∈ (l.streams o σ).1, AllContent c.evs :=
  SrcList.streams_induct Src.OrigTree.hereditary (Src.allContent_facts (fun _ _ _ _ _ _ => id) fun _ _ => id)

/-- file name, file text, byte offset in it; `none` = raw text -/
abbrev Prov := Option (Text × Text × Nat)

mutual
def Src.prov : Src → List Prov
  | .orig t name => (List.range t.length).map fun k => some (name, t, k)
  | .concat cs => cs.provs
  | .raw _ _ lossy => List.replicate lossy.length none
  | .rawStr t => List.replicate t.length none
  | .rawBuf _ lossy => List.replicate lossy.length none
  | _ => []
def SrcList.provs : SrcList → List Prov
  | .nil => []
  | .cons s r => s.prov ++ r.provs
end

/-- the attribution `r` of a byte is right for its provenance: raw text is unmapped; a byte copied from offset `k` of file
`name` with text `t` resolves to that file with that content, to the byte's own line, and to the column at which the potential
token containing the byte starts (so never after the byte's own column, and exactly its column when it starts a token), without
name — or it is the line break of an empty line, which is unmapped -/
def GoodN (r : Option RLoc) : Prov → Prop
  | none => r = none
  | some (name, t, k) =>
    (r = none ∧ t[k]? = some NL ∧ (adv startPos (t.take k)).col = 0)
    ∨ ∃ k' len, k' ≤ k ∧ k < k' + len ∧ (k', len) ∈ tokOffs 0 (tokens t) ∧ k - k' ≤ (adv startPos (t.take k)).col
        ∧ r = some ⟨some (name, some t), (adv startPos (t.take k)).line, (adv startPos (t.take k)).col - (k - k'), none⟩

def AllGood : List (Option RLoc) → List Prov → Prop
  | [], [] => True
  | r :: rs, p :: ps => GoodN r p ∧ AllGood rs ps
  | _, _ => False

theorem allGood_append : ∀ (a : List (Option RLoc)) (b : List Prov) (c : List (Option RLoc)) (d : List Prov),
    AllGood a b → AllGood c d → AllGood (a ++ c) (b ++ d) := by
  intro a
  induction a with
  | nil => intro b c d h1 h2; cases b with | nil => simpa using h2 | cons _ _ => simp [AllGood] at h1
  | cons x xs ih =>
    intro b c d h1 h2
    cases b with
    | nil => simp [AllGood] at h1
    | cons y ys => exact ⟨h1.1, ih ys c d h1.2 h2⟩

theorem allGood_of_index : ∀ (a : List (Option RLoc)) (b : List Prov), a.length = b.length →
    (∀ (j : Nat) r p, a[j]? = some r → b[j]? = some p → GoodN r p) → AllGood a b := by
  intro a
  induction a with
  | nil => intro b hl _; cases b with | nil => trivial | cons _ _ => simp at hl
  | cons x xs ih =>
    intro b hl h
    cases b with
    | nil => simp at hl
    | cons y ys =>
      refine ⟨h 0 x y rfl rfl, ih ys (by simpa using hl) (fun j r p hr hp => h (j + 1) r p (by simpa using hr) (by simpa using hp))⟩

theorem allGood_index : ∀ (a : List (Option RLoc)) (b : List Prov), AllGood a b →
    a.length = b.length ∧ ∀ (j : Nat) r p, a[j]? = some r → b[j]? = some p → GoodN r p := by
  intro a
  induction a with
  | nil => intro b h; cases b with | nil => exact ⟨rfl, fun j r p hr => by simp at hr⟩ | cons _ _ => simp [AllGood] at h
  | cons x xs ih =>
    intro b h
    cases b with
    | nil => simp [AllGood] at h
    | cons y ys =>
      obtain ⟨i1, i2⟩ := ih ys h.2
      refine ⟨by simp [i1], fun j r p hr hp => ?_⟩
      cases j with
      | zero => simp at hr hp; subst hr hp; exact h.1
      | succ j => exact i2 j r p (by simpa using hr) (by simpa using hp)

theorem raw_attrN (t : Text) : attrN emptyS emptyN (streamRaw t ⟨true, false⟩).evs = List.replicate t.length none := by
  rw [attrN_chunkonly emptyS emptyN _ (streamRaw_origs (fun _ => True) t _)]
  simp only [streamRaw, Bool.false_eq_true, if_false, rawChunks_eq, attrOf_lineEvs_none, splitLines_join, List.map_replicate, Option.map_none]

theorem allGood_none (n : Nat) : AllGood (List.replicate n none) (List.replicate n none) := by
  induction n with
  | zero => trivial
  | succ n ih => exact ⟨rfl, ih⟩

theorem orig_good (t name : Text) : AllGood (attrN emptyS emptyN (streamOriginal t name ⟨true, false⟩).evs) ((List.range t.length).map fun k => some (name, t, k)) := by
  have hA : attrN emptyS emptyN (streamOriginal t name ⟨true, false⟩).evs
      = (attrOf (streamOriginal t name ⟨true, false⟩).evs).map (Option.map (resolveO (upd emptyS 0 (name, some t)) emptyN)) := by
    simp only [streamOriginal, if_true, attrN, attrOf]
    exact attrN_chunkonly _ _ _ (origTokChunks_origs false _ _ _)
  rw [hA]
  have hlen : (attrOf (streamOriginal t name ⟨true, false⟩).evs).length = t.length := by
    rw [attrOf_length, streamOriginal_text]
  apply allGood_of_index
  · simp [hlen]
  · intro j r p hr hp
    simp only [List.getElem?_map, Option.map_eq_some_iff] at hr hp
    obtain ⟨a, ha, rfl⟩ := hr
    obtain ⟨k, hk, rfl⟩ := hp
    have hjlt : j < t.length := by
      rcases Nat.lt_or_ge j t.length with h | h
      · exact h
      · simp [h] at hk
    have hkj : k = j := by simp [hjlt] at hk; exact hk.symm
    subst hkj
    rcases original_attr t name k hjlt with ⟨h1, h2, h3⟩ | ⟨k', len, h1, h1', h2, h3, h4⟩
    · rw [ha] at h1; cases h1
      exact Or.inl ⟨rfl, h2, h3⟩
    · rw [ha] at h4; cases h4
      refine Or.inr ⟨k', len, h1, h1', h2, h3, ?_⟩
      simp [resolveO, upd]

mutual
theorem Src.prov_stream (cons : Text → Option Text) : ∀ (s : Src), s.OrigTree → Src.WD cons true s → ∀ σ, AllGood (s.attr true σ) s.prov
  | .raw _ _ t | .rawStr t | .rawBuf _ t => fun _ _ _ => by rw [Src.attr, Src.stream, raw_attrN]; exact allGood_none _
  | .orig t name => fun _ _ _ => orig_good t name
  | .concat cs => fun h hw σ => by
    rw [Src.attr_concat cons true cs hw σ]
    exact SrcList.prov_streams cons cs h hw σ
  | .sms .. | .replace .. | .cached .. => fun h => h.elim
theorem SrcList.prov_streams (cons : Text → Option Text) : ∀ (l : SrcList), l.OrigTrees → SrcList.WD cons true l → ∀ σ,
    AllGood ((l.streams ⟨true, false⟩ σ).1.map fun r => attrN emptyS emptyN r.evs).flatten l.provs
  | .nil => fun _ _ _ => trivial
  | .cons s r => fun h hw σ => by
    simp only [SrcList.streams, SrcList.provs, List.map_cons, List.flatten_cons]
    rw [(Src.stream_nc s ⟨true, false⟩ σ (Src.origTree_nc s h.1)).1]
    exact allGood_append _ _ _ _ (Src.prov_stream cons s h.1 hw.1 σ) (SrcList.prov_streams cons r h.2 hw.2 σ)
end

/-- **C03 at the level of the map's own tables**: for every tree of the domain of C03 whose announcements all carry content, reading
every position of `source()` off the map `get_map` returns — the segment at or before it, then the map's `sources` / `sourcesContent` /
`names` — gives what the chunk covering the position says through the announcements of the normal stream.
Chain: C12 ∘ C03-T3 ∘ C02 (`getMap_attr`) ∘ the map's tables are the stream's end tables (`attrN_mapTables`). -/
theorem getMap_resolveM (s : Src) (h : s.ModeHyp) (hAC : AllContent (s.stream ⟨true, false⟩ []).1.evs) (final : Bool)
    (hsmall : ∀ m ∈ chunkMs (s.stream ⟨true, true⟩ []).1.evs, m.small) (sm : SMap) (hm : (getMap s ⟨true, final⟩ []).1 = some sm) :
    (attrFrom (decode sm.mappings) startPos s.src).map (Option.map (resolveM sm)) = s.attr true [] := by
  rw [(getMap_attr s h final hsmall).1 sm hm]
  exact (attrN_mapTables true _ _ (Src.m3 s h).decls (Src.base_facts s h).declN hAC sm hm).symm

end Rs
