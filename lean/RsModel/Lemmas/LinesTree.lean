import RsModel.Lemmas.LinesLeaves
import RsModel.Lemmas.CodecLines
import RsModel.Lemmas.CombModesL
import RsModel.Lemmas.ReplayLines
/-!
# columns = false: `map()` attributes every generated line as the stream does — whole trees, cold caches

`Src.ModeHypL` is the domain (all node kinds).  `M3L F N` is what the tree induction carries for the text-less stream `F` and the
normal stream `N`; `M3L` here and `ChildOKL` (LinesConcat) are the columns = false twins of `M3` (ModeTree) and `ChildOK`
(ModeConcat): they compare per generated line, not per character.  `Src.m3l` proves `M3L` for every tree of the domain on cold
caches, and `getMap_lines` reads it through the lines-only codec.
-/
namespace Rs

mutual
def Src.ModeHypL : Src → Prop
  | .sms t _ map _ inner _ => (∀ im, inner = some im → MapIdxOK im) ∧ IsAscii t ∧ t.length ≤ USIZE_MAX ∧ sortedFrom 1 0 (decode map.mappings) ∧ MapIdxOK map
  | .concat cs => cs.ModeHypsL
  | .replace inner rs => inner.ModeHypL ∧ (∀ r ∈ rs, r.start ≤ r.stop) ∧ (replaceSource inner.src rs).length + 1 < 2 ^ 32
  | .cached _ inner => inner.ModeHypL ∧ IsAscii inner.src ∧ inner.src.length ≤ USIZE_MAX
  | _ => True
def SrcList.ModeHypsL : SrcList → Prop
  | .nil => True
  | .cons s r => s.ModeHypL ∧ r.ModeHypsL
end

mutual
theorem Src.modeHypL_base : ∀ (s : Src), s.ModeHypL → s.WF ∧ s.PosHyp false ∧ s.IdxHyp
  | .raw .. | .rawStr .. | .rawBuf .. | .orig .. => fun _ => ⟨trivial, trivial, trivial⟩
  | .sms t _ _ _ inner _ => fun h => by
    obtain ⟨hinner, ha, hl, _, hidx⟩ := h
    refine ⟨textOK_of_ascii t ha hl, ⟨ha, hl, nofun⟩, ?_⟩
    cases inner with
    | none => exact hidx
    | some im => exact ⟨hidx, hinner im rfl⟩
  | .concat cs => SrcList.modeHypsL_base cs
  | .replace inner _ => fun h => by
    obtain ⟨b, c, d⟩ := Src.modeHypL_base inner h.1
    exact ⟨⟨b, h.2.1⟩, ⟨c, h.2.2⟩, d⟩
  | .cached _ inner => fun h => by
    obtain ⟨b, c, d⟩ := Src.modeHypL_base inner h.1
    exact ⟨⟨b, textOK_of_ascii _ h.2.1 h.2.2⟩, ⟨c, h.2.1, h.2.2⟩, d⟩
theorem SrcList.modeHypsL_base : ∀ (l : SrcList), l.ModeHypsL → l.WFs ∧ l.PosHyps false ∧ l.IdxHyps
  | .nil => fun _ => ⟨trivial, trivial, trivial⟩
  | .cons s r => fun h => by
    obtain ⟨b, c, d⟩ := Src.modeHypL_base s h.1
    obtain ⟨b', c', d'⟩ := SrcList.modeHypsL_base r h.2
    exact ⟨⟨b, b'⟩, ⟨c, c'⟩, ⟨d, d'⟩⟩
end

mutual
theorem Src.strip_modeHypL : ∀ (s : Src), s.ModeHypL → s.strip.ModeHypL
  | .raw .. | .rawStr .. | .rawBuf .. | .orig .. => fun _ => trivial
  | .sms .. => id
  | .concat cs => SrcList.stripL_modeHypsL cs
  | .replace inner rs => fun h => ⟨Src.strip_modeHypL inner h.1, h.2.1, by rw [Src.strip_src]; exact h.2.2⟩
  | .cached _ inner => fun h => Src.strip_modeHypL inner h.1
theorem SrcList.stripL_modeHypsL : ∀ (l : SrcList), l.ModeHypsL → l.stripL.ModeHypsL
  | .nil => fun _ => trivial
  | .cons s r => fun h => ⟨Src.strip_modeHypL s h.1, SrcList.stripL_modeHypsL r h.2⟩
end

theorem Src.base_factsL (s : Src) (h : s.ModeHypL) (hn : s.ids.Nodup) (σF σN : Store) (hcF : Cold σF s.ids) (hcN : Cold σN s.ids) :
    s.ModeFacts false σF σN :=
  have ⟨hw, hp, hi⟩ := Src.modeHypL_base s h
  Src.cold_facts s false hw hp hi hn σF σN hcF hcN

/-- the twin of `M3` for columns = false: `F` is sorted, announces what `N` announces, and every generated line's first mapped
chunk (`lookupLines`) is the same in both -/
structure M3L (F N : SResult) : Prop where
  sorted : sortedFrom 1 0 (chunkMs F.evs)
  decls : declsOf F.evs = declsOf N.evs
  look : ∀ L, lookupLines (chunkMs F.evs) L = lookupLines (chunkMs N.evs) L

theorem ChildOKL.of_m3l {F N : SResult} {T : Text} (m : M3L F N) (hp : PosOK N) (hTL : evsTL N.evs = false)
    (hx : evsText N.evs = T) (hdN : DeclOK 0 0 N.evs) (hdF : DeclOK 0 0 F.evs) (hf : FinOK T F) : ChildOKL F N := by
  subst hx
  have hfN := finOK_of_posOK _ hp hTL
  exact ⟨by rw [hf.2, hfN.2], fun m hm => isPos_line_ge _ _ (finOK_ms _ _ hf m hm), fun m hm => isPos_line_ge _ _ (finOK_ms _ _ hfN m hm),
    hdF, hdN, m.decls, m.look⟩


theorem M3L.raw (t : Text) : M3L (streamRaw t ⟨false, true⟩) (streamRaw t ⟨false, false⟩) :=
  ⟨trivial, by rw [streamRaw_decls, streamRaw_decls], streamRaw_linesEq t false⟩

theorem M3L.orig (t name : Text) : M3L (streamOriginal t name ⟨false, true⟩) (streamOriginal t name ⟨false, false⟩) :=
  ⟨streamOriginal_linesSorted t name, streamOriginal_linesDecls t name, streamOriginal_linesEq t name⟩

theorem M3L.sms (t name : Text) (map : SMap) (origSrc : Option Text) (inner : Option SMap) (remove : Bool) (σF σN : Store) :
    M3L ((Src.sms t name map origSrc inner remove).stream ⟨false, true⟩ σF).1 ((Src.sms t name map origSrc inner remove).stream ⟨false, false⟩ σN).1 := by
  cases inner with
  | none => exact ⟨streamSM_linesSorted t map, streamSM_linesDecls t map, streamSM_linesEq t map⟩
  | some im =>
    obtain ⟨c1, c2, c3⟩ := streamCombined_m3l t map name origSrc im remove
    exact ⟨c1, c2, c3⟩

theorem M3L.same (r : SResult) (hp : PosOK r) (hTL : evsTL r.evs = false) : M3L r r :=
  ⟨chunkMs_sorted _ [] hp.1 hTL, rfl, fun _ => rfl⟩

theorem M3L.concatNode {cfs cns : List SResult} {Ts : List Text} (h : ChildrenOKL cfs cns) (hf : FinAll cfs Ts)
    (hs : ∀ c ∈ cfs, sortedFrom 1 0 (chunkMs c.evs)) : M3L (concatNode true cfs) (concatNode false cns) := by
  obtain ⟨g1, g2⟩ := concatGo_linesModes _ _ h {} {} rfl rfl rfl
  have hcat : M3L (concatStream true cfs) (concatStream false cns) := ⟨concatStream_sorted true _ _ hf hs, g2, g1⟩
  cases h with
  | nil => exact hcat
  | cons cf cn cfs cns hc hrest =>
    cases hrest with
    | nil => exact ⟨hs cf (by simp), hc.decls, hc.look⟩
    | cons => exact hcat

mutual
/-- **the text-less stream that `map()` consumes attributes like the normal one, columns = false** (CachedSource nodes on cold
caches): it is sorted, announces what the normal stream announces, and attributes every generated line like the normal stream -/
theorem Src.m3l : ∀ (s : Src), s.ModeHypL → s.ids.Nodup → ∀ (σF σN : Store), Cold σF s.ids → Cold σN s.ids →
    M3L (s.stream ⟨false, true⟩ σF).1 (s.stream ⟨false, false⟩ σN).1
  | .raw _ _ lossy => fun _ _ _ _ _ _ => M3L.raw lossy
  | .rawStr t => fun _ _ _ _ _ _ => M3L.raw t
  | .rawBuf _ lossy => fun _ _ _ _ _ _ => M3L.raw lossy
  | .orig t name => fun _ _ _ _ _ _ => M3L.orig t name
  | .sms t name map origSrc inner remove => fun _ _ σF σN _ _ => M3L.sms t name map origSrc inner remove σF σN
  | .concat cs => fun h hn σF σN hcF hcN => by
    obtain ⟨r1, r2, r3⟩ := SrcList.m3sl cs h hn σF σN hcF hcN
    simp only [Src.concat_stream]
    exact M3L.concatNode r1 r3 r2
  | .replace inner rs => fun h hn σF σN hcF hcN => by
    have b := Src.base_factsL (.replace inner rs) h hn σF σN hcF hcN
    -- a ReplaceSource streams its inner source with text in either mode, so its two streams are one on cold caches
    rw [Src.replace_stream_final, Src.stream_cold (.replace inner rs) ⟨false, false⟩ σF σN hn hcF hcN]
    exact M3L.same _ b.pos b.tl
  | .cached id inner => fun h hn σF σN hcF hcN => by
    obtain ⟨hn', hcold⟩ := cold_cached id inner
    rw [(hcold σF hcF).2, (hcold σN hcN).2]
    exact Src.m3l inner h.1 (hn' hn) σF σN (hcold σF hcF).1 (hcold σN hcN).1
theorem SrcList.m3sl : ∀ (l : SrcList), l.ModeHypsL → l.idsL.Nodup → ∀ (σF σN : Store), Cold σF l.idsL → Cold σN l.idsL →
    ChildrenOKL (l.streams ⟨false, true⟩ σF).1 (l.streams ⟨false, false⟩ σN).1
    ∧ (∀ c ∈ (l.streams ⟨false, true⟩ σF).1, sortedFrom 1 0 (chunkMs c.evs))
    ∧ FinAll (l.streams ⟨false, true⟩ σF).1 l.srcList
  | .nil => fun _ _ _ _ _ _ => ⟨ChildrenOKL.nil, nofun, FinAll.nil⟩
  | .cons s rest => fun h hn σF σN hcF hcN => by
    obtain ⟨hn1, hn2, hcold⟩ := cold_cons s rest hn
    have hs := Src.m3l s h.1 hn1 σF σN (hcold σF hcF).1 (hcold σN hcN).1
    have b := Src.base_factsL s h.1 hn1 σF σN (hcold σF hcF).1 (hcold σN hcN).1
    obtain ⟨r1, r2, r3⟩ := SrcList.m3sl rest h.2 hn2 _ _ ((hcold σF hcF).2 ⟨false, true⟩) ((hcold σN hcN).2 ⟨false, false⟩)
    exact ⟨ChildrenOKL.cons _ _ _ _ (ChildOKL.of_m3l hs b.pos b.tl b.text b.declN b.declF b.fin) r1, List.forall_mem_cons.2 ⟨hs.sorted, r2⟩, FinAll.cons _ _ _ _ b.fin r3⟩
end

/-- `c03_lines` (Props/C03.lean) says what this claims; here the proof: the lines-only codec (`mapOfEvs_lookupLines`) at `Src.m3l` -/
theorem getMap_lines (s : Src) (h : s.ModeHypL) (hn : s.ids.Nodup) (σF σN : Store) (hcF : Cold σF s.ids) (hcN : Cold σN s.ids) (final : Bool)
    (hsmall : ∀ m ∈ chunkMs (s.stream ⟨false, true⟩ σF).1.evs, ∀ o, m.orig = some o → o.src < U31 ∧ o.line < U31)
    (sm : SMap) (hm : (getMap s ⟨false, final⟩ σF).1 = some sm) (L : Nat) (hL : 0 < L) :
    lookupLines (decode sm.mappings) L = lookupLines (chunkMs (s.stream ⟨false, false⟩ σN).1.evs) L := by
  have hm3 := Src.m3l s h hn σF σN hcF hcN
  simp only [getMap] at hm
  rw [mapOfEvs_lookupLines _ hsmall (linesOK_of_sorted _ 1 0 hm3.sorted) sm hm L hL]
  exact hm3.look L

end Rs
