import RsModel.Lemmas.ProvBytes
import RsModel.Lemmas.ReplaceAdvance
import RsModel.Lemmas.LeavesAttr
/-!
# C04 for ReplaceSource nodes, and for the bundler shape: ReplaceSource nodes over OriginalSource trees under ConcatSource nodes

`SurvQ G`: a mapped chunk is a *surviving piece of its original file at its true position* — the bytes `T[q..q')` inside one
potential token, attributed to the true line and column of byte `q`, each of its bytes at the column plus its offset — or it is
generated text satisfying `G`.  `TrueQ G` is the same, except that generated text, too, stands at the true position of a byte of
the file.

A ReplaceSource records the announced contents under the same indices (`CT`), so the recorded content spells out every surviving
piece (`fm_of_tokPos`), and whatever is delivered at byte `p` of it stands exactly `p` columns on (`rOnChunk_adv`): the piece is
cut into surviving pieces (`tokPos_slice`), and lines of replacement content are spliced in at true positions.  Generated text of
the inner stream is cut into slices of it (`rOnChunk_text`).  That is `CutQ` (`rOnChunk_cut`), and `rEvs_cut` proves it for any
inner stream with `ProvQ (SurvQ G)`; `TrueQ` for a ReplaceSource over a tree of OriginalSource / raw leaves (no generated text
inside) and `SurvQ` for nested ReplaceSources are read off it.
-/
namespace Rs

def TrueQ (G : Text → Prop) (T : Text) (t : Option Text) (l c : Nat) : Prop :=
  ∃ q, q < T.length ∧ adv startPos (T.take q) = ⟨l, c⟩
    ∧ ((∃ q', q < q' ∧ q' ≤ T.length ∧ t = some (bsub T q q') ∧ (∀ j, j < q' - q → adv startPos (T.take (q + j)) = ⟨l, c + j⟩)
          ∧ ∃ tok k0 l0 c0, TokPos T tok l0 c0 k0 ∧ k0 ≤ q ∧ q' ≤ k0 + tok.length)
       ∨ (∃ cl, t = some cl ∧ G cl))

def SurvQ (G : Text → Prop) (T : Text) (t : Option Text) (l c : Nat) : Prop :=
  (∃ q q', q < q' ∧ q' ≤ T.length ∧ adv startPos (T.take q) = ⟨l, c⟩ ∧ t = some (bsub T q q')
      ∧ (∀ j, j < q' - q → adv startPos (T.take (q + j)) = ⟨l, c + j⟩)
      ∧ ∃ tok k0 l0 c0, TokPos T tok l0 c0 k0 ∧ k0 ≤ q ∧ q' ≤ k0 + tok.length)
  ∨ (∃ cl, t = some cl ∧ G cl)

/-- generated text of a ReplaceSource with replacements `rs`: a line of the content of one of them -/
def GenOf (rs : List Repl) (cl : Text) : Prop := ∃ r ∈ rs, cl ∈ splitLines r.content

theorem trueQ_mono (G G' : Text → Prop) (h : ∀ cl, G cl → G' cl) (T : Text) (t : Option Text) (l c : Nat) (hq : TrueQ G T t l c) : TrueQ G' T t l c := by
  obtain ⟨q, h1, h2, h3⟩ := hq
  exact ⟨q, h1, h2, h3.imp id fun ⟨cl, e, g⟩ => ⟨cl, e, h cl g⟩⟩

theorem survQ_mono (G G' : Text → Prop) (h : ∀ cl, G cl → G' cl) (T : Text) (t : Option Text) (l c : Nat) (hq : SurvQ G T t l c) : SurvQ G' T t l c :=
  hq.imp id fun ⟨cl, e, g⟩ => ⟨cl, e, h cl g⟩

theorem survQ_of_trueQ (G : Text → Prop) (T : Text) (t : Option Text) (l c : Nat) (hq : TrueQ G T t l c) : SurvQ G T t l c := by
  obtain ⟨q, _, h2, h3⟩ := hq
  exact h3.imp (fun ⟨q', a1, a2, a3, a4, a5⟩ => ⟨q, q', a1, a2, h2, a3, a4, a5⟩) id

theorem trueQ_of_tokPos (G : Text → Prop) (T tok : Text) (l c k : Nat) (h : TokPos T tok l c k) : TrueQ G T (some tok) l c := by
  obtain ⟨z0, z1, z2, z3, z4⟩ := tokPos_slice T tok l c k 0 tok.length h (List.length_pos_iff.2 h.ne) (Nat.le_refl _)
  exact ⟨k, h.lt, h.pos, Or.inl ⟨k + tok.length, z0, z1, congrArg some ((bsub_whole tok).symm.trans z2), z3, z4⟩⟩

theorem provOK_provQ (G : Text → Prop) : ∀ (evs : List Ev) (S : SrcTbl), ProvOK S evs → ProvQ (TrueQ G) S evs := fun evs S hp =>
  (provQ_iff _ evs S).2 (provP_mono _ _ (fun T _ a ⟨tok, k, e, h, _⟩ => e ▸ trueQ_of_tokPos G T tok a.line a.col k h) evs S
    ((provOK_iff evs S).1 hp))

theorem Src.origTree_trueQ (cons : Text → Option Text) (G : Text → Prop) (s : Src) (ho : s.OrigTree) (hw : Src.WD cons true s) (σ : Store) :
    ProvQ (TrueQ G) emptyS (s.stream ⟨true, false⟩ σ).1.evs :=
  provOK_provQ G _ _ (Src.stream_provOK cons true s ho hw σ)

theorem Src.origTree_survQ (cons : Text → Option Text) (G : Text → Prop) (s : Src) (ho : s.OrigTree) (hw : Src.WD cons true s) (σ : Store) :
    ProvQ (SurvQ G) emptyS (s.stream ⟨true, false⟩ σ).1.evs :=
  provQ_mono _ _ (survQ_of_trueQ G) _ _ (Src.origTree_trueQ cons G s ho hw σ)

def CT (st : RSt) (S : SrcTbl) : Prop := ∀ i name c, S i = some (name, c) → st.contents[i]? = some c

theorem ct_source (st : RSt) (S : SrcTbl) (hct : CT st S) (i : Nat) (s : Text) (c : Option Text) :
    CT { st with contents := lmInsert none st.contents i c } (upd S i (s, c)) := by
  intro j name cc hj
  rcases upd_some hj with ⟨rfl, e⟩ | ⟨hji, hj⟩
  · cases e; exact lmInsert_get_self ..
  · have := hct j name cc hj
    rwa [lmInsert_get_other _ _ _ _ _ (List.getElem?_eq_some_iff.1 this).1 hji]

/-- what a chunk delivered by a ReplaceSource with replacements `RS` is, when the inner chunks are surviving pieces or generated text
`G`: cut from a surviving piece, it is a surviving piece, or a line of replacement content spliced in at the true position of a
byte of the file; cut from generated text `y`, it is a slice of `y` or a line of replacement content -/
def CutQ (RS : List Repl) (G : Text → Prop) (T : Text) (t : Option Text) (l c : Nat) : Prop :=
  TrueQ (GenOf RS) T t l c ∨ ∃ y, G y ∧ TextOf RS y t

theorem cutQ_trueQ (RS R : List Repl) (h : ∀ r ∈ RS, r ∈ R) (T : Text) (t : Option Text) (l c : Nat)
    (hq : CutQ RS (fun _ => False) T t l c) : TrueQ (GenOf R) T t l c := by
  rcases hq with hq | ⟨_, hf, _⟩
  · exact trueQ_mono _ _ (fun cl ⟨r, hr, hcl⟩ => ⟨r, h r hr, hcl⟩) T t l c hq
  · exact hf.elim

theorem rOnChunk_cut (RS : List Repl) (G : Text → Prop) (st : RSt) (S : SrcTbl) (hct : CT st S)
    (hS : ∀ i name T, S i = some (name, some T) → IsAscii T ∧ T.length < USIZE_MAX) (hrest : ∀ r ∈ st.rest, r ∈ RS)
    (t : Option Text) (m : Mapping) (hp : ∀ a, m.orig = some a → ∃ name T, S a.src = some (name, some T) ∧ SurvQ G T t a.line a.col) :
    ∀ t' mm, Ev.chunk t' mm ∈ (rOnChunk st (t.getD []) m).2 → ∀ y, mm.orig = some y →
      ∃ name T, S y.src = some (name, some T) ∧ CutQ RS G T t' y.line y.col := by
  intro t' mm hmem y hy
  -- a mapped chunk comes from a mapped inner chunk, `a` say, and names the same file
  obtain ⟨a, hmo, hsrc, _⟩ := (rOnChunk_keeps st (t.getD []) m t' mm hmem).2 y hy
  obtain ⟨name, T, p1, hs⟩ := hp a hmo
  refine ⟨name, T, hsrc ▸ p1, ?_⟩
  rcases hs with ⟨q, q', s1, _, s3, rfl, _, tok0, k0, l0, c0, s6, s7, s8⟩ | ⟨cl, rfl, s2⟩
  · -- a surviving piece is a potential token at its true position: the recorded content spells it out, so what is delivered at
    -- byte `p` of it stands `p` columns on, and is a window of that token
    have p3 := tokPos_piece T tok0 l0 c0 k0 q q' a.line a.col s6 s7 s1 s8 s3
    obtain ⟨hTa, hTl⟩ := hS a.src name T p1
    obtain ⟨p, hpl, ⟨_, ey, _, e2, e3⟩, hkind⟩ := rOnChunk_adv st _ p3.ne m a hmo
      (fm_of_tokPos T hTa hTl _ a q p3 st.contents (hct a.src name (some T) p1)) t' mm hmem
    cases hy.symm.trans ey
    rw [e2, e3]
    obtain ⟨q1, q2⟩ := tokPos_advance T _ a.line a.col q p p3 hpl
    refine Or.inl ⟨q + p, q1, q2, hkind.imp (fun ⟨qq, hq1, hq2, hq3⟩ => ?_) fun ⟨r, hr, cl, hcl, hq3⟩ => ⟨cl, hq3, r, hrest r hr, hcl⟩⟩
    obtain ⟨z0, z1, z2, z3, z4⟩ := tokPos_slice T _ a.line a.col q p qq p3 hq1 hq2
    exact ⟨q + qq, z0, z1, hq3.trans (congrArg some z2), z3, z4⟩
  · exact Or.inr ⟨cl, s2, rOnChunk_text RS st cl m hrest t' mm hmem⟩

theorem rEvs_cut (RS : List Repl) (G : Text → Prop) :
    ∀ (evs : List Ev) (st : RSt) (S : SrcTbl), CT st S → ProvQ (SurvQ G) S evs →
    (∀ i name T, S i = some (name, some T) → IsAscii T ∧ T.length < USIZE_MAX) →
    (∀ i s T, Ev.source i s (some T) ∈ evs → IsAscii T ∧ T.length < USIZE_MAX) →
    (∀ r ∈ st.rest, r ∈ RS) →
    ProvQ (CutQ RS G) S (rEvs st evs).2 := by
  intro evs
  induction evs with
  | nil => intro st S _ _ _ _ _; trivial
  | cons e es ih =>
    intro st S hct hp hS hE hrest
    have hE' : ∀ i s T, Ev.source i s (some T) ∈ es → IsAscii T ∧ T.length < USIZE_MAX := fun i s T hm => hE i s T (List.mem_cons_of_mem _ hm)
    simp only [rEvs]
    rw [provQ_append]
    cases e with
    | chunk t m =>
      -- the callback announces no source, records no content and only uses up replacements
      have hns := rOnChunk_noSrc st (t.getD []) m
      rw [rEv, tblS_noSrc _ S hns]
      exact ⟨provQ_noSrc _ _ S hns (rOnChunk_cut RS G st S hct hS hrest t m hp.1),
        ih _ S (fun i name c hi => (rOnChunk_delivered st _ m).2.1 ▸ hct i name c hi) hp.2 hS hE'
          fun r hr => hrest r (rOnChunk_restSub st _ m r hr)⟩
    | source i s c =>
      simp only [rEv, ProvQ, tblS]
      refine ⟨trivial, ih _ _ (ct_source st S hct i s c) hp (fun j name T hj => ?_) hE' hrest⟩
      rcases upd_some hj with ⟨rfl, e⟩ | ⟨_, hj⟩
      · cases e; exact hE j s T List.mem_cons_self
      · exact hS j name T hj
    | name i n =>
      have hns := globalName_noSrc st.nameMapping n
      rw [rEv, tblS_noSrc _ S hns]
      exact ⟨provQ_noSrc _ _ S hns (fun _ _ hmem => nomatch globalName_anns _ _ _ hmem), ih _ S hct hp hS hE' hrest⟩

section
/- From here on the streams are those of given nodes.  `ProvQ` and `DeclOK` recurse on the event list: left reducible, the elaborator
evaluates the concrete `replaceStream` of a ReplaceSource node as far as it goes each time a term has one of them, applied to that
stream, in its type. -/
attribute [local irreducible] ProvQ DeclOK

/-- a ReplaceSource node over a stream of surviving pieces and generated text (one content per file name, ASCII); stated for any
`Q` that follows from `CutQ`, so that one application serves each use -/
theorem replace_cut (cons : Text → Option Text) (inner : Src) (hw : Src.WD cons true inner) (G : Text → Prop)
    (hasc : ∀ n T, cons n = some T → IsAscii T ∧ T.length < USIZE_MAX) (rs : List Repl)
    (hin : ∀ σ, ProvQ (SurvQ G) emptyS (inner.stream ⟨true, false⟩ σ).1.evs)
    (Q : Text → Option Text → Nat → Nat → Prop) (hQ : ∀ T t l c, CutQ (sortRepls rs) G T t l c → Q T t l c) :
    ∀ σ, ProvQ Q emptyS ((Src.replace inner rs).stream ⟨true, false⟩ σ).1.evs := by
  intro σ
  have hcont := wellDecl_contOK cons _ _ _ (Src.stream_wd cons true inner hw σ)
  simp only [Src.stream, replaceStream]
  rw [provQ_append]
  constructor
  · exact provQ_mono _ _ hQ _ _ (rEvs_cut (sortRepls rs) G _ { rest := sortRepls rs } emptyS (fun _ _ _ h => nomatch h) (hin σ)
      (fun _ _ _ h => nomatch h) (fun i s T hm => hasc s T (hcont i s (some T) hm).symm) (fun r hr => hr))
  · -- the replacements left over are delivered unmapped
    apply provQ_noSrc _ _ _ (rRemainder_unmapped _ _ _ _).2
    intro t m hm a ha
    rw [(rRemainder_unmapped _ _ _ _).1 t m hm] at ha
    cases ha

theorem replace_trueQ (cons : Text → Option Text) (inner : Src) (ho : inner.OrigTree) (hw : Src.WD cons true inner)
    (hasc : ∀ n T, cons n = some T → IsAscii T ∧ T.length < USIZE_MAX) (rs R : List Repl) (hR : ∀ r ∈ rs, r ∈ R) :
    ∀ σ, ProvQ (TrueQ (GenOf R)) emptyS ((Src.replace inner rs).stream ⟨true, false⟩ σ).1.evs :=
  replace_cut cons inner hw (fun _ => False) hasc rs (Src.origTree_survQ cons _ inner ho hw)
    _ (cutQ_trueQ _ R fun r hr => hR r ((mem_sortRepls rs r).1 hr))

mutual
/-- `cons` = one content per file name; every ReplaceSource wraps a tree of OriginalSource / raw leaves -/
def Src.ReplWD (cons : Text → Option Text) : Src → Prop
  | .raw .. => True
  | .rawStr .. => True
  | .rawBuf .. => True
  | .orig t name => cons name = some t
  | .concat cs => cs.ReplWDs cons
  | .replace inner _ => inner.OrigTree ∧ Src.WD cons true inner
  | _ => False
def SrcList.ReplWDs (cons : Text → Option Text) : SrcList → Prop
  | .nil => True
  | .cons s r => s.ReplWD cons ∧ r.ReplWDs cons
end

mutual
def Src.allRepls : Src → List Repl
  | .concat cs => cs.allReplsL
  | .replace _ rs => rs
  | _ => []
def SrcList.allReplsL : SrcList → List Repl
  | .nil => []
  | .cons s r => s.allRepls ++ r.allReplsL
end

mutual
theorem Src.replWD_wd (cons : Text → Option Text) : ∀ (s : Src), s.ReplWD cons → Src.WD cons true s
  | .raw .. | .rawStr .. | .rawBuf .. => fun _ => trivial
  | .orig .. => id
  | .concat cs => SrcList.replWDs_wd cons cs
  | .replace inner rs => fun h => Src.wd_replace cons inner rs h.2 (Src.origTree_idx inner h.1)
  | .sms .. | .cached .. => fun h => h.elim
theorem SrcList.replWDs_wd (cons : Text → Option Text) : ∀ (l : SrcList), l.ReplWDs cons → SrcList.WD cons true l
  | .nil => fun _ => trivial
  | .cons s r => fun h => ⟨Src.replWD_wd cons s h.1, SrcList.replWDs_wd cons r h.2⟩
end

mutual
theorem Src.stream_trueQ (cons : Text → Option Text) (hasc : ∀ n T, cons n = some T → IsAscii T ∧ T.length < USIZE_MAX) (R : List Repl) :
    ∀ (s : Src), s.ReplWD cons → (∀ r ∈ s.allRepls, r ∈ R) → ∀ σ, ProvQ (TrueQ (GenOf R)) emptyS (s.stream ⟨true, false⟩ σ).1.evs
  | .raw .. | .rawStr .. | .rawBuf .. => fun _ _ => Src.origTree_trueQ cons _ _ trivial trivial
  | .orig t name => fun h _ => Src.origTree_trueQ cons _ (.orig t name) trivial h
  | .sms .. | .cached .. => fun h => h.elim
  | .replace inner rs => fun h hR => replace_trueQ cons inner h.1 h.2 hasc rs R hR
  | .concat cs => fun h hR => Src.concat_provQ _ cons cs (SrcList.replWDs_wd cons cs h) (SrcList.streams_trueQ cons hasc R cs h hR)
theorem SrcList.streams_trueQ (cons : Text → Option Text) (hasc : ∀ n T, cons n = some T → IsAscii T ∧ T.length < USIZE_MAX) (R : List Repl) :
    ∀ (l : SrcList), l.ReplWDs cons → (∀ r ∈ l.allReplsL, r ∈ R) → ∀ σ, ∀ r ∈ (l.streams ⟨true, false⟩ σ).1, ProvQ (TrueQ (GenOf R)) emptyS r.evs
  | .nil => fun _ _ _ _ hr => nomatch hr
  | .cons s rest => fun h hR σ => List.forall_mem_cons.2
    ⟨Src.stream_trueQ cons hasc R s h.1 (fun r hr => hR r (List.mem_append_left _ hr)) σ,
      SrcList.streams_trueQ cons hasc R rest h.2 (fun r hr => hR r (List.mem_append_right _ hr)) _⟩
end

theorem Src.stream_provQ (cons : Text → Option Text) (hasc : ∀ n T, cons n = some T → IsAscii T ∧ T.length < USIZE_MAX) :
    ∀ (s : Src), s.ReplWD cons → ∀ σ, ProvQ (TrueQ (GenOf s.allRepls)) emptyS (s.stream ⟨true, false⟩ σ).1.evs :=
  fun s h σ => Src.stream_trueQ cons hasc s.allRepls s h (fun _ hr => hr) σ

theorem SrcList.streams_provQ (cons : Text → Option Text) (hasc : ∀ n T, cons n = some T → IsAscii T ∧ T.length < USIZE_MAX) :
    ∀ (l : SrcList), l.ReplWDs cons → ∀ σ, ∀ r ∈ (l.streams ⟨true, false⟩ σ).1, ProvQ (TrueQ (GenOf l.allReplsL)) emptyS r.evs :=
  fun l h σ => SrcList.streams_trueQ cons hasc l.allReplsL l h (fun _ hr => hr) σ

mutual
def Src.ReplSized : Src → Prop
  | .concat cs => cs.ReplSizeds
  | .replace inner rs => (∀ r ∈ rs, r.start ≤ r.stop) ∧ (replaceSource inner.src rs).length + 1 < 2 ^ 32
  | _ => True
def SrcList.ReplSizeds : SrcList → Prop
  | .nil => True
  | .cons s r => s.ReplSized ∧ r.ReplSizeds
end

mutual
theorem Src.replWD_mode (cons : Text → Option Text) : ∀ (s : Src), s.ReplWD cons → s.ReplSized → s.ModeHyp
  | .raw .. | .rawStr .. | .rawBuf .. | .orig .. => fun _ _ => trivial
  | .concat cs => SrcList.replWDs_mode cons cs
  | .replace inner _ => fun h hz => ⟨Src.origTree_mode inner h.1, hz.1, hz.2⟩
  | .sms .. | .cached .. => fun h => h.elim
theorem SrcList.replWDs_mode (cons : Text → Option Text) : ∀ (l : SrcList), l.ReplWDs cons → l.ReplSizeds → l.ModeHyps
  | .nil => fun _ _ => trivial
  | .cons s r => fun h hz => ⟨Src.replWD_mode cons s h.1 hz.1, SrcList.replWDs_mode cons r h.2 hz.2⟩
end

/-- the class the walk of a `ReplWD` tree stays in: beneath a ReplaceSource the tree is an `OrigTree` -/
theorem Src.ReplWD.hereditary (cons : Text → Option Text) : Src.Hereditary fun s => s.ReplWD cons ∨ s.OrigTree :=
  ⟨fun h => h.elim (fun h => ⟨.inl h.1, .inl h.2⟩) fun h => ⟨.inr h.1, .inr h.2⟩,
    fun h => h.elim (fun h => .inr h.1) False.elim, fun h => h.elim False.elim False.elim⟩

theorem Src.replWD_allContent_facts (cons : Text → Option Text) :
    Src.StreamFacts (fun s => s.ReplWD cons ∨ s.OrigTree) (fun _ _ r => AllContent r.evs) (fun _ _ rs => ∀ r ∈ rs, AllContent r.evs) :=
  Src.allContent_facts (fun _ _ _ _ _ _ h => h.elim id id) fun _ _ h => h.elim id id

theorem Src.replWD_allContent (cons : Text → Option Text) : ∀ (s : Src) (o : Opts) (σ : Store), s.ReplWD cons → AllContent (s.stream o σ).1.evs :=
  fun s o σ h => Src.stream_induct (Src.ReplWD.hereditary cons) (Src.replWD_allContent_facts cons) s o σ (.inl h)

theorem SrcList.replWDs_allContent (cons : Text → Option Text) : ∀ (l : SrcList) (o : Opts) (σ : Store), l.ReplWDs cons → ∀ c ∈ (l.streams o σ).1, AllContent c.evs :=
  fun l o σ h => SrcList.streams_induct (Src.ReplWD.hereditary cons) (Src.replWD_allContent_facts cons) l o σ (.inl h)

/-- `c04_bundle_map_bytes` (Props/C04.lean) says what this claims; here the proof: the stream's `ProvQ (TrueQ _)` (`Src.stream_provQ`)
read through the map (`getMap_provQ`), then from the chunk covering byte `i` to the byte (`piece_byte`) -/
theorem replTree_map_bytes (cons : Text → Option Text) (s : Src) (h : s.ReplWD cons) (hz : s.ReplSized)
    (hasc : ∀ n T, cons n = some T → IsAscii T ∧ T.length < USIZE_MAX) (final : Bool)
    (hsmall : ∀ m ∈ chunkMs (s.stream ⟨true, true⟩ []).1.evs, m.small)
    (sm : SMap) (hm : (getMap s ⟨true, final⟩ []).1 = some sm) :
    ∀ (i : Nat) (o : Orig), (attrFrom (decode sm.mappings) startPos s.src)[i]? = some (some o) →
      ∃ (name T : Text) (q d : Nat), sm.sources[o.src]? = some name ∧ sm.sourcesContent[o.src]? = some T ∧ q < T.length
        ∧ adv startPos (T.take q) = ⟨o.line, o.col⟩
        ∧ ((q + d < T.length ∧ s.src[i]? = T[q + d]? ∧ adv startPos (T.take (q + d)) = ⟨o.line, o.col + d⟩
              ∧ ∃ tok k0 l0 c0, TokPos T tok l0 c0 k0 ∧ k0 ≤ q ∧ q + d < k0 + tok.length)
            ∨ (∃ r ∈ s.allRepls, ∃ cl ∈ splitLines r.content, d < cl.length ∧ s.src[i]? = cl[d]?)) := by
  intro i o hget
  obtain ⟨name, T, t, d, h1, h2, ⟨q, y3, y4, y5⟩, hd, hbyte⟩ := getMap_provQ _ s (Src.replWD_mode cons s h hz)
    (Src.replWD_allContent cons s ⟨true, false⟩ [] h) (Src.stream_provQ cons hasc s h []) final hsmall sm hm i o hget
  refine ⟨name, T, q, d, h1, h2, y3, y4, ?_⟩
  rcases y5 with ⟨q', _, hq2, hq3, hq4, htok⟩ | ⟨cl, hq3, r, hr1, hcl⟩
  · cases hq3
    obtain ⟨p1, p2, p3, p4⟩ := piece_byte T q q' d o.line o.col hq2 hd hq4 htok
    exact Or.inl ⟨p1, hbyte.trans p2, p3, p4⟩
  · cases hq3
    exact Or.inr ⟨r, hr1, t, hcl, hd, hbyte⟩

theorem tblS_mem : ∀ (evs : List Ev) (S : SrcTbl) (i : Nat) (x : Text × Option Text), tblS S evs i = some x →
    S i = some x ∨ Ev.source i x.1 x.2 ∈ evs
  | [], _, _, _, h => .inl h
  | .source j s c :: es, S, i, x, h => by
    rcases tblS_mem es _ i x h with h | h
    · rcases upd_some h with ⟨rfl, rfl⟩ | ⟨_, h⟩
      · exact .inr List.mem_cons_self
      · exact .inl h
    · exact .inr (List.mem_cons_of_mem _ h)
  | .chunk .. :: es, S, i, x, h | .name .. :: es, S, i, x, h => (tblS_mem es S i x h).imp id (List.mem_cons_of_mem _)

/-- `TrueQ (GenOf RS)` for one chunk `t'`, `mm`, read through the announced files `F`: the chunk is unmapped, or names a file of `F` with
content `T` and the true position of a byte `q` of `T`, and is the surviving piece `T[q..q')` or a line of the content of a replacement in `RS` -/
def TrueAt (RS : List Repl) (F : SrcTbl) (t' : Option Text) (mm : Mapping) : Prop :=
  mm.orig = none ∨ ∃ name T q y, mm.orig = some y ∧ F y.src = some (name, some T) ∧ q < T.length ∧ adv startPos (T.take q) = ⟨y.line, y.col⟩
    ∧ ((∃ q', q < q' ∧ q' ≤ T.length ∧ t' = some (bsub T q q') ∧ (∀ j, j < q' - q → adv startPos (T.take (q + j)) = ⟨y.line, y.col + j⟩)
        ∧ ∃ tok k0 l0 c0, TokPos T tok l0 c0 k0 ∧ k0 ≤ q ∧ q' ≤ k0 + tok.length) ∨ (∃ r ∈ RS, ∃ cl ∈ splitLines r.content, t' = some cl))

theorem trueAt_of_provQ (RS : List Repl) (evs : List Ev) (hp : ProvQ (TrueQ (GenOf RS)) emptyS evs) (hd : DeclOK 0 0 evs)
    (t' : Option Text) (mm : Mapping) (hmem : Ev.chunk t' mm ∈ evs) : TrueAt RS (tblS emptyS evs) t' mm := by
  cases hy : mm.orig with
  | none => exact Or.inl hy
  | some y =>
    obtain ⟨name, T, hS, q, y3, y4, y5⟩ := provQ_at _ evs emptyS 0 0 hp hd t' mm y hmem hy
    exact Or.inr ⟨name, T, q, y, hy, hS, y3, y4, y5.imp id fun ⟨cl, e, r, hr, hcl⟩ => ⟨r, hr, cl, hcl, e⟩⟩

/-- `c04_replace_tree_stream` (Props/C04.lean) says what this claims, with `TrueAt` written out; here the proof: `replace_trueQ` chunk by
chunk (`trueAt_of_provQ`) -/
theorem replace_origTree_true (cons : Text → Option Text) (inner : Src) (ho : inner.OrigTree) (hw : Src.WD cons true inner)
    (hasc : ∀ n T, cons n = some T → IsAscii T ∧ T.length < USIZE_MAX) (rs : List Repl) (final : Bool) (σ : Store) :
    ∀ t' mm, Ev.chunk t' mm ∈ ((Src.replace inner rs).stream ⟨true, final⟩ σ).1.evs →
      TrueAt (sortRepls rs) (tblS emptyS ((Src.replace inner rs).stream ⟨true, final⟩ σ).1.evs) t' mm := by
  -- a ReplaceSource streams its inner source in normal mode whatever `final` is
  rw [Src.replace_stream_final]
  exact trueAt_of_provQ _ _ (replace_trueQ cons inner ho hw hasc rs (sortRepls rs) (fun r hr => (mem_sortRepls rs r).2 hr) σ)
    (Src.declOK_nc (.replace inner rs) (Src.wd_nc cons inner hw) (Src.origTree_idx inner ho) _ σ)

/-- `c04_replace_tree_map` (Props/C04.lean) says what this claims; here the proof: the first clauses of `replTree_map_bytes` -/
theorem replace_origTree_map (cons : Text → Option Text) (inner : Src) (ho : inner.OrigTree) (hw : Src.WD cons true inner)
    (hasc : ∀ n T, cons n = some T → IsAscii T ∧ T.length < USIZE_MAX) (rs : List Repl)
    (hr : ∀ r ∈ rs, r.start ≤ r.stop) (hlen : (replaceSource inner.src rs).length + 1 < 2 ^ 32) (final : Bool)
    (hsmall : ∀ m ∈ chunkMs ((Src.replace inner rs).stream ⟨true, true⟩ []).1.evs, m.small)
    (sm : SMap) (hm : (getMap (.replace inner rs) ⟨true, final⟩ []).1 = some sm) :
    ∀ o, some o ∈ attrFrom (decode sm.mappings) startPos (replaceSource inner.src rs) →
      ∃ name T q, sm.sources[o.src]? = some name ∧ sm.sourcesContent[o.src]? = some T ∧ q < T.length
        ∧ adv startPos (T.take q) = ⟨o.line, o.col⟩ := by
  intro o hmem
  obtain ⟨i, hi⟩ := List.getElem?_of_mem hmem
  obtain ⟨name, T, q, _, h1, h2, h3, h4, _⟩ := replTree_map_bytes cons (.replace inner rs) ⟨ho, hw⟩ ⟨hr, hlen⟩ hasc final hsmall sm hm i o hi
  exact ⟨name, T, q, h1, h2, h3, h4⟩

end

end Rs
