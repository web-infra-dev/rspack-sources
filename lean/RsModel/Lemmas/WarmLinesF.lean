import RsModel.Lemmas.LinesTree
import RsModel.Lemmas.Histories
import RsModel.Lemmas.WarmLines
/-!
# `map()` with columns = false over every call history

The text-less fill: a `get_map(columns = false)` streams the tree in text-less mode; every CachedSource stores the lines-only map of
its subtree's text-less stream.  Later calls replay it.  `getMap_lname`: C03 (columns = false) at name level — through the map's own
`sources`.  `replayLF_leaf`: the replay of such a stored map agrees with the subtree's own normal-mode stream on the first mapped
chunk of every line, and is again in the domain of C03 (columns = false).
-/
namespace Rs

-- the replay tree of a CachedSource node is a `match` on `mapOfEvs` of its subtree's stream: kept from unfolding, as in WarmTree
attribute [local irreducible] mapOfEvs

/-- **C03, columns = false, at name level** (cold caches): every generated line resolves through the returned map — its own `sources` —
to the file name and original line of the first mapped chunk on that line of the normal-mode stream -/
theorem getMap_lname (s : Src) (h : s.ModeHypL) (hn : s.ids.Nodup) (σF σN : Store) (hcF : Cold σF s.ids) (hcN : Cold σN s.ids) (final : Bool)
    (hsmall : ∀ m ∈ chunkMs (s.stream ⟨false, true⟩ σF).1.evs, ∀ o, m.orig = some o → o.src < U31 ∧ o.line < U31)
    (sm : SMap) (hm : (getMap s ⟨false, final⟩ σF).1 = some sm) (L : Nat) (hL : 0 < L) :
    LNameM sm L = LNameOf (s.stream ⟨false, false⟩ σN).1.evs L := by
  simp only [getMap] at hm
  exact (Src.m3l s h hn σF σN hcF hcN).map_lname (Src.base_factsL s h hn σF σN hcF hcN).declN hsmall sm hm L hL

theorem replayLF_leaf (id : Nat) (inner : Src) (h : inner.strip.ModeHypL) (ha : IsAscii inner.src) (hl : inner.src.length ≤ USIZE_MAX)
    (hsmall : ∀ m ∈ chunkMs (inner.strip.stream ⟨false, true⟩ []).1.evs, ∀ o, m.orig = some o → o.src < U31 ∧ o.line < U31) :
    (∀ L cur, (fsl L cur inner.src (NA (((Src.cached id inner).warm ⟨false, true⟩).stream ⟨false, false⟩ []).1.evs)).map fl
      = (fsl L cur inner.src (NA (inner.strip.stream ⟨false, false⟩ []).1.evs)).map fl)
    ∧ ((Src.cached id inner).warm ⟨false, true⟩).ModeHypL := by
  have hnc := Src.strip_nc inner
  have hn := Src.nc_nodup inner.strip hnc
  have hcold : Cold [] inner.strip.ids := cold_nil _
  obtain ⟨hw, hp, hi⟩ := Src.modeHypL_base inner.strip h
  rw [Src.warm_cached]
  rw [← Src.strip_src inner] at ha hl ⊢
  -- a fill by `map()`: T3 (columns = false) says the text-less stream stands for the normal-mode one
  exact replayLeaf_lines inner.strip hnc hw hp hi ha hl _ (Src.m3l inner.strip h hn [] [] hcold hcold)
    (Src.base_factsL inner.strip h hn [] [] hcold hcold).declF hsmall

mutual
/-- source indices and original lines of the text-less stream of every cached subtree are below 2³¹ (the codec's domain) -/
def Src.SmallFL : Src → Prop
  | .concat cs => cs.SmallFLs
  | .cached _ inner => ∀ m ∈ chunkMs (inner.strip.stream ⟨false, true⟩ []).1.evs, ∀ o, m.orig = some o → o.src < U31 ∧ o.line < U31
  | _ => True
def SrcList.SmallFLs : SrcList → Prop
  | .nil => True
  | .cons s r => s.SmallFL ∧ r.SmallFLs
end

mutual
theorem Src.warmFL : ∀ (s : Src), s.ModeHypL → s.CachedOK → s.SmallFL → s.LeafOK true ∧ (s.warm ⟨false, true⟩).ModeHypL
  | .raw .. | .rawStr .. | .rawBuf .. | .orig .. => fun _ _ _ => ⟨trivial, trivial⟩
  | .sms .. => fun h _ _ => ⟨(Src.modeHypL_base _ h).2.2, h⟩
  | .concat cs => SrcList.warmFLs cs
  | .replace .. => fun h hk _ => ⟨⟨hk, (Src.modeHypL_base _ h).2.2⟩, h⟩
  | .cached id inner => fun h _ hs => by
    have hst := Src.strip_modeHypL inner h.1
    obtain ⟨a, b⟩ := replayLF_leaf id inner hst h.2.1 h.2.2 hs
    exact ⟨⟨a, (Src.modeHypL_base _ b).2.2, (Src.modeHypL_base _ hst).2.2⟩, b⟩
theorem SrcList.warmFLs : ∀ (l : SrcList), l.ModeHypsL → l.CachedOKs → l.SmallFLs → l.LeafOKs true ∧ (l.warmL ⟨false, true⟩).ModeHypsL
  | .nil => fun _ _ _ => ⟨trivial, trivial⟩
  | .cons s r => fun h hk hs => by
    obtain ⟨a1, a2⟩ := Src.warmFL s h.1 hk.1 hs.1
    obtain ⟨b1, b2⟩ := SrcList.warmFLs r h.2 hk.2 hs.2
    exact ⟨⟨a1, b1⟩, ⟨a2, b2⟩⟩
end

/-- `c10_every_history_map_lines` (Props/C10.lean) says what this claims; here the proof: the answer is the stream of the replay tree or of
the cache-free tree (`runCalls_results`), and `getMap_lname` holds on both (`Src.warmFL`: the replay tree is again in `ModeHypL`) -/
theorem history_map_lname (s : Src) (hk : s.NoCR) (hn : s.ids.Nodup) (σ : Store) (hc : Cold σ s.ids) (h : s.ModeHypL) (hs : s.SmallFL)
    (hsmall1 : ∀ m ∈ chunkMs (s.strip.stream ⟨false, true⟩ []).1.evs, ∀ o, m.orig = some o → o.src < U31 ∧ o.line < U31)
    (hsmall2 : ∀ m ∈ chunkMs ((s.warm ⟨false, true⟩).stream ⟨false, true⟩ []).1.evs, ∀ o, m.orig = some o → o.src < U31 ∧ o.line < U31)
    (calls : List Opts) (k : Nat) (hcall : calls[k]? = some ⟨false, true⟩) :
    ∃ r, (runCalls s calls σ).1[k]? = some r ∧ ∀ sm, mapOfEvs false r.evs = some sm → ∀ L, 0 < L →
      LNameM sm L = LNameOf (s.strip.stream ⟨false, false⟩ []).1.evs L := by
  refine ⟨_, runCalls_results s hk hn σ hc calls k _ hcall, ?_⟩
  intro sm hsm L hL
  unfold answerOf at hsm
  have hck := Src.noCR_cachedOK s hk
  obtain ⟨hw, hp, _⟩ := Src.modeHypL_base s h
  split at hsm
  · obtain ⟨a1, a2⟩ := Src.warmFL s h hck hs
    have hwnc := Src.warm_nc s ⟨false, true⟩ hck
    have hwn := Src.nc_nodup _ hwnc
    rw [getMap_lname (s.warm ⟨false, true⟩) a2 hwn [] [] (cold_nil _) (cold_nil _) true hsmall2 sm (by simp only [getMap]; exact hsm) L hL]
    exact warmG_lname true s hw hp a1 hck L
  · have hsn := Src.strip_nc s
    have hn' := Src.nc_nodup _ hsn
    exact getMap_lname s.strip (Src.strip_modeHypL s h) hn' [] [] (cold_nil _) (cold_nil _) true hsmall1 sm (by simp only [getMap]; exact hsm) L hL

end Rs
