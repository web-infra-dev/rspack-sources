import RsModel.Model.Checked
import RsModel.Lemmas.Text
import RsModel.Lemmas.Replace
import RsModel.Lemmas.SMWalk
/-!
# No trap site of the map-driven splitters, the raw stream and `ReplaceSource::source` can fire

Each theorem says: on the stated domain the *checked* function of `Model/Checked.lean` (which is `none` where the Rust would panic)
returns `some` of exactly what the total model function returns.
-/
namespace Rs
namespace Chk


theorem sub_of_le {a b : Nat} (h : b ≤ a) : sub a b = some (a - b) := if_pos h
theorem add32_of_lt {a b : Nat} (h : a + b < 2 ^ 32) : add32 a b = some (a + b) := if_pos h
theorem idx_of_lt {α : Type} {l : List α} {i : Nat} (d : α) (h : i < l.length) : idx l i = some (l.getD i d) := by
  simp [idx, List.getD, List.getElem?_eq_getElem h]

/-- `lines[l - 1]` for a 1-based line number inside the text -/
theorem idx_line {lines : List Text} {l : Nat} (h1 : 1 ≤ l) (h : l ≤ lines.length) :
    idx lines (l - 1) = some (lines.getD (l - 1) []) := idx_of_lt [] (Nat.sub_one_lt_of_le h1 h)

/-- `lines[lines.len() - 1]` is the last line -/
theorem idx_last {α : Type} (l : List α) (d : α) (h : l ≠ []) : idx l (l.length - 1) = some (l.getLast?.getD d) := by
  rw [idx_of_lt d (Nat.sub_one_lt_of_le (List.length_pos_iff.2 h) (Nat.le_refl _)), List.getLast?_eq_getElem?,
    List.getD_eq_getElem?_getD]


/-- a replacement position the documented domain allows: on a char boundary of the inner text, or beyond its end -/
def PosOKB (t : Text) (p : Nat) : Prop := isBoundary t p = true ∨ t.length ≤ p

theorem isBoundary_clamp (t : Text) (p : Nat) (h : PosOKB t p) : isBoundary t (min p t.length) = true := by
  by_cases hp : p ≤ t.length
  · rw [Nat.min_eq_left hp]
    rcases h with h | h
    · exact h
    · rw [Nat.le_antisymm hp h]; exact isBoundary_len t
  · rw [Nat.min_eq_right (Nat.le_of_not_le hp)]; exact isBoundary_len t

/-- the text between the current position and the start of the next replacement (`str::get` clamps nothing: the loop's `min` does) -/
theorem piece_eq (t : Text) (pos start : Nat) (hp : pos ≤ t.length) (hb : isBoundary t pos = true) (hs : PosOKB t start) :
    (if pos < start then bget t pos (min start t.length) else some [])
      = some (if pos < start then bsub t pos (min start t.length) else []) := by
  split
  · next hlt => exact bget_some t pos _ (Nat.le_min.2 ⟨Nat.le_of_lt hlt, hp⟩) (Nat.min_le_right _ _) hb (isBoundary_clamp t start hs)
  · rfl

/-- the checked loop is the reference splice `applyGo` (absolute, clamped positions) step for step, every cut at a char boundary -/
theorem spliceC_eq (inner : Text) (hlen : inner.length < 2 ^ 32) :
    ∀ (rs : List Repl) (pos : Nat), pos ≤ inner.length → isBoundary inner pos = true →
      (∀ r ∈ rs, PosOKB inner r.start ∧ PosOKB inner r.stop) →
      spliceC inner pos rs = some (applyGo inner pos rs) := by
  intro rs
  induction rs with
  | nil =>
    intro pos hp hb _
    rw [spliceC, applyGo, bget_some inner pos inner.length hp (Nat.le_refl _) hb (isBoundary_len inner), bsub_to_end]
  | cons r rs ih =>
    intro pos hp hb hall
    obtain ⟨hs, he⟩ := hall r List.mem_cons_self
    rw [spliceC, applyGo, Nat.mod_eq_of_lt hlen, piece_eq inner pos r.start hp hb hs,
      ih _ (Nat.min_le_right _ _) (isBoundary_max_clamp inner pos r.stop hp hb (isBoundary_clamp inner r.stop he))
        (fun r' hr' => hall r' (List.mem_cons_of_mem _ hr'))]

/-- **`ReplaceSource::source()` cannot panic** when every replacement position is on a char boundary of the inner text or beyond
its end (inner text below 4 GiB): the checked splice — every `&inner[a..b]` evaluated with `str::get` — returns exactly the text the
total model computes.  No hypothesis `start ≤ end`, none on order or overlap. -/
theorem replaceSourceC_eq (inner : Text) (hlen : inner.length < 2 ^ 32) (rs : List Repl)
    (h : ∀ r ∈ rs, PosOKB inner r.start ∧ PosOKB inner r.stop) :
    replaceSourceC inner rs = some (replaceSource inner rs) := by
  unfold replaceSourceC replaceSource
  split
  · rfl
  · exact (spliceC_eq inner hlen (sortRepls rs) 0 (Nat.zero_le _) rfl fun r hr => h r ((mem_sortRepls rs r).1 hr)).trans
      (congrArg some (specGo_eq_applyGo inner _ 0 (Nat.zero_le _)).symm)

/-! ## the `while mapping.generated_line > current_generated_line` loop -/

theorem smWholeC_done (lines : List Text) {to_ cur : Nat} (h : to_ ≤ cur) (fuel : Nat) :
    smWholeC lines to_ fuel cur = some (max cur to_, smWholeLines lines cur to_) := by
  rw [smWholeLines_nil lines cur to_ h, Nat.max_eq_left h]
  cases fuel with
  | zero => rfl
  | succ n => rw [smWholeC, if_neg (Nat.not_lt.2 h)]

theorem smWholeC_eq (lines : List Text) (to_ : Nat) (hto : to_ < 2 ^ 32) :
    ∀ (fuel cur : Nat), 1 ≤ cur → to_ - cur ≤ fuel →
      smWholeC lines to_ fuel cur = some (max cur to_, smWholeLines lines cur to_) := by
  intro fuel
  induction fuel with
  | zero => intro cur _ hf; exact smWholeC_done lines (Nat.le_of_sub_eq_zero (Nat.le_zero.1 hf)) 0
  | succ n ih =>
    intro cur h1 hf
    by_cases hgt : cur < to_
    · have ih' := ih (cur + 1) (Nat.le_add_left 1 cur) (by omega)
      have h32 : cur + 1 < 2 ^ 32 := Nat.lt_of_le_of_lt hgt hto
      rw [Nat.max_eq_right (Nat.succ_le_of_lt hgt)] at ih'
      rw [smWholeC, if_pos hgt, smWholeLines_step lines cur to_ hgt, Nat.max_eq_right (Nat.le_of_lt hgt)]
      simp only [sub_of_le h1, add32_of_lt h32, ih']
      by_cases hle : cur ≤ lines.length
      · simp only [if_pos hle, idx_line h1 hle]
      · simp only [if_neg hle]
    · exact smWholeC_done lines (Nat.not_lt.1 hgt) _


/-! What the guards of the closure need of its `u32` line counter is `1 ≤ line` (every `line += 1` sits under `line < m.gl`, and
`m.gl` is a `u32`); it holds throughout because no step lowers the line. -/

theorem smStep1_line_le (lines : List Text) (s : FullSt) (m : Mapping) : s.line ≤ (smStep1 lines s m).1.line := by
  fun_cases smStep1 lines s m
  · exact Nat.le_succ _
  · exact Nat.le_refl _
  · exact Nat.le_refl _

theorem smStep2_line_le (lines : List Text) (s : FullSt) (m : Mapping) : s.line ≤ (smStep2 lines s m).1.line := by
  fun_cases smStep2 lines s m
  · exact Nat.le_succ _
  · exact Nat.le_refl _

/-- a call leaves the walker on the mapping's line, or where it was -/
theorem smFullStep_line_le (lines : List Text) (fl fc : Nat) (s : FullSt) (m : Mapping) :
    s.line ≤ (smFullStep lines fl fc s m).1.line := by
  rcases notBehind_or_back s m with hb | hb
  · rw [(smFullStep_at lines fl fc s m hb).1]
    exact hb.elim Nat.le_of_lt fun h => Nat.le_of_eq h.1
  · rw [smFullStep_back lines fl fc s m hb]
    exact Nat.le_refl _

theorem smStep1C_eq (lines : List Text) (s : FullSt) (m : Mapping) (hs : 1 ≤ s.line) (hm : m.gl < 2 ^ 32) (hfw : s.line ≤ m.gl) :
    smStep1C lines s m = some (smStep1 lines s m) := by
  unfold smStep1C smStep1
  by_cases hc : (s.active && decide (s.line ≤ lines.length)) = true
  · have hle : s.line ≤ lines.length := of_decide_eq_true (Bool.and_eq_true_iff.1 hc).2
    simp only [if_pos hc, sub_of_le hs, idx_line hs hle]
    by_cases hne : (m.gl != s.line) = true
    · have h32 : s.line + 1 < 2 ^ 32 := Nat.lt_of_le_of_lt (Nat.lt_of_le_of_ne hfw (Ne.symm (bne_iff_ne.1 hne))) hm
      simp only [if_pos hne, add32_of_lt h32]
    · simp only [if_neg hne]
  · simp only [if_neg hc]

theorem smStep2C_eq (lines : List Text) (s : FullSt) (m : Mapping) (hs : 1 ≤ s.line) (hm : m.gl < 2 ^ 32) :
    smStep2C lines s m = some (smStep2 lines s m) := by
  unfold smStep2C smStep2
  by_cases hc : (decide (m.gl > s.line) && decide (s.col > 0)) = true
  · have h32 : s.line + 1 < 2 ^ 32 := Nat.lt_of_le_of_lt (of_decide_eq_true (Bool.and_eq_true_iff.1 hc).1) hm
    simp only [if_pos hc, sub_of_le hs, add32_of_lt h32]
    by_cases hle : s.line ≤ lines.length
    · simp only [if_pos hle, idx_line hs hle]
    · simp only [if_neg hle]
  · simp only [if_neg hc]

theorem smStep4C_eq (lines : List Text) (s : FullSt) (m : Mapping) (hs : 1 ≤ s.line) :
    smStep4C lines s m = some (smStep4 lines s m) := by
  unfold smStep4C smStep4
  by_cases hc : m.gc > s.col
  · simp only [if_pos hc, sub_of_le hs]
    by_cases hle : s.line ≤ lines.length
    · simp only [if_pos hle, idx_line hs hle]
    · simp only [if_neg hle]
  · simp only [if_neg hc]

theorem smFullStepC_eq (lines : List Text) (fl fc : Nat) (s : FullSt) (m : Mapping) (hs : 1 ≤ s.line) (hm : m.gl < 2 ^ 32) :
    smFullStepC lines fl fc s m = some (smFullStep lines fl fc s m) := by
  unfold smFullStepC smFullStep
  by_cases hb : (decide (m.gl < s.line) || (m.gl == s.line && decide (m.gc < s.col))) = true
  · simp only [if_pos hb]
  · have hfw : s.line ≤ m.gl := Nat.not_lt.1 fun h => hb (by rw [decide_eq_true h]; rfl)
    have o1 := Nat.le_trans hs (smStep1_line_le lines s m)
    have o2 := Nat.le_trans o1 (smStep2_line_le lines _ m)
    simp only [if_neg hb, smStep1C_eq lines s m hs hm hfw, smStep2C_eq lines _ m o1 hm,
      smWholeC_eq lines m.gl hm _ _ o2 (Nat.le_refl _)]
    rw [smStep4C_eq lines _ m (Nat.le_trans o2 (Nat.le_max_left _ _))]

theorem smFullGoC_eq (lines : List Text) (fl fc : Nat) : ∀ (ms : List Mapping) (s : FullSt), 1 ≤ s.line → (∀ m ∈ ms, m.gl < 2 ^ 32) →
    smFullGoC lines fl fc s ms = some (smFullGo lines fl fc s ms) := by
  intro ms
  induction ms with
  | nil => intro s _ _; rfl
  | cons m ms ih =>
    intro s hs hm
    rw [smFullGoC, smFullGo, smFullStepC_eq lines fl fc s m hs (hm m List.mem_cons_self)]
    simp only [ih _ (Nat.le_trans hs (smFullStep_line_le lines fl fc s m)) (fun m' h' => hm m' (List.mem_cons_of_mem _ h'))]

theorem ite_lt {c : Prop} [Decidable c] {a b n : Nat} (ha : a < n) (hb : b < n) : (if c then a else b) < n := by
  split <;> assumption

theorem lastInfo_lt (lines : List Text) (hne : lines ≠ []) (hlen : lines.length + 1 < 2 ^ 32) (hll : ∀ l ∈ lines, l.length < 2 ^ 32) :
    (if endsWithNL (lines.getLast?.getD []) = true then lines.length + 1 else lines.length) < 2 ^ 32
    ∧ (if endsWithNL (lines.getLast?.getD []) = true then 0 else (lines.getLast?.getD []).length) < 2 ^ 32 := by
  have hlast : (lines.getLast?.getD []).length < 2 ^ 32 := by
    rw [List.getLast?_eq_some_getLast hne]; exact hll _ (List.getLast_mem hne)
  exact ⟨ite_lt hlen (Nat.lt_of_succ_lt hlen), ite_lt (Nat.two_pow_pos 32) hlast⟩

/-- **`stream_chunks_of_source_map_full` cannot panic**, whatever the map: for every text below 4 GiB and every list of decoded
segments (any order, any columns, any source / name indices, lines anywhere in `u32`) each checked site — the three
`line_with_indices_list[current_generated_line - 1]`, the `u32` increments, the `len() - 1` — succeeds, and the result is the
total model's. -/
theorem streamSMFullC_eq (t : Text) (sm : SMap) (hlen : (splitLines t).length + 1 < 2 ^ 32)
    (hll : ∀ l ∈ splitLines t, l.length < 2 ^ 32) (hm : ∀ m ∈ decode sm.mappings, m.gl < 2 ^ 32) :
    streamSMFullC t sm = some (streamSMFull t sm) := by
  unfold streamSMFullC streamSMFull
  dsimp only
  by_cases he : (splitLines t).isEmpty = true
  · simp only [if_pos he]
  · have hne : splitLines t ≠ [] := fun h => he (by rw [h]; rfl)
    obtain ⟨hfl, hfc⟩ := lastInfo_lt (splitLines t) hne hlen hll
    simp only [if_neg he, sub_of_le (List.length_pos_iff.2 hne), idx_last _ [] hne, Nat.mod_eq_of_lt hfl, Nat.mod_eq_of_lt hfc]
    rw [smFullGoC_eq (splitLines t) _ _ _ {} (Nat.le_refl 1) (by
      intro m hmem
      rcases List.mem_append.1 hmem with h | h
      · exact hm m h
      · rw [List.mem_singleton.1 h]; exact hfl)]


theorem smLinesFullGoC_eq (lines : List Text) (hlen : lines.length + 1 < 2 ^ 32) : ∀ (ms : List Mapping) (cur : Nat), 1 ≤ cur →
    smLinesFullGoC lines cur ms = some (smLinesFullGo lines cur ms) ∧ 1 ≤ (smLinesFullGo lines cur ms).2 := by
  intro ms
  induction ms with
  | nil => intro cur h; exact ⟨rfl, h⟩
  | cons m ms ih =>
    intro cur h1
    rw [smLinesFullGoC, smLinesFullGo]
    cases m.orig with
    | none => exact ih cur h1
    | some o =>
      dsimp only
      split
      · exact ih cur h1
      · next hc =>
        simp only [Bool.or_eq_true, decide_eq_true_eq, not_or, Nat.not_lt] at hc
        have hmax : max cur m.gl = m.gl := Nat.max_eq_right hc.1
        have h1' : 1 ≤ m.gl := Nat.le_trans h1 hc.1
        have h32 : m.gl + 1 < 2 ^ 32 := Nat.lt_of_le_of_lt (Nat.add_le_add_right hc.2 1) hlen
        obtain ⟨e, o1⟩ := ih (m.gl + 1) (Nat.le_add_left 1 _)
        simp only [smWholeC_eq lines m.gl (Nat.lt_of_succ_lt h32) _ cur h1 (Nat.le_refl _), hmax, sub_of_le h1', idx_line h1' hc.2,
          add32_of_lt h32, e]
        exact ⟨trivial, o1⟩

theorem lineLoopInfo_eq (lines : List Text) (hne : lines ≠ []) (hlen : lines.length + 1 < 2 ^ 32) (hll : ∀ l ∈ lines, l.length < 2 ^ 32) :
    lineLoopInfo lines = ⟨(if endsWithNL (lines.getLast?.getD []) = true then lines.length + 1 else lines.length) % 2 ^ 32,
      (if endsWithNL (lines.getLast?.getD []) = true then 0 else (lines.getLast?.getD []).length) % 2 ^ 32⟩ := by
  obtain ⟨h1, h2⟩ := lastInfo_lt lines hne hlen hll
  rw [Nat.mod_eq_of_lt h1, Nat.mod_eq_of_lt h2, lineLoopInfo, List.getLast?_eq_some_getLast hne]
  dsimp only [Option.getD_some]
  split <;> rfl

/-- **`stream_chunks_of_source_map_lines_full` cannot panic**, whatever the map -/
theorem streamSMLinesFullC_eq (t : Text) (sm : SMap) (hlen : (splitLines t).length + 1 < 2 ^ 32)
    (hll : ∀ l ∈ splitLines t, l.length < 2 ^ 32) :
    streamSMLinesFullC t sm = some (streamSMLinesFull t sm) := by
  unfold streamSMLinesFullC streamSMLinesFull
  dsimp only
  by_cases he : (splitLines t).isEmpty = true
  · simp only [if_pos he]
  · have hne : splitLines t ≠ [] := fun h => he (by rw [h]; rfl)
    obtain ⟨e, o1⟩ := smLinesFullGoC_eq (splitLines t) hlen (decode sm.mappings) 1 (Nat.le_refl _)
    simp only [if_neg he, e, smWholeC_eq (splitLines t) _ hlen _ _ o1 (Nat.le_refl _), sub_of_le (List.length_pos_iff.2 hne), idx_last _ [] hne,
      lineLoopInfo_eq (splitLines t) hne hlen hll]


theorem smLinesFinalGoC_eq (fl : Nat) (hfl : fl + 1 < 2 ^ 32) : ∀ (ms : List Mapping) (cur : Nat),
    smLinesFinalGoC fl cur ms = some (smLinesFinalGo fl cur ms) := by
  intro ms
  induction ms with
  | nil => intro cur; rfl
  | cons m ms ih =>
    intro cur
    rw [smLinesFinalGoC, smLinesFinalGo]
    cases m.orig with
    | none => exact ih cur
    | some o =>
      dsimp only
      split
      · next hc =>
        simp only [Bool.and_eq_true, decide_eq_true_eq] at hc
        simp only [add32_of_lt (Nat.lt_of_le_of_lt (Nat.add_le_add_right hc.2 1) hfl), ih]
      · exact ih cur

theorem genInfo_line_pos (t : Text) : 1 ≤ (genInfo t).line := by
  unfold genInfo
  dsimp only
  split
  · exact Nat.le_add_left 1 _
  · exact Nat.le_max_right _ _

theorem genInfo_line_le (t : Text) : (genInfo t).line ≤ (splitLines t).length + 1 := by
  unfold genInfo
  dsimp only
  split
  · exact Nat.le_refl _
  · exact Nat.max_le.2 ⟨Nat.le_add_right _ _, Nat.le_add_left _ _⟩

/-- **`stream_chunks_of_source_map_lines_final` cannot panic**, whatever the map (the `result.generated_line - 1` and the
`mapping.generated_line + 1`) -/
theorem streamSMLinesFinalC_eq (t : Text) (sm : SMap) (hlen : (splitLines t).length + 2 < 2 ^ 32) :
    streamSMLinesFinalC t sm = some (streamSMLinesFinal t sm) := by
  have h1 := genInfo_line_pos t
  have h2 : (genInfo t).line + 1 < 2 ^ 32 := Nat.lt_of_le_of_lt (Nat.add_le_add_right (genInfo_line_le t) 1) hlen
  unfold streamSMLinesFinalC streamSMLinesFinal
  dsimp only
  by_cases he : ((genInfo t).line == 1 && (genInfo t).col == 0) = true
  · simp only [if_pos he]
  · by_cases hc : ((genInfo t).col == 0) = true
    · simp only [if_neg he, if_pos hc, sub_of_le h1, smLinesFinalGoC_eq _ ((Nat.sub_add_cancel h1).symm ▸ Nat.lt_of_succ_lt h2)]
    · simp only [if_neg he, if_neg hc, smLinesFinalGoC_eq _ h2]


theorem rawChunksC_eq : ∀ (ts : List Text) (l : Nat), l + ts.length < 2 ^ 32 → rawChunksC l ts = some (rawChunks l ts, l + ts.length) := by
  intro ts
  induction ts with
  | nil => intro l _; rfl
  | cons t ts ih =>
    intro l h
    rw [List.length_cons, ← Nat.add_assoc, Nat.add_right_comm] at h
    rw [rawChunksC, rawChunks, add32_of_lt (Nat.lt_of_le_of_lt (Nat.le_add_right _ _) h)]
    simp only [ih (l + 1) h, List.length_cons, Nat.add_assoc, Nat.add_comm 1]

/-- the `GeneratedInfo` after a line loop that counted from 1 (`line - 1` when the last line is open, its length `as u32`) is
`lineLoopInfo` -/
theorem lineLoopC_eq (ls : List Text) (hll : ∀ l ∈ ls, l.length < 2 ^ 32) (evs : List Ev) :
    (match ls.getLast? with
      | some last =>
        if (!endsWithNL last) = true then
          match sub (1 + ls.length) 1 with
          | none => none
          | some l => some (⟨evs, ⟨l, last.length % 2 ^ 32⟩⟩ : SResult)
        else some ⟨evs, ⟨1 + ls.length, 0⟩⟩
      | none => some ⟨evs, ⟨1 + ls.length, 0⟩⟩) = some ⟨evs, lineLoopInfo ls⟩ := by
  unfold lineLoopInfo
  cases hl : ls.getLast? with
  | none => rw [List.getLast?_eq_none_iff.1 hl]; rfl
  | some last =>
    dsimp only
    rw [sub_of_le (Nat.le_add_right 1 _), Nat.mod_eq_of_lt (hll last (List.mem_of_getLast? hl)), Nat.add_sub_cancel_left,
      Nat.add_comm 1]
    cases endsWithNL last <;> rfl

/-- **`stream_chunks_of_raw_source` cannot panic** (`line += 1`, `line - 1`) -/
theorem streamRawC_eq (t : Text) (o : Opts) (hlen : (splitLines t).length + 1 < 2 ^ 32) (hll : ∀ l ∈ splitLines t, l.length < 2 ^ 32) :
    streamRawC t o = some (streamRaw t o) := by
  unfold streamRawC streamRaw
  split
  · rfl
  · dsimp only
    rw [rawChunksC_eq (splitLines t) 1 (by omega)]
    exact lineLoopC_eq (splitLines t) hll _

/-- **the four map-driven splitters cannot panic**: every text below 4 GiB, every map — unsorted, segments outside the text,
source and name indices outside the tables — both column settings, both modes -/
theorem streamSMC_eq (t : Text) (sm : SMap) (o : Opts) (hlen : (splitLines t).length + 2 < 2 ^ 32)
    (hll : ∀ l ∈ splitLines t, l.length < 2 ^ 32) (hm : ∀ m ∈ decode sm.mappings, m.gl < 2 ^ 32) :
    streamSMC t sm o = some (streamSM t sm o) := by
  have hlen' : (splitLines t).length + 1 < 2 ^ 32 := Nat.lt_of_succ_lt hlen
  unfold streamSMC streamSM
  rcases o with ⟨c, f⟩
  -- the text-less splitter with columns has no checked site (`streamSMC` returns the total model's value): `dsimp only` closes that case
  cases c <;> cases f <;> dsimp only
  · exact streamSMLinesFullC_eq t sm hlen' hll
  · exact streamSMLinesFinalC_eq t sm hlen
  · exact streamSMFullC_eq t sm hlen' hll hm

end Chk
end Rs
