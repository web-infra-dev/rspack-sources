import RsModel.Model.ConcV
import RsModel.Lemmas.Replace
import RsModel.Lemmas.ColdStrip
/-!
# The value-carrying protocol of concurrent readers: invariants for every interleaving (C18)

* every answer of `sorted_replacement()` is the stably sorted replacement list, every clone is a consistent `RState`;
* **linearisability** of the shared CachedSource: in every reachable state the calls completed so far, in the order of their
  deciding accesses, are a run of the *sequential* model (`runRoot3`) from the initial store, with exactly the answers returned,
  ending in exactly the current store — so everything proved about sequential call histories (C10) holds for the answers of
  concurrent calls;
* a stored entry is never removed or replaced.
-/
namespace Rs.ConcV
open Rs

theorem filter_of_get_none (σ : Store) (k : Nat × Opts) (h : σ.get? k = none) : σ.filter (fun e => !(e.1 == k)) = σ := by
  rw [List.filter_eq_self]
  intro e he
  have hf : σ.find? (fun e => e.1 == k) = none := Option.map_eq_none_iff.mp h
  simpa using List.find?_eq_none.mp hf e he

theorem insertForce_of_vacant (σ : Store) (k : Nat × Opts) (v : Option SMap) (h : σ.get? k = none) :
    σ.insertForce k v = σ.insertNew k v := by
  unfold Store.insertForce Store.insertNew
  rw [filter_of_get_none σ k h, h]
  rfl

/-- over a cache-free source, `map()` on the wrapper is `or_insert` of the source's own map: the answer is what the entry holds afterwards -/
theorem rootCall3_map (id : Nat) (inner : Src) (hnc : inner.NoCached) (col : Bool) (σ : Store) :
    rootCall3 id inner (.io (col, .map)) σ = (.io (.map ((σ.get? (id, ⟨col, false⟩)).getD (inner.map ⟨col, false⟩ []).1)),
      σ.insertNew (id, ⟨col, false⟩) (inner.map ⟨col, false⟩ []).1) := by
  simp only [rootCall3, rootCall2, Src.map]
  rw [Src.map_nc inner _ σ hnc]
  cases hg : σ.get? (id, ⟨col, false⟩) with
  | some e => simp only [Store.insertNew, hg, Option.isSome_some, if_true, Option.getD_some]
  | none => rfl

/-- the end of a `map()` that missed is the sequential `map()` on the store as it is then (`or_insert`) -/
theorem mapStore_eq_perform (P : Params) (hnc : P.inner.NoCached) (sh : Shared) (col : Bool) :
    mapStore P sh col = perform P sh (.io (col, .map)) := by
  unfold mapStore perform
  rw [rootCall3_map P.id P.inner hnc, Src.map_nc P.inner _ sh.σ hnc]
  simp only [get_insertNew, Option.getD_some]

/-- the end of a `stream_chunks` that found its entry vacant is the sequential call, *provided the entry is still vacant* -/
theorem streamStore_eq_perform (P : Params) (hnc : P.inner.NoCached) (sh : Shared) (col : Bool)
    (hv : sh.σ.get? (P.id, ⟨col, false⟩) = none) :
    streamStore P sh col = perform P sh (.io (col, .stream)) := by
  unfold streamStore perform rootCall3 rootCall2
  simp only [Src.stream, hv]
  rw [(Src.stream_nc P.inner ⟨col, false⟩ sh.σ hnc).1, insertForce_of_vacant _ _ _ hv]

theorem runRoot3_append (id : Nat) (inner : Src) (c : RCall3) : ∀ (cs : List RCall3) (σ : Store),
    runRoot3 id inner (cs ++ [c]) σ =
      ((runRoot3 id inner cs σ).1 ++ [(c, (rootCall3 id inner c (runRoot3 id inner cs σ).2).1)],
       (rootCall3 id inner c (runRoot3 id inner cs σ).2).2)
  | [], _ => rfl
  | d :: ds, σ => by simp only [List.cons_append, runRoot3]; rw [runRoot3_append id inner c ds]

/-- over a cache-free source every `map()` / `stream_chunks` on the wrapper is an `or_insert` into its entry, as far as the store goes -/
theorem rootCall3_store (id : Nat) (inner : Src) (hnc : inner.NoCached) (c : RCall3) (σ : Store) :
    (rootCall3 id inner c σ).2 = σ ∨ ∃ col kind v, c = .io (col, kind) ∧ (rootCall3 id inner c σ).2 = σ.insertNew (id, ⟨col, false⟩) v := by
  cases c with
  | src | buffer | size => exact .inl rfl
  | io c2 =>
    obtain ⟨col, kind⟩ := c2
    cases kind with
    | map => exact .inr ⟨col, .map, _, rfl, congrArg Prod.snd (rootCall3_map id inner hnc col σ)⟩
    | stream =>
      simp only [rootCall3, rootCall2, Src.stream]
      cases hg : σ.get? (id, ⟨col, false⟩) with
      | some e => cases e <;> exact .inl rfl
      | none => exact .inr ⟨col, .stream, _, rfl, by rw [(Src.stream_nc inner _ σ hnc).1]⟩

theorem rootCall3_keeps (id : Nat) (inner : Src) (hnc : inner.NoCached) (c : RCall3) (σ : Store) (k : Nat × Opts) (v : Option SMap)
    (h : σ.get? k = some v) : (rootCall3 id inner c σ).2.get? k = some v := by
  rcases rootCall3_store id inner hnc c σ with e | ⟨_, _, _, _, e⟩
  · rw [e]; exact h
  · rw [e]; exact insertNew_mono σ k _ v _ h

theorem rootCall3_other_key (id : Nat) (inner : Src) (hnc : inner.NoCached) (c : RCall3) (σ : Store) (col : Bool)
    (hc : ∀ k, c = .io (col, k) → False) (h : σ.get? (id, ⟨col, false⟩) = none) :
    (rootCall3 id inner c σ).2.get? (id, ⟨col, false⟩) = none := by
  rcases rootCall3_store id inner hnc c σ with e | ⟨col2, kind, _, rfl, e⟩
  · rw [e]; exact h
  · rw [e, get_insertNew_other _ _ _ _ fun ek => hc kind (by cases ek; rfl)]; exact h

def AnsOK (P : Params) (R : List Repl) (sh : Shared) : Ans → Prop
  | .sorted rs => rs = sortRepls R
  | .cloned c => c.repls = R ∧ c.Inv
  | .call c a => (c, a) ∈ sh.log
  | .once v => v = P.hv

structure SInv (P : Params) (R : List Repl) (σ0 : Store) (sh : Shared) : Prop where
  repls : sh.r.repls = R
  flagIdx : sh.r.isSorted = true → sh.r.sorted = sortRepls R
  lockVacant : ∀ c, (sh.lockOf c).isSome = true → sh.σ.get? (P.id, ⟨c, false⟩) = none
  once : sh.once = none ∨ sh.once = some P.hv
  /-- linearisation: the completed CachedSource calls are a sequential run from `σ0` with these answers, ending in this store -/
  lin : runRoot3 P.id P.inner (sh.log.map Prod.fst) σ0 = (sh.log, sh.σ)

structure TInv (P : Params) (R : List Repl) (sh : Shared) (i : Nat) (t : Thread) : Prop where
  outs : ∀ a ∈ t.outs, AnsOK P R sh a
  sorted2 : t.ops.head? = some .sorted → t.pc ≥ 2 → sh.r.sorted = sortRepls R
  clone1 : t.ops.head? = some .clone → t.pc ≥ 1 → t.sawFlag = true → sh.r.sorted = sortRepls R
  clone2 : t.ops.head? = some .clone → t.pc ≥ 2 → t.sawFlag = true → t.gotIdx = sortRepls R
  holder : ∀ c, sh.lockOf c = some i ↔ (t.ops.head? = some (.call (.io (c, .stream))) ∧ t.pc ≥ 1)

/-- what a step of thread `i` may change, as far as the other threads are concerned -/
structure Mono (R : List Repl) (i : Nat) (a b : Shared) : Prop where
  sorted : a.r.sorted = sortRepls R → b.r.sorted = sortRepls R
  log : ∀ x ∈ a.log, x ∈ b.log
  lock : ∀ c j, j ≠ i → (b.lockOf c = some j ↔ a.lockOf c = some j)
  entry : ∀ k v, a.σ.get? k = some v → b.σ.get? k = some v

theorem Mono.refl (R : List Repl) (i : Nat) (a : Shared) : Mono R i a a :=
  ⟨id, fun _ h => h, fun _ _ _ => Iff.rfl, fun _ _ h => h⟩

theorem Mono.trans {R : List Repl} {i : Nat} {a b c : Shared} (h : Mono R i a b) (h' : Mono R i b c) : Mono R i a c :=
  ⟨fun x => h'.sorted (h.sorted x), fun x hx => h'.log x (h.log x hx), fun k j hj => (h'.lock k j hj).trans (h.lock k j hj),
    fun k v hk => h'.entry k v (h.entry k v hk)⟩

theorem ansOK_mono (P : Params) (R : List Repl) (i : Nat) (a b : Shared) (hm : Mono R i a b) (x : Ans) (h : AnsOK P R a x) :
    AnsOK P R b x := by
  cases x with
  | call c r => exact hm.log _ h
  | _ => exact h

theorem tinv_other (P : Params) (R : List Repl) (sh sh' : Shared) (i j : Nat) (hne : j ≠ i) (t : Thread) (hm : Mono R i sh sh')
    (h : TInv P R sh j t) : TInv P R sh' j t :=
  ⟨fun a ha => ansOK_mono P R i sh sh' hm a (h.outs a ha), fun a b => hm.sorted (h.sorted2 a b),
   fun a b c => hm.sorted (h.clone1 a b c), h.clone2, fun c => (hm.lock c j hne).trans (h.holder c)⟩

@[simp] theorem lockOf_setLock (sh : Shared) (c c' : Bool) (v : Option Nat) :
    (sh.setLock c v).lockOf c' = if c = c' then v else sh.lockOf c' := by
  cases c <;> cases c' <;> rfl

@[simp] theorem setLock_r (sh : Shared) (c : Bool) (v : Option Nat) : (sh.setLock c v).r = sh.r := by
  cases c <;> rfl
@[simp] theorem setLock_σ (sh : Shared) (c : Bool) (v : Option Nat) : (sh.setLock c v).σ = sh.σ := by
  cases c <;> rfl
@[simp] theorem setLock_log (sh : Shared) (c : Bool) (v : Option Nat) : (sh.setLock c v).log = sh.log := by
  cases c <;> rfl
@[simp] theorem setLock_once (sh : Shared) (c : Bool) (v : Option Nat) : (sh.setLock c v).once = sh.once := by
  cases c <;> rfl

@[simp] theorem perform_lockOf (P : Params) (sh : Shared) (c : RCall3) (col : Bool) : (perform P sh c).1.lockOf col = sh.lockOf col := by
  cases col <;> rfl
@[simp] theorem perform_r (P : Params) (sh : Shared) (c : RCall3) : (perform P sh c).1.r = sh.r := rfl
@[simp] theorem perform_once (P : Params) (sh : Shared) (c : RCall3) : (perform P sh c).1.once = sh.once := rfl
theorem perform_log (P : Params) (sh : Shared) (c : RCall3) : (perform P sh c).1.log = sh.log ++ [(c, (perform P sh c).2)] := rfl
theorem perform_σ (P : Params) (sh : Shared) (c : RCall3) : (perform P sh c).1.σ = (rootCall3 P.id P.inner c sh.σ).2 := rfl

theorem setLock_spec {P : Params} {R : List Repl} {σ0 : Store} {sh : Shared} {i : Nat} {col : Bool} {v : Option Nat}
    (hS : SInv P R σ0 sh) (hold : ∀ j, sh.lockOf col = some j → j = i)
    (hnew : ∀ j, v = some j → j = i ∧ sh.σ.get? (P.id, ⟨col, false⟩) = none) :
    SInv P R σ0 (sh.setLock col v) ∧ Mono R i sh (sh.setLock col v) := by
  refine ⟨⟨?_, ?_, fun c hc => ?_, ?_, ?_⟩, ?_, ?_, fun c j hj => ?_, ?_⟩
  · rw [setLock_r]; exact hS.repls
  · rw [setLock_r]; exact hS.flagIdx
  · rw [setLock_σ]
    rw [lockOf_setLock] at hc
    split at hc
    next e => obtain ⟨j, rfl⟩ := Option.isSome_iff_exists.mp hc; exact e ▸ (hnew j rfl).2
    · exact hS.lockVacant c hc
  · rw [setLock_once]; exact hS.once
  · rw [setLock_log, setLock_σ]; exact hS.lin
  · rw [setLock_r]; exact id
  · rw [setLock_log]; exact fun _ h => h
  · rw [lockOf_setLock]
    split
    next e => exact iff_of_false (fun e' => hj (hnew j e').1) (fun e' => hj (hold j (e ▸ e')))
    · exact Iff.rfl
  · rw [setLock_σ]; exact fun _ _ h => h

/-! `TInv` by the current operation: the fields that speak of another operation hold vacuously. -/
section
variable {P : Params} {R : List Repl} {sh : Shared} {i pc : Nat} {rest : List Op} {sf : Bool} {gi : List Repl} {outs : List Ans}

theorem TInv.sorted (houts : ∀ a ∈ outs, AnsOK P R sh a) (h2 : pc ≥ 2 → sh.r.sorted = sortRepls R)
    (hl : ∀ c, sh.lockOf c ≠ some i) : TInv P R sh i ⟨.sorted :: rest, pc, sf, gi, outs⟩ :=
  ⟨houts, fun _ => h2, nofun, nofun, fun c => iff_of_false (hl c) (nomatch ·.1)⟩

theorem TInv.clone (houts : ∀ a ∈ outs, AnsOK P R sh a) (h1 : pc ≥ 1 → sf = true → sh.r.sorted = sortRepls R)
    (h2 : pc ≥ 2 → sf = true → gi = sortRepls R) (hl : ∀ c, sh.lockOf c ≠ some i) :
    TInv P R sh i ⟨.clone :: rest, pc, sf, gi, outs⟩ :=
  ⟨houts, nofun, fun _ => h1, fun _ => h2, fun c => iff_of_false (hl c) (nomatch ·.1)⟩

theorem TInv.stream {col : Bool} (houts : ∀ a ∈ outs, AnsOK P R sh a) (hl : ∀ c, sh.lockOf c = some i ↔ (c = col ∧ pc ≥ 1)) :
    TInv P R sh i ⟨.call (.io (col, .stream)) :: rest, pc, sf, gi, outs⟩ :=
  ⟨houts, nofun, nofun, nofun, fun c => (hl c).trans ⟨fun h => ⟨h.1 ▸ rfl, h.2⟩, fun h => ⟨by cases h.1; rfl, h.2⟩⟩⟩

theorem TInv.plain {op : Op} (h1 : op ≠ .sorted) (h2 : op ≠ .clone) (h3 : ∀ c, op ≠ .call (.io (c, .stream)))
    (houts : ∀ a ∈ outs, AnsOK P R sh a) (hl : ∀ c, sh.lockOf c ≠ some i) : TInv P R sh i ⟨op :: rest, pc, sf, gi, outs⟩ :=
  ⟨houts, fun h => absurd (Option.some.inj h) h1, fun h => absurd (Option.some.inj h) h2, fun h => absurd (Option.some.inj h) h2,
    fun c => iff_of_false (hl c) fun h => h3 c (Option.some.inj h.1)⟩
end

theorem TInv.finish {P : Params} {R : List Repl} {sh sh' : Shared} {i : Nat} {t : Thread} {a : Ans} (hm : Mono R i sh sh')
    (houts : ∀ x ∈ t.outs, AnsOK P R sh x) (ha : AnsOK P R sh' a) (hl : ∀ c, sh'.lockOf c ≠ some i) :
    TInv P R sh' i (t.finish a) := by
  refine ⟨fun x hx => ?_, fun _ h => (Nat.not_succ_le_zero _ h).elim, fun _ h => (Nat.not_succ_le_zero _ h).elim,
    fun _ h => (Nat.not_succ_le_zero _ h).elim, fun c => iff_of_false (hl c) fun h => (Nat.not_succ_le_zero _ h.2).elim⟩
  rcases List.mem_append.mp hx with hx | hx
  · exact ansOK_mono P R i sh sh' hm x (houts x hx)
  · cases List.mem_singleton.mp hx; exact ha

/-- a call decided by one access (a hit, a text view, the end of a `map()` that missed, the store of a `stream_chunks` whose lock
has been released), by a thread that holds no entry lock -/
theorem perform_finish_spec (P : Params) (hnc : P.inner.NoCached) (R : List Repl) (σ0 : Store) (sh : Shared) (i : Nat) (t : Thread)
    (c : RCall3) (hS : SInv P R σ0 sh) (houts : ∀ a ∈ t.outs, AnsOK P R sh a) (hnl : ∀ col, sh.lockOf col ≠ some i)
    (hown : ∀ col k, c = .io (col, k) → (sh.lockOf col).isSome = false) :
    SInv P R σ0 (perform P sh c).1 ∧ TInv P R (perform P sh c).1 i (t.finish (.call c (perform P sh c).2))
      ∧ Mono R i sh (perform P sh c).1 := by
  have hm : Mono R i sh (perform P sh c).1 :=
    ⟨id, fun x hx => List.mem_append_left _ hx, fun _ _ _ => Iff.rfl, rootCall3_keeps P.id P.inner hnc c sh.σ⟩
  refine ⟨⟨hS.repls, hS.flagIdx, fun col hl => ?_, hS.once, ?_⟩,
    .finish hm houts (List.mem_append_right _ (List.mem_singleton.mpr rfl)) hnl, hm⟩
  · -- a locked entry is another column setting's, which the call leaves vacant
    replace hl : (sh.lockOf col).isSome = true := hl
    exact rootCall3_other_key P.id P.inner hnc c sh.σ col (fun k e => by rw [hown col k e] at hl; cases hl) (hS.lockVacant col hl)
  · rw [perform_log, List.map_append, List.map_cons, List.map_nil, runRoot3_append, hS.lin]; rfl

theorem free_of_not_blocked {sh : Shared} {i : Nat} {col : Bool} (hb : ¬blocked sh i col = true) (hl : sh.lockOf col ≠ some i) :
    sh.lockOf col = none := by
  unfold blocked at hb
  cases h : sh.lockOf col with
  | none => rfl
  | some j =>
    rw [h] at hb hl
    exact absurd (by simpa using hb) hl

theorem perform_setLock (P : Params) (sh : Shared) (c : RCall3) (col : Bool) (v : Option Nat) :
    (perform P (sh.setLock col v) c).1 = (perform P sh c).1.setLock col v ∧ (perform P (sh.setLock col v) c).2 = (perform P sh c).2 := by
  cases col <;> exact ⟨rfl, rfl⟩

/- By operation and program counter (the cases of `pc` in increasing order).  With the thread given by its fields `stepThread`
computes, so `hs` names `sh'` and `t'`. -/
theorem stepThread_spec (P : Params) (hnc : P.inner.NoCached) (R : List Repl) (σ0 : Store) (sh : Shared) (i : Nat) (t : Thread)
    (sh' : Shared) (t' : Thread) (hS : SInv P R σ0 sh) (hT : TInv P R sh i t) (hs : stepThread P sh i t = some (sh', t')) :
    SInv P R σ0 sh' ∧ TInv P R sh' i t' ∧ Mono R i sh sh' := by
  obtain ⟨ops, pc, sf, gi, outs⟩ := t
  have houts : ∀ a ∈ outs, AnsOK P R sh a := hT.outs
  cases ops with
  | nil => cases hs
  | cons op rest =>
  cases op with
  | sorted =>
    have hnl : ∀ c, sh.lockOf c ≠ some i := fun c h => nomatch ((hT.holder c).mp h).1
    rcases pc with _ | _ | _ | n
    · cases hs
      -- the index is read next only if the flag was seen set
      have h2 : (if sh.r.isSorted = true then 3 else 1) ≥ 2 → sh.r.sorted = sortRepls R := by
        cases hf : sh.r.isSorted with
        | true => exact fun _ => hS.flagIdx hf
        | false => exact fun h => absurd h (by decide)
      exact ⟨hS, .sorted houts h2 hnl, .refl R i sh⟩
    · cases hs
      have hsorted : sortRepls sh.r.repls = sortRepls R := by rw [hS.repls]
      exact ⟨⟨hS.repls, fun _ => hsorted, hS.lockVacant, hS.once, hS.lin⟩, .sorted houts (fun _ => hsorted) hnl,
        fun _ => hsorted, fun _ h => h, fun _ _ _ => Iff.rfl, fun _ _ h => h⟩
    · cases hs
      have hsd := hT.sorted2 rfl (Nat.le_refl 2)
      exact ⟨⟨hS.repls, fun _ => hsd, hS.lockVacant, hS.once, hS.lin⟩, .sorted houts (fun _ => hsd) hnl,
        id, fun _ h => h, fun _ _ _ => Iff.rfl, fun _ _ h => h⟩
    · cases hs
      exact ⟨hS, .finish (.refl R i sh) houts (hT.sorted2 rfl (Nat.le_add_left 2 (n + 1))) hnl, .refl R i sh⟩
  | clone =>
    have hnl : ∀ c, sh.lockOf c ≠ some i := fun c h => nomatch ((hT.holder c).mp h).1
    rcases pc with _ | _ | n
    · cases hs
      exact ⟨hS, .clone houts (fun _ hf => hS.flagIdx hf) (fun h => (Nat.not_succ_le_zero _ (Nat.le_of_succ_le_succ h)).elim) hnl,
        .refl R i sh⟩
    · cases hs
      have hidx := hT.clone1 rfl (Nat.le_refl 1)
      exact ⟨hS, .clone houts (fun _ => hidx) (fun _ => hidx) hnl, .refl R i sh⟩
    · cases hs
      refine ⟨hS, .finish (.refl R i sh) houts ⟨hS.repls, fun hf => ?_⟩ hnl, .refl R i sh⟩
      exact (hT.clone2 rfl (Nat.le_add_left 2 n) hf).trans (congrArg sortRepls hS.repls.symm)
  | once =>
    have hnl : ∀ c, sh.lockOf c ≠ some i := fun c h => nomatch ((hT.holder c).mp h).1
    have hv : sh.once.getD P.hv = P.hv := by rcases hS.once with h | h <;> rw [h] <;> rfl
    rcases pc with _ | n
    · simp only [stepThread] at hs
      cases ho : sh.once with
      | some v =>
        rw [ho] at hs hv; cases hs
        exact ⟨hS, .finish (.refl R i sh) houts hv hnl, .refl R i sh⟩
      | none =>
        rw [ho] at hs; cases hs
        exact ⟨hS, .plain nofun nofun nofun houts hnl, .refl R i sh⟩
    · cases hs
      have hm : Mono R i sh { sh with once := some (sh.once.getD P.hv) } := ⟨id, fun _ h => h, fun _ _ _ => Iff.rfl, fun _ _ h => h⟩
      exact ⟨⟨hS.repls, hS.flagIdx, hS.lockVacant, .inr (congrArg some hv), hS.lin⟩, .finish hm houts hv hnl, hm⟩
  | call c =>
    cases c with
    | src | buffer | size =>
      have hnl : ∀ c, sh.lockOf c ≠ some i := fun c h => nomatch ((hT.holder c).mp h).1
      cases hs
      exact perform_finish_spec P hnc R σ0 sh i _ _ hS houts hnl nofun
    | io c2 =>
      obtain ⟨col, kind⟩ := c2
      cases kind with
      | map =>
        have hnl : ∀ c, sh.lockOf c ≠ some i := fun c h => nomatch ((hT.holder c).mp h).1
        simp only [stepThread] at hs
        split at hs
        · cases hs
        next hb =>
        have hfree := free_of_not_blocked hb (hnl col)
        have hown : ∀ col' k, RCall3.io (col, .map) = .io (col', k) → (sh.lockOf col').isSome = false :=
          fun col' k e => by cases e; rw [hfree]; rfl
        rcases pc with _ | _ | n
        · cases hg : sh.σ.get? (P.id, ⟨col, false⟩) with
          | some e =>
            rw [hg] at hs; cases hs
            exact perform_finish_spec P hnc R σ0 sh i _ _ hS houts hnl hown
          | none =>
            rw [hg] at hs; cases hs
            exact ⟨hS, .plain nofun nofun nofun houts hnl, .refl R i sh⟩
        · cases hs
          exact ⟨hS, .plain nofun nofun nofun houts hnl, .refl R i sh⟩
        · cases hs
          rw [mapStore_eq_perform P hnc sh col]
          exact perform_finish_spec P hnc R σ0 sh i _ _ hS houts hnl hown
      | stream =>
        simp only [stepThread] at hs
        split at hs
        · cases hs
        next hb =>
        -- thread `i` holds the lock of `c` exactly if `c = col` and it is past its first access
        have hh : ∀ c, sh.lockOf c = some i ↔ (c = col ∧ pc ≥ 1) := fun c =>
          (hT.holder c).trans ⟨fun h => ⟨by cases h.1; rfl, h.2⟩, fun h => ⟨h.1 ▸ rfl, h.2⟩⟩
        rcases pc with _ | _ | n
        · have hnl : ∀ c, sh.lockOf c ≠ some i := fun c h => (Nat.not_succ_le_zero _ ((hh c).mp h).2).elim
          have hfree := free_of_not_blocked hb (hnl col)
          cases hg : sh.σ.get? (P.id, ⟨col, false⟩) with
          | some e =>
            rw [hg] at hs; cases hs
            exact perform_finish_spec P hnc R σ0 sh i _ _ hS houts hnl (fun col' k e => by cases e; rw [hfree]; rfl)
          | none =>
            rw [hg] at hs; cases hs
            obtain ⟨hS', hm⟩ := setLock_spec (i := i) (col := col) (v := some i) hS (fun j e => by rw [hfree] at e; cases e)
              (fun j e => ⟨(Option.some.inj e).symm, hg⟩)
            refine ⟨hS', .stream (fun a ha => ansOK_mono P R i sh _ hm a (houts a ha)) (fun c => ?_), hm⟩
            rw [lockOf_setLock]
            split
            next e => exact iff_of_true rfl ⟨e.symm, Nat.le_refl 1⟩
            next e => exact iff_of_false (hnl c) (fun h => e h.1.symm)
        · cases hs
          exact ⟨hS, .stream houts (fun c => (hh c).trans ⟨fun h => ⟨h.1, Nat.le_succ 1⟩, fun h => ⟨h.1, Nat.le_refl 1⟩⟩), .refl R i sh⟩
        · cases hs
          -- this thread holds the lock of `col`, so the entry is still vacant and the unconditional store is the sequential call
          have hheld : sh.lockOf col = some i := (hh col).mpr ⟨rfl, Nat.le_add_left 1 (n + 1)⟩
          have hvac : sh.σ.get? (P.id, ⟨col, false⟩) = none := hS.lockVacant col (by rw [hheld]; rfl)
          obtain ⟨e1, e2⟩ := perform_setLock P sh (.io (col, .stream)) col none
          rw [streamStore_eq_perform P hnc sh col hvac, ← e1, ← e2]
          obtain ⟨hS0, hm0⟩ := setLock_spec (i := i) (col := col) (v := none) hS
            (fun j e => by rw [hheld] at e; exact (Option.some.inj e).symm) nofun
          obtain ⟨h1, h2, h3⟩ := perform_finish_spec P hnc R σ0 (sh.setLock col none) i ⟨_, n + 2, sf, gi, outs⟩ (.io (col, .stream)) hS0
            (fun a ha => ansOK_mono P R i sh _ hm0 a (houts a ha))
            (fun c h => by
              rw [lockOf_setLock] at h
              split at h
              · cases h
              next e => exact e ((hh c).mp h).1.symm)
            (fun col' k e => by cases e; rw [lockOf_setLock, if_pos rfl]; rfl)
          exact ⟨h1, h2, hm0.trans h3⟩

structure Inv (P : Params) (R : List Repl) (σ0 : Store) (s : Sys) : Prop where
  sh : SInv P R σ0 s.sh
  lockValid : ∀ c k, s.sh.lockOf c = some k → k < s.ths.length
  threads : ∀ i (h : i < s.ths.length), TInv P R s.sh i s.ths[i]

theorem step_eq {P : Params} {s s' : Sys} {i : Nat} (hs : step P s i = some s') :
    ∃ (hi : i < s.ths.length) (sh' : Shared) (t' : Thread),
      stepThread P s.sh i s.ths[i] = some (sh', t') ∧ s' = { sh := sh', ths := s.ths.set i t' } := by
  unfold step at hs
  split at hs
  · cases hs
  next t hti =>
    obtain ⟨hi, rfl⟩ := List.getElem?_eq_some_iff.mp hti
    obtain ⟨⟨sh', t'⟩, hst, rfl⟩ := Option.map_eq_some_iff.mp hs
    exact ⟨hi, sh', t', hst, rfl⟩

theorem step_spec (P : Params) (hnc : P.inner.NoCached) (R : List Repl) (σ0 : Store) (s s' : Sys) (i : Nat)
    (h : Inv P R σ0 s) (hs : step P s i = some s') : Inv P R σ0 s' ∧ Mono R i s.sh s'.sh := by
  obtain ⟨hi, sh', t', hst, rfl⟩ := step_eq hs
  obtain ⟨hS', hT', hm⟩ := stepThread_spec P hnc R σ0 s.sh i _ sh' t' h.sh (h.threads i hi) hst
  refine ⟨⟨hS', fun c k hl => ?_, fun j hj => ?_⟩, hm⟩
  · rw [List.length_set]
    by_cases hki : k = i
    · exact hki ▸ hi
    · exact h.lockValid c k ((hm.lock c k hki).mp hl)
  · rw [List.length_set] at hj
    rw [List.getElem_set]
    split
    next hji => exact hji ▸ hT'
    next hji => exact tinv_other P R s.sh sh' i j (Ne.symm hji) _ hm (h.threads j hj)

theorem run_spec (P : Params) (hnc : P.inner.NoCached) (R : List Repl) (σ0 : Store) (sched : List Nat) :
    ∀ s : Sys, Inv P R σ0 s →
      Inv P R σ0 (run P s sched) ∧ ∀ k v, s.sh.σ.get? k = some v → (run P s sched).sh.σ.get? k = some v := by
  induction sched with
  | nil => exact fun s h => ⟨h, fun _ _ hv => hv⟩
  | cons i is ih =>
    intro s h
    rw [run]
    cases hs : step P s i with
    | none => exact ih s h
    | some s' =>
      obtain ⟨h', hm⟩ := step_spec P hnc R σ0 s s' i h hs
      exact ⟨(ih s' h').1, fun k v hv => (ih s' h').2 k v (hm.entry k v hv)⟩

theorem inv_run (P : Params) (hnc : P.inner.NoCached) (R : List Repl) (σ0 : Store) (sched : List Nat) :
    ∀ s : Sys, Inv P R σ0 s → Inv P R σ0 (run P s sched) :=
  fun s h => (run_spec P hnc R σ0 sched s h).1

theorem inv_init (P : Params) (r : RState) (hr : r.Inv) (σ : Store) (progs : List (List Op)) :
    Inv P r.repls σ (initSys r σ progs) := by
  refine ⟨⟨rfl, hr, fun c h => ?_, .inl rfl, rfl⟩, fun c k h => ?_, fun i hi => ?_⟩
  · cases c <;> cases h
  · cases c <;> cases h
  · simp only [initSys, List.getElem_map]
    exact ⟨fun _ h => (nomatch h), fun _ h => (Nat.not_succ_le_zero _ h).elim, fun _ h => (Nat.not_succ_le_zero _ h).elim,
      fun _ h => (Nat.not_succ_le_zero _ h).elim, fun c => iff_of_false (by cases c <;> nofun) fun h => (Nat.not_succ_le_zero _ h.2).elim⟩

theorem inv_reach (P : Params) (hnc : P.inner.NoCached) (r : RState) (hr : r.Inv) (σ : Store) (progs : List (List Op))
    (sched : List Nat) : Inv P r.repls σ (run P (initSys r σ progs) sched) :=
  inv_run P hnc r.repls σ sched _ (inv_init P r hr σ progs)

theorem Inv.outs {P : Params} {R : List Repl} {σ0 : Store} {s : Sys} (h : Inv P R σ0 s) :
    ∀ t ∈ s.ths, ∀ a ∈ t.outs, AnsOK P R s.sh a := by
  intro t ht
  obtain ⟨i, hi, rfl⟩ := List.getElem_of_mem ht
  exact (h.threads i hi).outs

theorem stepThread_isSome (P : Params) (sh : Shared) (i : Nat) (t : Thread) (hne : t.ops ≠ [])
    (hnb : ∀ col k, t.ops.head? = some (.call (.io (col, k))) → blocked sh i col = false) :
    (stepThread P sh i t).isSome = true := by
  -- the branches that return `none`: no operation left, `map` blocked, `stream_chunks` blocked
  fun_cases stepThread P sh i t
  case case1 h => exact absurd h hne
  case case9 col _ hop hb | case14 col _ hop hb => exact nomatch (hnb col _ (congrArg List.head? hop)).symm.trans hb
  all_goals rfl

/-- **no deadlock, with both column settings**: in every state satisfying the invariant, if some thread has work left then some
thread can take a step — the holder of an entry lock is never blocked (it waits for no other lock: a `stream_chunks` of a cache-free
wrapped source touches no other entry), and when no lock is held nobody is -/
theorem no_deadlock_of_inv (P : Params) (R : List Repl) (σ0 : Store) (s : Sys) (h : Inv P R σ0 s)
    (hwork : ∃ t ∈ s.ths, t.ops ≠ []) : ∃ i, (step P s i).isSome = true := by
  obtain ⟨i, hi, hne, hnb⟩ : ∃ i, ∃ hi : i < s.ths.length, s.ths[i].ops ≠ [] ∧
      ∀ col k, s.ths[i].ops.head? = some (.call (.io (col, k))) → blocked s.sh i col = false := by
    by_cases hheld : ∃ c k, s.sh.lockOf c = some k
    · -- the holder is a live thread in a `stream_chunks(c)` past its first access
      obtain ⟨c, k, hl⟩ := hheld
      have hk := h.lockValid c k hl
      have hhead := (((h.threads k hk).holder c).mp hl).1
      refine ⟨k, hk, fun e => (by rw [e] at hhead; cases hhead), fun col kind hhd => ?_⟩
      cases hhead.symm.trans hhd
      unfold blocked; rw [hl]; simp
    · obtain ⟨t, ht, hne⟩ := hwork
      obtain ⟨i, hi, rfl⟩ := List.getElem_of_mem ht
      refine ⟨i, hi, hne, fun col _ _ => ?_⟩
      unfold blocked
      cases hlc : s.sh.lockOf col with
      | none => rfl
      | some j => exact absurd ⟨col, j, hlc⟩ hheld
  refine ⟨i, ?_⟩
  simp only [step, List.getElem?_eq_getElem hi, Option.isSome_map]
  exact stepThread_isSome P s.sh i _ hne hnb

theorem run_append (P : Params) (s : Sys) (a b : List Nat) : run P s (a ++ b) = run P (run P s a) b := by
  induction a generalizing s with
  | nil => rfl
  | cons i is ih => exact ih _

theorem runRoot3_keeps (id : Nat) (inner : Src) (hnc : inner.NoCached) (k : Nat × Opts) (v : Option SMap) : ∀ (calls : List RCall3) (σ : Store),
    σ.get? k = some v → (runRoot3 id inner calls σ).2.get? k = some v
  | [], _, h => h
  | c :: cs, σ, h => runRoot3_keeps id inner hnc k v cs _ (rootCall3_keeps id inner hnc c σ k v h)

/-- every `map(col)` of a sequential run returned the entry the run ends with: it answers what it leaves in the entry
(`rootCall3_map`), and entries stay -/
theorem map_answers_final (id : Nat) (inner : Src) (hnc : inner.NoCached) (col : Bool) : ∀ (calls : List RCall3) (σ : Store),
    ∀ p ∈ (runRoot3 id inner calls σ).1, p.1 = .io (col, .map) →
      ∃ m, p.2 = .io (.map m) ∧ (runRoot3 id inner calls σ).2.get? (id, ⟨col, false⟩) = some m := by
  intro calls
  induction calls with
  | nil => exact fun σ p hp => nomatch hp
  | cons c cs ih =>
    intro σ p hp hc
    rcases List.mem_cons.mp hp with rfl | hp
    · cases (hc : c = _)
      refine ⟨_, congrArg Prod.fst (rootCall3_map id inner hnc col σ), runRoot3_keeps id inner hnc _ _ cs _ ?_⟩
      rw [rootCall3_map id inner hnc col σ]
      exact get_insertNew ..
    · exact ih _ p hp hc

theorem map_answers_agree (id : Nat) (inner : Src) (hnc : inner.NoCached) (col : Bool) : ∀ (calls : List RCall3) (σ : Store),
    ∀ p ∈ (runRoot3 id inner calls σ).1, ∀ q ∈ (runRoot3 id inner calls σ).1,
      p.1 = .io (col, .map) → q.1 = .io (col, .map) → p.2 = q.2 := by
  intro calls σ p hp q hq hpc hqc
  obtain ⟨m, ep, hm⟩ := map_answers_final id inner hnc col calls σ p hp hpc
  obtain ⟨n, eq, hn⟩ := map_answers_final id inner hnc col calls σ q hq hqc
  cases hm.symm.trans hn
  exact ep.trans eq.symm

end Rs.ConcV
