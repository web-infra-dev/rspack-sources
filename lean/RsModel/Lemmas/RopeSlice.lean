import RsModel.Lemmas.RopeSearch
/-!
# Rope: `byte_slice` cuts exactly the window of the flat string, with `str`'s char-boundary rule

`Rope.WF` is `Inv` together with: no piece begins inside a character (`pieceOK`, RopePos; `wf_iff`).  `Cut c x P` is the shape of
every answer here: success with `P` when the cut is at char boundaries, the error of `str::get` otherwise.  `byteSlice_spec` is the
theorem for in-range windows (`byteSlice_reversed`, `byteSlice_endOOB` for the others), `sliceUnsafeOK_spec` the bound on the two
unchecked piece indices (C19); the constructors keep `WF` (`wf_new`, `wf_append`, `wf_add`, `wf_fromIter`).
-/
namespace Rs
namespace Rope

def WF : Rope → Prop
  | .light s => pieceOK s = true
  | .full ps => OffsOK 0 ps ∧ PiecesOK ps

theorem WF.inv {r : Rope} (h : r.WF) : r.Inv := by
  cases r with
  | light s => trivial
  | full ps => exact h.1

/-- How the cutting operations answer.  `c` says that the cut is at char boundaries: then `x` succeeds, with a result that
satisfies `P`; otherwise `x` is the failure of `str::get`. -/
def Cut {α : Type} (c : Bool) (x : Except SliceErr α) (P : α → Prop) : Prop :=
  (c = true → ∃ out, x = .ok out ∧ P out) ∧ (c = false → x = .error .boundary)

namespace Cut
variable {α β : Type} {c c' : Bool} {P : α → Prop}

theorem map {x : Except SliceErr α} {Q : β → Prop} {f : α → β} (h : Cut c x P) (hf : ∀ out, P out → Q (f out)) :
    Cut c (x.map f) Q :=
  ⟨fun hc => let ⟨out, e, p⟩ := h.1 hc; ⟨f out, e ▸ rfl, hf out p⟩, fun hc => h.2 hc ▸ rfl⟩

theorem ok {y : α} (h : P y) : Cut true (.ok y) P := ⟨fun _ => ⟨y, rfl, h⟩, nofun⟩

theorem error : Cut false (.error .boundary) P := ⟨nofun, fun _ => rfl⟩

end Cut

theorem sliceGo_tail (ps : List (Text × Nat)) (hoff : OffsOK 0 ps) (hp : PiecesOK ps) (k0 k1 a b e : Nat) (h1 : At ps k1 e b) :
    ∀ (n i l : Nat), k0 < i → i ≤ k1 → i + n = k1 + 1 →
      Cut (isBoundary (flat ps) b) (sliceGo ps k0 k1 a b n i l) fun out =>
        flat out = bsub (flat ps) (total (ps.take i)) b ∧ OffsOK l out ∧ PiecesOK out := by
  intro n
  induction n with
  | zero => intro i l _ h2 h3; exact absurd h2 (Nat.not_le.2 (Nat.lt_of_succ_le (Nat.le_of_eq h3.symm)))
  | succ n ih =>
    intro i l h0 h2 h3
    have hi : i < ps.length := Nat.lt_of_le_of_lt h2 h1.idx
    unfold sliceGo
    simp only [(At.start hi).get hoff, if_neg (Nat.ne_of_gt h0)]
    by_cases hik : i = k1
    · subst hik
      obtain rfl : n = 0 := Nat.succ.inj (Nat.add_left_cancel h3)
      rw [if_pos rfl, h1.sub, h1.bget_to hp]
      cases isBoundary (flat ps) b
      · exact Cut.error
      · exact Cut.ok ⟨by rw [flat_cons, flat_nil, List.append_nil], ⟨rfl, trivial⟩,
          (piecesOK_cons _ _).2 ⟨pieceOK_bsub _ _ _ (pieceOK_flat ps hp) (isBoundary_border ps hp i), piecesOK_nil⟩⟩
    · have hlt := Nat.lt_of_le_of_ne h2 hik
      rw [if_neg hik]
      exact (ih (i + 1) _ (Nat.lt_succ_of_lt h0) hlt ((Nat.succ_add_eq_add_succ i n).trans h3)).map fun out ⟨e2, e3, e4⟩ =>
        ⟨by rw [flat_cons, e2, bsub_piece_cons ps i b hi (h1.start_le hlt)], ⟨rfl, e3⟩,
          (piecesOK_cons _ _).2 ⟨piecesOK_getD ps hp i hi, e4⟩⟩

/-- the `try_for_each` of `get_byte_slice_impl` on a window that starts in piece `k0` and ends in a later piece `k1` -/
theorem sliceGo_window (ps : List (Text × Nat)) (hoff : OffsOK 0 ps) (hp : PiecesOK ps) (k0 k1 a b s e l : Nat)
    (h0 : At ps k0 s a) (h1 : At ps k1 e b) (hk : k0 < k1) :
    Cut (isBoundary (flat ps) a && isBoundary (flat ps) b) (sliceGo ps k0 k1 a b (k1 + 1 - k0) k0 l) fun out =>
      flat out = bsub (flat ps) a b ∧ OffsOK l out ∧ PiecesOK out := by
  rw [Nat.succ_sub (Nat.le_of_lt hk)]
  unfold sliceGo
  simp only [h0.get hoff, if_pos, h0.sub, h0.bget_from hp]
  cases hba : isBoundary (flat ps) a
  · exact Cut.error
  · exact (sliceGo_tail ps hoff hp k0 k1 a b e h1 (k1 - k0) (k0 + 1) _ (Nat.lt_succ_self k0) hk
      (by rw [Nat.add_right_comm, Nat.add_sub_cancel' (Nat.le_of_lt hk)])).map fun out ⟨e2, e3, e4⟩ => ⟨by rw [flat_cons, e2, ← bsub_split _ _ _ _ h0.le_stop (h1.start_le hk)], ⟨rfl, e3⟩,
        (piecesOK_cons _ _).2 ⟨pieceOK_bsub _ _ _ (pieceOK_flat ps hp) hba, e4⟩⟩

/-- **`byte_slice(a..b)` on an in-range window**: succeeds exactly when both ends are char boundaries of the flat
string, and then renders to that window and is again a well-formed rope -/
theorem byteSlice_spec (r : Rope) (h : r.WF) (a b : Nat) (hab : a ≤ b) (hb : b ≤ r.render.length) :
    ((isBoundary r.render a && isBoundary r.render b) = true →
        ∃ r', byteSlice r a b = .ok r' ∧ r'.render = bsub r.render a b ∧ r'.WF)
    ∧ ((isBoundary r.render a && isBoundary r.render b) = false → byteSlice r a b = .error .boundary) := by
  have hlen := len_eq_render r h.inv
  show Cut _ _ _
  unfold byteSlice
  rw [if_neg (Nat.not_lt.2 hab), if_neg (Nat.not_lt.2 (hlen ▸ hb))]
  cases r with
  | light s =>
    simp only [render] at hb ⊢
    rw [bget_eq s a b hab hb]
    cases hbd : isBoundary s a && isBoundary s b
    · exact Cut.error
    · exact Cut.ok ⟨rfl, pieceOK_bsub s a b h (Bool.and_eq_true_iff.1 hbd).1⟩
  | full ps =>
    obtain ⟨hoff, hp⟩ := h
    rw [render_full] at hb ⊢
    rw [flat_length] at hb
    by_cases hemp : ps = []
    · subst hemp
      obtain rfl : b = 0 := Nat.le_zero.1 hb
      obtain rfl : a = 0 := Nat.le_zero.1 hab
      exact Cut.ok ⟨rfl, rfl⟩
    · simp only [List.isEmpty_iff, hemp, if_false]
      obtain ⟨s, h0, _⟩ := startChunk_spec ps hoff hemp a (Nat.le_trans hab hb)
      obtain ⟨e, h1⟩ := endChunk_spec ps hoff hemp b hb
      generalize startChunk ps a = k0 at h0 ⊢
      generalize endChunk ps b = k1 at h1 ⊢
      by_cases hk : k0 = k1
      · subst hk
        simp only [if_pos, h0.get hoff, h0.sub, h1.sub,
          h0.bget hp h1 (Nat.le_of_add_le_add_left (h0.off ▸ h1.off ▸ hab))]
        cases hbd : isBoundary (flat ps) a && isBoundary (flat ps) b
        · exact Cut.error
        · exact Cut.ok ⟨rfl, pieceOK_bsub _ a b (pieceOK_flat ps hp) (Bool.and_eq_true_iff.1 hbd).1⟩
      · rw [if_neg hk]
        by_cases hlt : k1 < k0
        · -- the searches cross only for an empty window that sits on a piece border
          rw [if_pos hlt]
          have hT := Nat.le_trans h1.le_stop (total_take_le ps _ _ hlt)
          have ha := h0.start_le (Nat.le_refl k0)
          obtain rfl : a = b := Nat.le_antisymm hab (Nat.le_trans hT ha)
          obtain rfl : a = total (ps.take k0) := Nat.le_antisymm hT ha
          rw [isBoundary_border ps hp k0]
          exact Cut.ok ⟨(bsub_self _ _).symm, rfl⟩
        · rw [if_neg hlt]
          exact (sliceGo_window ps hoff hp k0 k1 a b s e 0 h0 h1 (Nat.lt_of_le_of_ne (Nat.le_of_not_lt hlt) hk)).map fun _ h => h

theorem byteSlice_reversed (r : Rope) (a b : Nat) (h : a > b) : byteSlice r a b = .error .reversed := by
  simp [byteSlice, h]

theorem byteSlice_endOOB (r : Rope) (hi : r.Inv) (a b : Nat) (h1 : a ≤ b) (h2 : b > r.render.length) : byteSlice r a b = .error .endOOB := by
  unfold byteSlice
  rw [if_neg (Nat.not_lt.2 h1), if_pos (by rw [len_eq_render r hi]; exact h2)]

/-- the `get_unchecked` calls of `get_byte_slice_impl` are reached with in-range indices -/
theorem sliceUnsafeOK_spec (r : Rope) (h : r.WF) (a b : Nat) (hab : a ≤ b) (hb : b ≤ r.render.length) : sliceUnsafeOK r a b = true := by
  cases r with
  | light s => rfl
  | full ps =>
    obtain ⟨hoff, _⟩ := h
    rw [render_full, flat_length] at hb
    unfold sliceUnsafeOK
    by_cases hemp : ps = []
    · subst hemp; rfl
    · obtain ⟨_, s1, _⟩ := startChunk_spec ps hoff hemp a (Nat.le_trans hab hb)
      obtain ⟨_, e1⟩ := endChunk_spec ps hoff hemp b hb
      simp only [List.isEmpty_iff, hemp, if_false]
      split
      · exact decide_eq_true s1.idx
      · split
        · rfl
        · exact decide_eq_true e1.idx

theorem wf_iff (r : Rope) : r.WF ↔ r.Inv ∧ ∀ c ∈ r.pieces, pieceOK c = true := by
  cases r with
  | light s => simp [WF, Inv, pieces]
  | full ps => simp [WF, Inv, pieces, PiecesOK]

theorem wf_new : Rope.new.WF := rfl

theorem pieces_append (a b : Rope) : ∀ c ∈ (a.append b).pieces, c ∈ a.pieces ∨ c ∈ b.pieces := by
  intro c hc
  rcases append_cases a b with ⟨e, _⟩ | ⟨e, _⟩ | ⟨os', e, h1, _⟩
  · exact .inl (e ▸ hc)
  · exact .inr (e ▸ hc)
  · rw [e, pieces, List.map_append, asFull_pieces, h1] at hc
    exact List.mem_append.1 hc

theorem wf_append (a b : Rope) (ha : a.WF) (hb : b.WF) : (a.append b).WF :=
  (wf_iff _).2 ⟨inv_append a b ha.inv hb.inv, fun c hc =>
    (pieces_append a b c hc).elim (((wf_iff a).1 ha).2 c) (((wf_iff b).1 hb).2 c)⟩

theorem wf_add (r : Rope) (v : Text) (h : r.WF) (hv : pieceOK v = true) : (r.add v).WF := by
  rw [add_eq_append]; exact wf_append r (.light v) h hv

theorem fromIterGo_pieces (l : Nat) (cs : List Text) (h : ∀ c ∈ cs, pieceOK c = true) : PiecesOK (fromIterGo l cs) := by
  induction cs generalizing l with
  | nil => exact piecesOK_nil
  | cons c cs ih =>
    obtain ⟨hc, hcs⟩ := List.forall_mem_cons.1 h
    unfold fromIterGo
    split
    · exact ih l hcs
    · exact (piecesOK_cons _ _).2 ⟨hc, ih _ hcs⟩

theorem wf_fromIter (cs : List Text) (h : ∀ c ∈ cs, pieceOK c = true) : (fromIter cs).WF :=
  ⟨inv_fromIter cs, fromIterGo_pieces 0 cs h⟩

end Rope
end Rs
