import RsModel.Lemmas.ChunksTok
import RsModel.Lemmas.TreeText
import RsModel.Lemmas.HasText
import RsModel.Lemmas.PosReplace
import RsModel.Lemmas.PosComb
/-!
# C02 for whole source trees

`Src.PosHyp c` is the domain, `StoreHyp` what is asked of the entries earlier calls left in the store for the CachedSource nodes of the
tree (`Src.ids`, `Src.cachedNodes`: TreeWalk); `Src.stream_posOK` is the theorem, in normal mode, by recursion on the tree.
-/
namespace Rs

mutual
/-- what the property's quantifier provides: SourceMapSource texts (and texts replayed by a CachedSource) are ASCII and carry maps
whose segments lie inside them; the output of a ReplaceSource is shorter than `2^32` bytes -/
def Src.PosHyp (c : Bool) : Src → Prop
  | .sms t _ map _ _ _ => IsAscii t ∧ t.length ≤ USIZE_MAX ∧ (c = true → MapInside t map)
  | .concat cs => cs.PosHyps c
  | .replace inner rs => inner.PosHyp c ∧ (replaceSource inner.src rs).length + 1 < 2 ^ 32
  | .cached _ inner => inner.PosHyp c ∧ IsAscii inner.src ∧ inner.src.length ≤ USIZE_MAX
  | _ => True
def SrcList.PosHyps (c : Bool) : SrcList → Prop
  | .nil => True
  | .cons s r => s.PosHyp c ∧ r.PosHyps c
end

/-- whatever earlier calls cached for the nodes of this tree are maps inside the texts they are replayed on -/
def StoreHyp (c : Bool) (σ : Store) (nodes : List (Nat × Src)) : Prop :=
  ∀ p ∈ nodes, ∀ m, σ.get? (p.1, ⟨c, false⟩) = some (some m) → c = true → MapInside p.2.src m

theorem StoreHyp.after {c : Bool} {σ : Store} {nodes : List (Nat × Src)} (h : StoreHyp c σ nodes) (s : Src) (o : Opts)
    (hd : ∀ a ∈ s.ids, ∀ b ∈ nodes.map (·.1), a ≠ b) : StoreHyp c (s.stream o σ).2 nodes := by
  intro p hp m hm
  rw [Src.stream_store_other s o σ _ (fun hmem => hd p.1 hmem p.1 (List.mem_map_of_mem hp) rfl)] at hm
  exact h p hp m hm

mutual
/-- **C02 for every tree** (normal mode): all chunks at their true positions, end information exact -/
theorem Src.stream_posOK : ∀ (s : Src) (c : Bool) (σ : Store), s.WF → s.PosHyp c → s.ids.Nodup → StoreHyp c σ s.cachedNodes →
    PosOK (s.stream ⟨c, false⟩ σ).1
  | .raw _ _ lossy | .rawBuf _ lossy => fun c _ _ _ _ _ => streamRaw_posOK lossy c
  | .rawStr t => fun c _ _ _ _ _ => streamRaw_posOK t c
  | .orig t name => fun c _ _ _ _ _ => streamOriginal_posOK t name c
  | .sms t name map origSrc inner remove => fun c _ _ hp _ _ => by
    have hsm := streamSM_posOK t map c hp.1 hp.2.1 hp.2.2
    cases inner with
    | none => exact hsm
    | some im => exact streamCombined_posOK t map name origSrc im remove c hsm
  | .concat cs => fun c σ hw hp hn hs => by
    have h := SrcList.streams_posOK cs c σ hw hp hn hs
    rw [Src.concat_stream]
    exact concatNode_of (concatStream_posOK _ h) h
  | .replace inner rs => fun c σ hw hp hn hs => by
    refine replaceStream_posOK (sortRepls rs) _ (Src.stream_posOK inner c σ hw.1 hp.1 hn hs) (Src.stream_tok inner c σ) (Src.stream_tl inner c σ) ?_
    rw [replaceStream_text _ _ (fun r hr => hw.2 r ((mem_sortRepls rs r).1 hr)), Src.stream_text inner c σ hw.1, ← replaceSource_eq]
    exact hp.2
  | .cached id inner => fun c σ hw hp hn hs => by
    cases hg : Store.get? σ (id, ⟨c, false⟩) with
    | none =>
      rw [Src.cached_stream_cold id inner _ σ hg]
      exact Src.stream_posOK inner c σ hw.1 hp.1 (List.nodup_cons.1 hn).2 (fun p hpm => hs p (List.mem_cons_of_mem _ hpm))
    | some v =>
      rw [Src.cached_stream_hit id inner _ σ v hg]
      cases v with
      | none => exact streamRaw_posOK inner.src c
      | some m => exact streamSM_posOK inner.src m c hp.2.1 hp.2.2 (fun hc => hs (id, inner) List.mem_cons_self m hg hc)
theorem SrcList.streams_posOK : ∀ (l : SrcList) (c : Bool) (σ : Store), l.WFs → l.PosHyps c → l.idsL.Nodup → StoreHyp c σ l.cachedNodesL →
    ∀ r ∈ (l.streams ⟨c, false⟩ σ).1, PosOK r
  | .nil => fun _ _ _ _ _ _ => nofun
  | .cons s rest => fun c σ hw hp hn hs => by
    simp only [SrcList.idsL, SrcList.cachedNodesL, List.map_append] at hn hs
    obtain ⟨hn1, hn2, hdisj⟩ := List.nodup_append.1 hn
    exact List.forall_mem_cons.2 ⟨Src.stream_posOK s c σ hw.1 hp.1 hn1 (fun p hp => hs p (List.mem_append_left _ hp)),
      SrcList.streams_posOK rest c _ hw.2 hp.2 hn2 (StoreHyp.after (fun p hp => hs p (List.mem_append_right _ hp)) s _ hdisj)⟩
end

end Rs
