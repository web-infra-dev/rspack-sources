import RsModel.Lemmas.ModeLeaves
import RsModel.Lemmas.DeclSM
import RsModel.Lemmas.CodecLines
/-!
# C08, columns = false: the line-granular splitters reproduce the map per generated line

`lookupLines segs l` = (source, original line) of the first mapped segment on generated line `l`.

Both streams are closed forms over one function of the line, `smLineOrig` (SMWalk): the normal one carries every line of the text
(`lineEvs`), the text-less one the mapped lines only (`mappedLines`).  So a line of the normal stream answers with `smLineOrig` of it
(`lookupLines_lineEvs`), the text-less stream answers as the normal one whatever the map (`lookupLines_mappedLines`), and for a map
whose lines do not go backwards `smLineOrig` is `lookupLines` in the map (`smLineOrig_lookupLines`).
-/
namespace Rs

theorem chunkMs_origs (P : Orig → Prop) : ∀ (evs : List Ev), ChunkOrigs P evs → ∀ m ∈ chunkMs evs, ∀ o, m.orig = some o → P o
  | [], _, m, hm => nomatch hm
  | e :: es, h, m, hm => by
    obtain ⟨t, m0, rfl, h0⟩ := h e List.mem_cons_self
    rcases List.mem_cons.1 hm with rfl | hm
    · exact h0
    · exact chunkMs_origs P es (fun x hx => h x (List.mem_cons_of_mem _ hx)) m hm

theorem chunkMs_wholeLines (lines : List Text) (a b : Nat) : ∀ m ∈ chunkMs (smWholeLines lines a b), m.orig = none := by
  intro m hm
  cases ho : m.orig with
  | none => rfl
  | some o => exact (chunkMs_origs (fun _ => False) _ (smWholeLines_origs _ lines a b) m hm o ho).elim

theorem smLineOrig_lookupLines (len L : Nat) (hL : L ≤ len) : ∀ (ms : List Mapping) (cur : Nat), linesOK (cur - 1) ms → cur ≤ L →
    (smLineOrig len L cur ms).map (fun o => (o.src, o.line)) = lookupLines ms L
  | [], _, _, _ => rfl
  | m :: ms, cur, ⟨h1, h2⟩, hc => by
    have hrest : linesOK (cur - 1) ms := linesOK_mono h1 ms h2
    rw [lookupLines_cons]
    unfold smLineOrig
    cases ho : m.orig with
    | none => simpa using smLineOrig_lookupLines len L hL ms cur hrest hc
    | some o =>
      dsimp only
      by_cases hs : (decide (m.gl < cur) || decide (m.gl > len)) = true
      · rw [if_pos hs, if_neg (fun h => by simp only [Bool.or_eq_true, decide_eq_true_eq] at hs; omega)]
        exact smLineOrig_lookupLines len L hL ms cur hrest hc
      · rw [if_neg hs]
        by_cases hm : L = m.gl
        · rw [if_pos hm, if_pos ⟨hm.symm, rfl⟩]; rfl
        · rw [if_neg hm, if_neg (fun h => hm h.1.symm)]
          by_cases hlt : L < m.gl
          · -- an earlier line: nothing that follows `m` stands on it
            rw [smLineOrig_lt _ _ _ _ (Nat.lt_succ_of_lt hlt), lookupLines_none L ms fun x hx h => by
              have := linesOK_ge ms m.gl h2 x hx; omega]
            rfl
          · exact smLineOrig_lookupLines len L hL ms (m.gl + 1) (by simpa using h2) (by omega)

theorem lookupLines_lineEvs (g : Nat → Option Orig) (L : Nat) : ∀ (ls : List Text) (l : Nat),
    lookupLines (chunkMs (lineEvs g l ls)) L = if l ≤ L ∧ L < l + ls.length then (g L).map fun o => (o.src, o.line) else none
  | [], l => (if_neg fun h => Nat.not_lt_of_le h.1 h.2).symm
  | t :: ts, l => by
    rw [lineEvs, chunkMs, lookupLines_cons, lookupLines_lineEvs g L ts (l + 1), List.length_cons]
    by_cases hl : l = L
    · subst hl
      rw [if_neg (c := l + 1 ≤ l ∧ _) fun h => Nat.not_succ_le_self l h.1,
        if_pos (c := l ≤ l ∧ _) ⟨Nat.le_refl l, Nat.lt_add_of_pos_right (Nat.succ_pos _)⟩]
      cases g l <;> simp
    · rw [if_neg fun h => hl h.1]
      exact ite_cond_congr (propext (by omega))

/-- the chunks the text-less form leaves out are not mapped, and `lookupLines` passes over unmapped ones -/
theorem lookupLines_mappedLines (g : Nat → Option Orig) (L : Nat) : ∀ (ls : List Text) (l : Nat),
    lookupLines (chunkMs (mappedLines g l ls.length)) L = lookupLines (chunkMs (lineEvs g l ls)) L
  | [], _ => rfl
  | t :: ts, l => by
    have ih := lookupLines_mappedLines g L ts (l + 1)
    rw [List.length_cons, mappedLines_succ, lineEvs, chunkMs]
    cases hg : g l with
    | none => exact ih.trans (lookupLines_cons_of_ne _ _ L (Or.inr rfl)).symm
    | some o => rw [chunkMs, lookupLines_cons, lookupLines_cons, ih]

/-- both streams without columns in closed form, for a text that is not empty (`streamSMLinesFull_eq` of SMWalk covers the empty
text too, and does not say what the announcements are) -/
theorem streamSMLinesFull_evs (t : Text) (sm : SMap) (ht : t ≠ []) : (streamSMLinesFull t sm).evs
    = smSourceEvs sm ++ lineEvs (fun l => smLineOrig (splitLines t).length l 1 (decode sm.mappings)) 1 (splitLines t) := by
  simp only [streamSMLinesFull, splitLines_isEmpty_iff, ht, if_false, List.append_assoc, smLinesFull_eq _ _ 1 (Nat.le_refl 1)]
  rfl

theorem streamSMLinesFinal_evs (t : Text) (sm : SMap) (ht : t ≠ []) : (streamSMLinesFinal t sm).evs
    = smSourceEvs sm ++ mappedLines (fun l => smLineOrig (splitLines t).length l 1 (decode sm.mappings)) 1 (splitLines t).length := by
  simp only [streamSMLinesFinal, genInfo_start_iff, ht, if_false, finalLine_eq t, smLinesFinalGo_eq, Nat.add_sub_cancel]

theorem streamSMLines_ms (t : Text) (sm : SMap) :
    chunkMs (streamSMLinesFull t sm).evs = chunkMs (lineEvs (fun l => smLineOrig (splitLines t).length l 1 (decode sm.mappings)) 1 (splitLines t))
    ∧ chunkMs (streamSMLinesFinal t sm).evs
      = chunkMs (mappedLines (fun l => smLineOrig (splitLines t).length l 1 (decode sm.mappings)) 1 (splitLines t).length) := by
  by_cases ht : t = []
  · subst ht; exact ⟨rfl, rfl⟩
  · rw [streamSMLinesFull_evs t sm ht, streamSMLinesFinal_evs t sm ht, chunkMs_append, chunkMs_append, chunkMs_smSourceEvs]
    exact ⟨rfl, rfl⟩

/-- **C08, columns = false, normal mode**: for every generated line that carries text, the first mapped chunk the splitter
delivers on that line points to the source and original line of the first mapped segment of the map on that line (and there is
none if the map has none); names are dropped -/
theorem streamSMLinesFull_lines (t : Text) (sm : SMap) (hs : sortedFrom 1 0 (decode sm.mappings)) (L : Nat) (h1 : 1 ≤ L) (hL : L ≤ (splitLines t).length) :
    lookupLines (chunkMs (streamSMLinesFull t sm).evs) L = lookupLines (decode sm.mappings) L := by
  rw [(streamSMLines_ms t sm).1, lookupLines_lineEvs, if_pos ⟨h1, Nat.lt_one_add_iff.2 hL⟩]
  exact smLineOrig_lookupLines _ L hL _ 1 (linesOK_mono (Nat.zero_le _) _ (linesOK_of_sorted _ _ _ hs)) h1

/-- **C08, columns = false, text-less mode** -/
theorem streamSMLinesFinal_lines (t : Text) (sm : SMap) (hs : sortedFrom 1 0 (decode sm.mappings)) (L : Nat) (h1 : 1 ≤ L) (hL : L ≤ (splitLines t).length) :
    lookupLines (chunkMs (streamSMLinesFinal t sm).evs) L = lookupLines (decode sm.mappings) L := by
  rw [(streamSMLines_ms t sm).2, lookupLines_mappedLines, ← (streamSMLines_ms t sm).1]
  exact streamSMLinesFull_lines t sm hs L h1 hL

theorem smLines_noNames (t : Text) (sm : SMap) (final : Bool) :
    ∀ m ∈ chunkMs (streamSM t sm ⟨false, final⟩).evs, ∀ o, m.orig = some o → o.name = none := by
  have hg : ∀ l o, smLineOrig (splitLines t).length l 1 (decode sm.mappings) = some o → o.name = none :=
    fun _ _ h => (smLineOrig_some (·.name = none) (fun _ _ _ _ => rfl) h).2.2
  cases final
  · exact (streamSMLines_ms t sm).1 ▸ chunkMs_origs _ _ (lineEvs_origs _ hg _ _)
  · exact (streamSMLines_ms t sm).2 ▸ chunkMs_origs _ _ (mappedLines_origs _ hg _ _)

end Rs
