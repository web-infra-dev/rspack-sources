import RsModel.Lemmas.DeclSM
import RsModel.Lemmas.ConcatWalk
/-! # DeclOK for ConcatSource (either mode): no hypothesis on the children is needed -/
namespace Rs

/-- a name-keyed table that has handed out the indices `0 .. n-1`: `n` keys, every value below `n` -/
structure Dense (m : Assoc) (n : Nat) : Prop where
  len : m.length = n
  val : ∀ k g, m.get? k = some g → g < n

theorem Dense.nil : Dense [] 0 := ⟨rfl, fun _ _ h => nomatch h⟩

theorem Dense.insert {m : Assoc} {n : Nat} (h : Dense m n) {k : Text} (hget : m.get? k = none) : Dense (m.insert k n) (n + 1) := by
  refine ⟨by rw [assoc_length_insert _ _ _ hget, h.len], fun k' g hg => ?_⟩
  by_cases hk : k' = k
  · rw [hk, assoc_get_insert_self _ _ _ hget] at hg
    cases hg; exact Nat.lt_succ_self n
  · rw [assoc_get_insert_other _ _ _ _ hget hk] at hg
    exact Nat.lt_succ_of_lt (h.val k' g hg)

theorem globalName_dense (nm : Assoc) (n : Text) (ns nn : Nat) (h : Dense nm nn) :
    DeclOK ns nn (globalName nm n).2.1 ∧ cntS (globalName nm n).2.1 = 0
    ∧ Dense (globalName nm n).1 (nn + cntN (globalName nm n).2.1) ∧ (globalName nm n).2.2 < nn + cntN (globalName nm n).2.1 := by
  obtain ⟨rfl, hv⟩ := h
  unfold globalName
  cases hget : nm.get? n with
  | some g => exact ⟨trivial, rfl, ⟨rfl, hv⟩, hv n g hget⟩
  | none => exact ⟨⟨rfl, trivial⟩, rfl, Dense.insert ⟨rfl, hv⟩ hget, Nat.lt_succ_self _⟩

theorem globalSource_dense (sm : Assoc) (s : Text) (c : Option Text) (ns nn : Nat) (h : Dense sm ns) :
    DeclOK ns nn (globalSource sm s c).2.1 ∧ cntN (globalSource sm s c).2.1 = 0
    ∧ Dense (globalSource sm s c).1 (ns + cntS (globalSource sm s c).2.1) ∧ (globalSource sm s c).2.2 < ns + cntS (globalSource sm s c).2.1 := by
  obtain ⟨rfl, hv⟩ := h
  unfold globalSource
  cases hget : sm.get? s with
  | some g => exact ⟨trivial, rfl, ⟨rfl, hv⟩, hv s g hget⟩
  | none => exact ⟨⟨rfl, trivial⟩, rfl, Dense.insert ⟨rfl, hv⟩ hget, Nat.lt_succ_self _⟩

/-- the state of ConcatSource after `ns` sources and `nn` names have been announced: both name-keyed tables are dense at that count, and
the per-child index translations point at announced indices -/
structure DInv (st : CSt) (ns nn : Nat) : Prop where
  smap : Dense st.sourceMapping ns
  nmap : Dense st.nameMapping nn
  sim : ∀ g ∈ st.sim, g < ns
  nim : ∀ g ∈ st.nim, g < nn

theorem bound_mono {l : List Nat} {B : Nat} (h : ∀ g ∈ l, g < B) (k : Nat) : ∀ g ∈ l, g < B + k :=
  fun g hg => Nat.lt_of_lt_of_le (h g hg) (Nat.le_add_right B k)

theorem getElem?_mem' {α} (l : List α) (i : Nat) (v : α) (h : l[i]? = some v) : v ∈ l := List.mem_of_getElem? h

theorem CSt.pending_origs (P : Orig → Prop) (st : CSt) (off : Bool) : ChunkOrigs P (st.pending off) := fun _ he =>
  ⟨_, _, (CSt.mem_pending he).1, nofun⟩

/-- the location `concatEv` gives a chunk points into what the tables have numbered -/
theorem DInv.trans_idx {st : CSt} {ns nn : Nat} (hi : DInv st ns nn) {orig : Option Orig} {o : Orig} (ho : trans st.sim st.nim orig = some o) :
    IdxLt ns nn o := by
  obtain ⟨o0, _, hs, _, _, hn⟩ := trans_some ho
  refine ⟨hi.sim _ (List.mem_of_getElem? hs), fun k hk => ?_⟩
  rw [hn] at hk
  cases hn0 : o0.name with
  | none => rw [hn0] at hk; cases hk
  | some n0 => rw [hn0] at hk; exact hi.nim k (List.mem_of_getElem? hk)

/-- the invariant of the walk: what has been delivered announces its indices in order from `(ns, nn)`, and the tables number
exactly what has been announced -/
def DeclInv (ns nn : Nat) (acc : List Ev) (st : CSt) : Prop :=
  DeclOK ns nn acc ∧ DInv st (ns + cntS acc) (nn + cntN acc)

theorem DeclInv.append {ns nn : Nat} {acc evs : List Ev} {st st' : CSt} (h : DeclInv ns nn acc st)
    (h' : DeclOK (ns + cntS acc) (nn + cntN acc) evs ∧ DInv st' (ns + cntS acc + cntS evs) (nn + cntN acc + cntN evs)) :
    DeclInv ns nn (acc ++ evs) st' := by
  unfold DeclInv
  rw [declOK_append, cntS_append, cntN_append, ← Nat.add_assoc, ← Nat.add_assoc]
  exact ⟨⟨h.1, h'.1⟩, h'.2⟩

/-- chunks that point into what is numbered, with the tables left as they are -/
theorem DeclInv.chunks {ns nn : Nat} {acc evs : List Ev} {st st' : CSt} (h : DeclInv ns nn acc st)
    (hc : ChunkOrigs (IdxLt (ns + cntS acc) (nn + cntN acc)) evs) (hs : DInv st' (ns + cntS acc) (nn + cntN acc)) :
    DeclInv ns nn (acc ++ evs) st' :=
  h.append ⟨declOK_chunks _ _ _ hc, by rw [(chunkOrigs_cnt _ _ hc).1, (chunkOrigs_cnt _ _ hc).2]; exact hs⟩

theorem concatEv_decl (final : Bool) {ns nn : Nat} {acc : List Ev} {st : CSt} (h : DeclInv ns nn acc st) (e : Ev) :
    DeclInv ns nn (acc ++ (concatEv final st e).2) (concatEv final st e).1 := by
  cases e with
  | chunk text m =>
    rw [concatEv_chunk]
    exact h.chunks (chunkOrigs_append _ _ _ (st.pending_origs _ _) (chunkOrigs_single _ _ _ fun _ ho => h.2.trans_idx ho))
      ⟨h.2.smap, h.2.nmap, h.2.sim, h.2.nim⟩
  | source i s c =>
    obtain ⟨d, cn, dn, lt⟩ := globalSource_dense st.sourceMapping s c _ (nn + cntN acc) h.2.smap
    refine h.append ⟨d, ?_⟩
    rw [concatEv, cn]
    exact ⟨dn, h.2.nmap, lmInsert_bound _ _ _ _ (bound_mono h.2.sim _) lt, h.2.nim⟩
  | name i n =>
    obtain ⟨d, cs, dn, lt⟩ := globalName_dense st.nameMapping n (ns + cntS acc) _ h.2.nmap
    refine h.append ⟨d, ?_⟩
    rw [concatEv, cs]
    exact ⟨h.2.smap, dn, h.2.sim, lmInsert_bound _ _ _ _ (bound_mono h.2.nim _) lt⟩

theorem concatChild_decl (final : Bool) (ns nn : Nat) (c : SResult) (acc : List Ev) (st : CSt) (h : DeclInv ns nn acc st) :
    DeclInv ns nn (acc ++ (concatChild final st c).2) (concatChild final st c).1 := by
  refine concatChild_walk final (Inv := fun _ => DeclInv ns nn) c (fun acc st h => ?_) (fun e _ _ _ h => concatEv_decl final h e)
    (fun acc st h => ?_) acc st h
  · exact ⟨h.1, h.2.smap, h.2.nmap, nofun, nofun⟩
  · exact h.chunks (st.pending_origs _ _) ⟨h.2.smap, h.2.nmap, h.2.sim, h.2.nim⟩

theorem concatStream_declOK (final : Bool) (children : List SResult) : DeclOK 0 0 (concatStream final children).evs :=
  (concatGo_walk final (Out := fun _ => DeclInv 0 0) (fun c _ => concatChild_decl final 0 0 c) children [] {}
    ⟨trivial, Dense.nil, Dense.nil, nofun, nofun⟩).1

end Rs
