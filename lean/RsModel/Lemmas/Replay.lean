import RsModel.Lemmas.AttrStream
import RsModel.Lemmas.CodecLookup
/-!
# C10 — replaying a stream from the map built out of it reproduces its attribution (columns = true)

`get_map` encodes the chunk mappings of a stream (`mapOfEvs_some`); `CachedSource` later replays the text through the map-driven
splitter with that map.  For any sorted list `ms` of small mappings that lie inside the text, what the decoder gives back of the
stored string is in the domain of C08 (`stored_domain`: a sorted sublist of `ms`), so the replay attributes like a lookup in the
decoded string (`streamSMFull_attr`, in `AttrSM`), which answers like `ms` (`codec_step`).  Which streams deliver such an `ms` is said
in `ReplayMap`.

Vocabulary that other files share is also defined here: the order `mle` on mappings (`sortedFrom_iff`), `prefix_pos` (where a prefix
of a text ends, by lines), `MappedNE` (mapped chunks carry text), and what `mapOfEvs` returns, field by field (`mapOfEvs_some`,
`mapOfEvs_tables`).
-/
namespace Rs

def mle (a b : Mapping) : Prop := a.gl < b.gl ∨ (a.gl = b.gl ∧ a.gc ≤ b.gc)

theorem sortedFrom_iff : ∀ (ms : List Mapping) (l c : Nat),
    sortedFrom l c ms ↔ (∀ x ∈ ms, l < x.gl ∨ (l = x.gl ∧ c ≤ x.gc)) ∧ ms.Pairwise mle
  | [], l, c => by simp [sortedFrom]
  | m :: ms, l, c => by
    rw [List.pairwise_cons]
    constructor
    · intro h
      exact ⟨sortedFrom_all _ l c h, sortedFrom_all ms m.gl m.gc h.2, ((sortedFrom_iff ms m.gl m.gc).1 h.2).2⟩
    · rintro ⟨h1, h2, h3⟩
      exact ⟨h1 m List.mem_cons_self, (sortedFrom_iff ms m.gl m.gc).2 ⟨h2, h3⟩⟩

theorem keptFrom_sublist : ∀ (ms : List Mapping) (e : EncSt), (keptFrom e ms).Sublist ms := by
  intro ms
  induction ms with
  | nil => intro e; exact List.Sublist.slnil
  | cons m ms ih =>
    intro e
    simp only [keptFrom]
    split
    · exact (ih e).cons m
    · exact (ih _).cons_cons m

theorem sortedFrom_sublist (ms ms' : List Mapping) (l c : Nat) (h : sortedFrom l c ms) (hs : ms'.Sublist ms) : sortedFrom l c ms' := by
  rw [sortedFrom_iff] at h ⊢
  exact ⟨fun x hx => h.1 x (hs.subset hx), h.2.sublist hs⟩

theorem prefix_pos {ls : List Text} (h : Lines ls) : ∀ (pre : Text) (l0 : Nat), pre <+: ls.flatten →
    ∃ i c, pre = (ls.take i).flatten ++ (ls.getD i []).take c ∧ adv ⟨l0, 0⟩ pre = ⟨l0 + i, c⟩
      ∧ (i < ls.length → c ≤ width (ls.getD i [])) := by
  -- a prefix of the visible part `t` of the first line `t'` ends in that line, as many columns in as it is long
  have first : ∀ (t t' : Text) (rest : List Text) (pre : Text) (l0 : Nat), (∀ x ∈ t, x ≠ NL) → t <+: t' → width t' = t.length → pre <+: t →
      ∃ i c, pre = ((t' :: rest).take i).flatten ++ ((t' :: rest).getD i []).take c ∧ adv ⟨l0, 0⟩ pre = ⟨l0 + i, c⟩
        ∧ (i < (t' :: rest).length → c ≤ width ((t' :: rest).getD i [])) := fun t t' rest pre l0 hno ht hw hp =>
    ⟨0, pre.length, List.prefix_iff_eq_take.1 (hp.trans ht),
      (adv_noNL pre _ fun x hx => hno x (hp.subset hx)).trans (congrArg (Pos.mk l0) (Nat.zero_add _)),
      fun _ => hw ▸ hp.length_le⟩
  induction h using Lines.rec3 with
  | nil => intro pre l0 hp; obtain rfl := List.prefix_nil.1 hp; exact ⟨0, 0, rfl, rfl, nofun⟩
  | last t _ hno =>
    intro pre l0 hp
    exact first t t [] pre l0 hno (List.prefix_refl t) (width_cases t hno).2 (by rwa [List.flatten_singleton] at hp)
  | step t rest hno hr _ ih =>
    intro pre l0 hp
    rw [List.flatten_cons] at hp
    by_cases hle : pre.length ≤ t.length
    · exact first t (t ++ [NL]) rest pre l0 hno (List.prefix_append _ _) (width_cases t hno).1
        (List.prefix_of_prefix_length_le hp (List.append_assoc t _ _ ▸ List.prefix_append t _) hle)
    · -- past the line break: the rest is a prefix of the lines that follow, one line further down
      obtain ⟨pre', rfl⟩ := List.prefix_of_prefix_length_le (List.prefix_append _ _) hp
        (by rw [List.length_append]; exact Nat.lt_of_not_le hle)
      obtain ⟨i, c, e, ha, hw⟩ := ih pre' (l0 + 1) ((List.prefix_append_right_inj _).1 hp)
      refine ⟨i + 1, c, ?_, ?_, fun h => hw (Nat.lt_of_succ_lt_succ h)⟩
      · rw [List.take_succ_cons, List.flatten_cons, List.getD_cons_succ, List.append_assoc (t ++ [NL]), ← e]
      · rw [adv_append, adv_line t _ hno, ha, Nat.add_right_comm, Nat.add_assoc]

theorem prefix_pos_inside : ∀ (ls : List Text), Lines ls → ∀ (pre : Text) (l0 : Nat), pre <+: ls.flatten →
    l0 ≤ (adv ⟨l0, 0⟩ pre).line
    ∧ ((adv ⟨l0, 0⟩ pre).line - l0 < ls.length → (adv ⟨l0, 0⟩ pre).col ≤ width (ls.getD ((adv ⟨l0, 0⟩ pre).line - l0) [])) := by
  intro ls h pre l0 hp
  obtain ⟨i, c, _, e, hw⟩ := prefix_pos h pre l0 hp
  rw [e]
  dsimp only
  rw [Nat.add_sub_cancel_left]
  exact ⟨Nat.le_add_right _ _, hw⟩

/-- mapped chunks carry text (true of every stream the crate produces: mapped pieces are never zero-width) -/
def MappedNE (evs : List Ev) : Prop := ∀ t m, Ev.chunk (some t) m ∈ evs → m.orig.isSome = true → t ≠ []

theorem segOK_of_take (T : Text) (m : Mapping) (k : Nat) (e : adv startPos (T.take k) = ⟨m.gl, m.gc⟩) (hk : m.orig.isSome = true → k < T.length) :
    SegOK (splitLines T) (adv startPos T).line (adv startPos T).col m := by
  obtain ⟨i1, i2⟩ := prefix_pos_inside (splitLines T) (lines_of_splitLines _) (T.take k) 1
    (by rw [splitLines_join]; exact List.take_prefix _ _)
  rw [show (⟨1, 0⟩ : Pos) = startPos from rfl, e] at i1 i2
  dsimp only at i1 i2
  have hend : adv startPos T = adv ⟨m.gl, m.gc⟩ (T.drop k) := by rw [← e, ← adv_append, List.take_append_drop]
  rw [hend]
  refine ⟨⟨i1, fun hle => i2 (by omega)⟩, fun ho => ?_, ?_⟩
  · rw [List.drop_eq_getElem_cons (hk ho)]
    exact adv_gt _ _ ⟨m.gl, m.gc⟩
  · exact adv_ge _ ⟨m.gl, m.gc⟩

theorem stored_domain (T : Text) (ms : List Mapping) (hsorted : sortedFrom 1 0 ms) (hsmall : ∀ m ∈ ms, m.small)
    (hseg : ∀ m ∈ ms, SegOK (splitLines T) (adv startPos T).line (adv startPos T).col m) (sm : SMap) (hm : sm.mappings = encodeFull ms) :
    sortedFrom 1 0 (decode sm.mappings)
    ∧ ∀ m ∈ decode sm.mappings, SegOK (splitLines T) (adv startPos T).line (adv startPos T).col m := by
  have hsub := keptFrom_sublist ms {}
  rw [hm, decode_encode_sorted _ hsmall hsorted]
  exact ⟨sortedFrom_sublist _ _ 1 0 hsorted hsub, fun m hmem => hseg m (hsub.subset hmem)⟩

theorem mapAcc_ms : ∀ (evs : List Ev) (a : MapAcc), (evs.foldl mapAccEv a).ms.reverse = a.ms.reverse ++ chunkMs evs := by
  intro evs
  induction evs with
  | nil => intro a; simp [chunkMs]
  | cons e es ih =>
    intro a
    rw [List.foldl_cons, ih]
    cases e with
    | chunk t m => simp [mapAccEv, chunkMs]
    | source i s c => simp [mapAccEv, chunkMs]
    | name i n => simp [mapAccEv, chunkMs]

theorem mapOfEvs_some (c : Bool) (evs : List Ev) (sm : SMap) (h : mapOfEvs c evs = some sm) :
    sm.mappings = encodeWith c (chunkMs evs) ∧ sm.sources = (evs.foldl mapAccEv {}).sources
    ∧ sm.sourcesContent = (evs.foldl mapAccEv {}).contents ∧ sm.names = (evs.foldl mapAccEv {}).names ∧ sm.sourceRoot = none := by
  unfold mapOfEvs at h
  dsimp only at h
  split at h
  · cases h
  · simp only [Option.some.injEq] at h
    rw [← h, mapAcc_ms]
    exact ⟨by simp, rfl, rfl, rfl, rfl⟩

theorem mapOfEvs_none' (c : Bool) (evs : List Ev) (h : mapOfEvs c evs = none) : encodeWith c (chunkMs evs) = [] := by
  unfold mapOfEvs at h
  dsimp only at h
  split at h
  · rename_i he
    rw [mapAcc_ms] at he
    simpa using he
  · cases h

theorem mapOfEvs_mappings (evs : List Ev) (sm : SMap) (h : mapOfEvs true evs = some sm) : sm.mappings = encodeFull (chunkMs evs) :=
  (mapOfEvs_some true evs sm h).1

theorem mapOfEvs_mappings_lines (evs : List Ev) (sm : SMap) (h : mapOfEvs false evs = some sm) : sm.mappings = encodeLines (chunkMs evs) :=
  (mapOfEvs_some false evs sm h).1

theorem mapOfEvs_tables (c : Bool) (evs : List Ev) (sm : SMap) (h : mapOfEvs c evs = some sm) :
    sm.sources = (evs.foldl mapAccEv {}).sources ∧ sm.names = (evs.foldl mapAccEv {}).names ∧ sm.sourceRoot = none :=
  have ⟨_, s, _, n⟩ := mapOfEvs_some c evs sm h
  ⟨s, n⟩

theorem mapOfEvs_none (evs : List Ev) (h : mapOfEvs true evs = none) : encodeFull (chunkMs evs) = [] :=
  mapOfEvs_none' true evs h

theorem attrOf_lineEvs_none : ∀ (ls : List Text) (l : Nat), attrOf (lineEvs (fun _ => none) l ls) = List.replicate ls.flatten.length none := by
  intro ls
  induction ls with
  | nil => intro l; rfl
  | cons t ts ih =>
    intro l
    simp only [lineEvs, attrOf, ih, List.flatten_cons, List.length_append, List.replicate_append_replicate]

theorem attrFrom_nil_map : ∀ (t : Text) (p : Pos), attrFrom [] p t = List.replicate t.length none := by
  intro t
  induction t with
  | nil => intro p; rfl
  | cons c cs ih => intro p; simp only [attrFrom, ih, List.length_cons, List.replicate_succ]; rfl

/-- the codec step of C03 (`c03_codec_step`): what `get_map` encodes and a consumer decodes answers every lookup like the encoded list -/
theorem codec_step (ms : List Mapping) (hs : ∀ m ∈ ms, m.small) (h : sortedFrom 1 0 ms) (l c : Nat) :
    lookupCols (decode (encodeFull ms)) l c = lookupCols ms l c := by
  rw [decode_encode_sorted ms hs h, lookupCols_kept ms h]

theorem mapOfEvs_attrFrom (evs : List Ev) (hsmall : ∀ m ∈ chunkMs evs, m.small) (hs : sortedFrom 1 0 (chunkMs evs)) (T : Text) :
    (∀ sm, mapOfEvs true evs = some sm → attrFrom (decode sm.mappings) startPos T = attrFrom (chunkMs evs) startPos T)
    ∧ (mapOfEvs true evs = none → attrFrom (chunkMs evs) startPos T = List.replicate T.length none) := by
  have hstep := codec_step _ hsmall hs
  refine ⟨fun sm hsm => ?_, fun hnone => ?_⟩
  · rw [mapOfEvs_mappings _ sm hsm]
    exact attrFrom_congr _ _ _ _ fun q _ _ => hstep q.line q.col
  · rw [mapOfEvs_none _ hnone] at hstep
    rw [← attrFrom_nil_map T startPos]
    exact attrFrom_congr _ _ _ _ fun q _ _ => (hstep q.line q.col).symm

end Rs
