import RsModel.Lemmas.SMWalk
import RsModel.Lemmas.TreeWalk
import RsModel.Lemmas.ReplaceWalk
import RsModel.Lemmas.CombWalk
import RsModel.Lemmas.ConcatWalk
/-!
# C01, second clause: with `final_source = false` every delivered chunk carries its text

`evsTL evs` = "some event of `evs` is a chunk without text".  It is `false` for every stream of every tree — no
well-formedness assumption at all.
-/
namespace Rs

def evsTL (evs : List Ev) : Bool := evs.any Ev.textless

@[simp] theorem evsTL_nil : evsTL [] = false := rfl
@[simp] theorem evsTL_cons (e : Ev) (es : List Ev) : evsTL (e :: es) = (e.textless || evsTL es) := by simp [evsTL]
@[simp] theorem evsTL_append (a b : List Ev) : evsTL (a ++ b) = (evsTL a || evsTL b) := by simp [evsTL]
@[simp] theorem tl_some (t : Text) (m : Mapping) : (Ev.chunk (some t) m).textless = false := rfl
@[simp] theorem tl_source (i : Nat) (s : Text) (c : Option Text) : (Ev.source i s c).textless = false := rfl
@[simp] theorem tl_name (i : Nat) (n : Text) : (Ev.name i n).textless = false := rfl

theorem evsTL_false_iff (evs : List Ev) : evsTL evs = false ↔ ∀ e ∈ evs, e.textless = false := by
  simp [evsTL]

theorem evsTL_anns {evs : List Ev} (h : ∀ e ∈ evs, e.isChunk = false) : evsTL evs = false := by
  rw [evsTL_false_iff]
  intro e he
  have := h e he
  cases e <;> first | rfl | cases this

theorem evsTL_false_iff_chunk (evs : List Ev) : evsTL evs = false ↔ ∀ m, Ev.chunk none m ∉ evs := by
  rw [evsTL_false_iff]
  refine ⟨fun h m hm => (nomatch h _ hm), fun h e he => ?_⟩
  match e with
  | .chunk none m => exact absurd he (h m)
  | .chunk (some _) _ | .source .. | .name .. => rfl

theorem streamRaw_tl (t : Text) (c : Bool) : evsTL (streamRaw t ⟨c, false⟩).evs = false :=
  (evsTL_false_iff_chunk _).2 fun _ h => nomatch streamRaw_chunk h

theorem streamOriginal_tl (t name : Text) (c : Bool) : evsTL (streamOriginal t name ⟨c, false⟩).evs = false :=
  (evsTL_false_iff_chunk _).2 fun _ h => nomatch streamOriginal_chunk h

theorem streamSM_tl (t : Text) (sm : SMap) (c : Bool) : evsTL (streamSM t sm ⟨c, false⟩).evs = false :=
  (evsTL_false_iff_chunk _).2 fun _ h => nomatch streamSM_chunk h

theorem streamCombined_tl (t : Text) (sm : SMap) (n : Text) (os : Option Text) (im : SMap) (rm : Bool) (c : Bool) :
    evsTL (streamCombined t sm n os im rm ⟨c, false⟩).evs = false :=
  (evsTL_false_iff_chunk _).2 fun _ h => let ⟨m, hm, _⟩ := streamCombined_chunk h; (evsTL_false_iff_chunk _).1 (streamSM_tl t sm c) m hm


/-! ## concat: with `final = false` no closing (textless) chunk is ever produced -/
theorem concatEv_tl (st : CSt) (e : Ev) (h : st.needClose = false) :
    evsTL (concatEv false st e).2 = e.textless ∧ (concatEv false st e).1.needClose = false := by
  cases e with
  | chunk text m => rw [concatEv_chunk, CSt.pending_of_false h]; exact ⟨by cases text <;> rfl, rfl⟩
  | source i s c => exact ⟨evsTL_anns (globalSource_anns _ _ _), h⟩
  | name i n => exact ⟨evsTL_anns (globalName_anns _ _), h⟩

theorem concatStream_tl (children : List SResult) (hc : ∀ c ∈ children, evsTL c.evs = false) :
    evsTL (concatStream false children).evs = false := by
  -- between children and inside a child: nothing textless has been delivered or is still to come, and no close is pending
  refine (concatGo_walk false (Out := fun cs acc st => (∀ c ∈ cs, evsTL c.evs = false) ∧ evsTL acc = false ∧ st.needClose = false)
    (fun c cs acc st ⟨h1, h2⟩ => ⟨fun x hx => h1 x (List.mem_cons_of_mem _ hx), ?_⟩) children [] {} ⟨hc, rfl, rfl⟩).2.1
  exact concatChild_walk false (Out := fun acc st => evsTL acc = false ∧ st.needClose = false)
    (Out' := fun acc st => evsTL acc = false ∧ st.needClose = false)
    (Inv := fun es acc st => evsTL es = false ∧ evsTL acc = false ∧ st.needClose = false) c
    (fun _ _ h => ⟨h1 c List.mem_cons_self, h⟩)
    (fun e es acc st ⟨a, b, d⟩ => by
      obtain ⟨t1, t2⟩ := concatEv_tl st e d
      rw [evsTL_cons, Bool.or_eq_false_iff] at a
      exact ⟨a.2, by rw [evsTL_append, b, t1, a.1]; rfl, t2⟩)
    (fun acc st ⟨_, b, d⟩ => ⟨by rw [CSt.pending_of_false d, List.append_nil]; exact b, by simp [CSt.childEnd, d]⟩)
    acc st h2

theorem replaceStream_tl (sorted : List Repl) (inner : SResult) : evsTL (replaceStream sorted inner).evs = false :=
  (evsTL_false_iff_chunk _).2 fun _ h => by rcases replaceStream_piece h with ⟨_, _, _, _, _, _, _, e⟩ | ⟨_, _, _, e⟩ <;> cases e

theorem Src.tl_facts : Src.StreamFacts (fun _ => True) (fun _ o r => o.final = false → evsTL r.evs = false)
    (fun _ o rs => ∀ r ∈ rs, o.final = false → evsTL r.evs = false) :=
  .allNormal (R := fun _ r => evsTL r.evs = false) streamRaw_tl (fun t name c _ => streamOriginal_tl t name c)
    (fun t _ map _ _ c _ => streamSM_tl t map c) (fun t name map origSrc im remove c _ => streamCombined_tl t map name origSrc im remove c)
    (fun _ _ rs _ => concatStream_tl rs) (fun _ rs _ r _ _ => replaceStream_tl (sortRepls rs) r) (fun _ inner m c _ => streamSM_tl inner.src m c)

theorem Src.stream_tl (s : Src) (c : Bool) (σ : Store) : evsTL (s.stream ⟨c, false⟩ σ).1.evs = false :=
  Src.stream_induct .true Src.tl_facts s ⟨c, false⟩ σ trivial rfl

theorem SrcList.streams_tl (l : SrcList) (c : Bool) (σ : Store) : ∀ r ∈ (l.streams ⟨c, false⟩ σ).1, evsTL r.evs = false :=
  fun r hr => SrcList.streams_induct .true Src.tl_facts l ⟨c, false⟩ σ trivial r hr rfl

end Rs
