import RsModel.Lemmas.LinesSpec
import RsModel.Lemmas.RopePos
/-!
# `Rope::lines_impl`: the items render to the lines of the flat string

On a multi-piece rope the iterator stands at a position `(chunkIdx, inChunk)` and its `byteIdx` is the offset of that
position in the flat string (`At chunks chunkIdx inChunk byteIdx`); one call of `next` is described by what it does to the
text from that offset on (`linesNext_spec`).
-/
namespace Rs
namespace Rope

theorem lines_eq_spec (r : Rope) (trailing : Bool) : r.lines trailing = linesSpec r.render trailing := by
  unfold lines linesSpec
  cases trailing <;> simp <;> split <;> simp_all

theorem linesLight_spec (s : Text) (tr : Bool) : ∀ (fuel byteIdx : Nat), byteIdx ≤ s.length → s.length - byteIdx + 2 ≤ fuel →
    (linesCollectLight s tr fuel byteIdx false).map render = linesSpec (s.drop byteIdx) tr := by
  intro fuel
  induction fuel with
  | zero => intro b _ h; omega
  | succ fuel ih =>
    intro b hb hf
    unfold linesCollectLight
    rw [if_neg Bool.false_ne_true]
    by_cases he : b = s.length
    · rw [if_pos he, List.drop_eq_nil_of_le (Nat.le_of_eq he.symm), linesSpec_nil]
      cases tr <;> rfl
    · rw [if_neg he]
      unfold findNL
      cases hf2 : (s.drop b).idxOf? NL with
      | none => exact (linesSpec_noNL _ tr hf2 fun e => he (Nat.le_antisymm hb (List.drop_eq_nil_iff.1 e))).symm
      | some idx =>
        have hi := (take_succ_endsNL _ idx hf2).1
        rw [List.length_drop] at hi
        simp only [List.map_cons, render]
        rw [linesSpec_NL _ tr idx hf2, take_drop_eq_bsub, List.drop_drop, Nat.add_assoc, ih (b + (idx + 1)) (by omega) (by omega)]

theorem scanNL_end (ps : List (Text × Nat)) (fuel ci ic : Nat) (h : ps.length ≤ ci) : scanNL ps fuel ci ic = none := by
  cases fuel with
  | zero => rfl
  | succ f => rw [scanNL, List.getElem?_eq_none h]

/-- `scanNL` finds the first line break from a position on: `(ei, ein)` is the position just after it -/
theorem scanNL_spec (ps : List (Text × Nat)) : ∀ (fuel ci ic p : Nat), ps.length ≤ ci + fuel → At ps ci ic p →
    (scanNL ps fuel ci ic = none ∧ ((flat ps).drop p).idxOf? NL = none)
    ∨ ∃ ei ein k, scanNL ps fuel ci ic = some (ei, ein) ∧ ((flat ps).drop p).idxOf? NL = some k
        ∧ At ps ei ein (p + (k + 1)) ∧ ci ≤ ei ∧ (ei = ci → ic ≤ ein) := by
  intro fuel
  induction fuel with
  | zero => intro ci ic p hf h; exact absurd h.idx (Nat.not_lt.2 hf)
  | succ fuel ih =>
    intro ci ic p hf h
    unfold scanNL
    rw [getElem?_getD ps ci h.idx]
    simp only
    unfold findNL
    rw [h.drop, idxOf_append]
    cases hn : ((ps.getD ci default).1.drop ic).idxOf? NL with
    | some idx =>
      have hi := (take_succ_endsNL _ idx hn).1
      rw [List.length_drop] at hi
      exact .inr ⟨_, _, idx, rfl, rfl, h.move (n := idx + 1) (Nat.lt_sub_iff_add_lt'.1 hi), Nat.le_refl _,
        fun _ => Nat.le_add_right ic (idx + 1)⟩
    | none =>
      simp only [Option.none_or]
      by_cases hlast : ci + 1 < ps.length
      · rcases ih (ci + 1) 0 _ (Nat.add_right_comm ci 1 fuel ▸ hf) (At.start hlast) with ⟨e, hno⟩ | ⟨ei, ein, k, e, hk, hat, hle, _⟩
        · exact .inl ⟨e, by rw [hno]; rfl⟩
        · refine .inr ⟨ei, ein, k + ((ps.getD ci default).1.drop ic).length, e, by rw [hk]; rfl, ?_, Nat.le_of_succ_le hle,
            fun e => absurd (e ▸ hle) (Nat.not_succ_le_self _)⟩
          have hp : p + (k + ((ps.getD ci default).1.drop ic).length + 1) = total (ps.take (ci + 1)) + (k + 1) := by
            have := h.inb
            rw [h.off, total_take_succ ps ci h.idx, List.length_drop]; omega
          rwa [hp]
      · have hlast := Nat.le_of_not_lt hlast
        rw [scanNL_end ps fuel _ 0 hlast, flat_drop_all ps _ (Nat.le_of_eq (total_take_all ps _ hlast).symm)]
        exact .inl ⟨rfl, rfl⟩

theorem linePieces_tailA (ps : List (Text × Nat)) (k0 s k1 e q : Nat) (h1 : At ps k1 e q) :
    ∀ (n i l : Nat), k0 < i → i ≤ k1 → i + n = k1 + 1 →
      flat (linePieces ps k0 s k1 (some e) n i l) = bsub (flat ps) (total (ps.take i)) q := by
  intro n
  induction n with
  | zero => intro i l _ h2 h3; exact absurd h2 (Nat.not_le.2 (Nat.lt_of_succ_le (Nat.le_of_eq h3.symm)))
  | succ n ih =>
    intro i l h0 h2 h3
    have hi : i < ps.length := Nat.lt_of_le_of_lt h2 h1.idx
    unfold linePieces
    simp only [getElem?_getD ps i hi, if_neg (Nat.ne_of_gt h0), flat_cons]
    by_cases hik : i = k1
    · subst hik
      obtain rfl : n = 0 := Nat.succ.inj (Nat.add_left_cancel h3)
      rw [if_pos rfl, linePieces, flat_nil, List.append_nil, (At.start hi).bsub h1 (Nat.zero_le _)]
      rfl
    · have hlt := Nat.lt_of_le_of_ne h2 hik
      rw [if_neg hik, ih (i + 1) _ (Nat.lt_succ_of_lt h0) hlt ((Nat.succ_add_eq_add_succ i n).trans h3),
        bsub_piece_cons ps i q hi (h1.start_le hlt)]

theorem linePieces_line (ps : List (Text × Nat)) (k0 s k1 e l p q : Nat) (h0 : At ps k0 s p) (h1 : At ps k1 e q) (hk : k0 < k1) :
    flat (linePieces ps k0 s k1 (some e) (k1 + 1 - k0) k0 l) = bsub (flat ps) p q := by
  rw [Nat.succ_sub (Nat.le_of_lt hk)]
  unfold linePieces
  simp only [getElem?_getD ps k0 h0.idx, if_pos, flat_cons]
  rw [linePieces_tailA ps k0 s k1 e q h1 (k1 - k0) (k0 + 1) _ (Nat.lt_succ_self k0) hk
      (by rw [Nat.add_right_comm, Nat.add_sub_cancel' (Nat.le_of_lt hk)]),
    bsub_split (flat ps) p _ q h0.le_stop (h1.start_le hk),
    h0.bsub (At.stop h0.idx) h0.inb, bsub_to_end]

theorem linePieces_tailB (ps : List (Text × Nat)) (k0 s : Nat) :
    ∀ (n i l : Nat), k0 < i → i + n = ps.length →
      flat (linePieces ps k0 s ps.length none n i l) = (flat ps).drop (total (ps.take i)) := by
  intro n
  induction n with
  | zero =>
    intro i l _ h3
    rw [flat_drop_all ps _ (Nat.le_of_eq (total_take_all ps i (Nat.le_of_eq h3.symm)).symm)]; rfl
  | succ n ih =>
    intro i l h1 h3
    have hi : i < ps.length := h3 ▸ Nat.lt_add_of_pos_right (Nat.succ_pos n)
    unfold linePieces
    simp only [getElem?_getD ps i hi, if_neg (Nat.ne_of_gt h1), if_neg (Nat.ne_of_lt hi), flat_cons]
    rw [ih (i + 1) _ (Nat.lt_succ_of_lt h1) ((Nat.succ_add_eq_add_succ i n).trans h3), (At.start hi).drop]; rfl

theorem linePieces_rest (ps : List (Text × Nat)) (k0 s l p : Nat) (h0 : At ps k0 s p) :
    flat (linePieces ps k0 s ps.length none (ps.length - k0) k0 l) = (flat ps).drop p := by
  rw [← Nat.sub_add_cancel (Nat.sub_pos_of_lt h0.idx)]
  unfold linePieces
  simp only [getElem?_getD ps k0 h0.idx, if_pos, flat_cons]
  rw [linePieces_tailB ps k0 s _ (k0 + 1) _ (Nat.lt_succ_self k0) (by rw [Nat.sub_sub, Nat.add_sub_cancel' h0.idx]), h0.drop]

/-- One call of `Lines::next` on a multi-piece rope does one of three things, according to the text from the iterator's
offset on: at the end it stops; it yields the line up to the first break and stands just after it; it yields what is left
and is done. -/
theorem linesNext_spec (chunks : List (Text × Nat)) (hne : chunks ≠ []) (tr : Bool) :
    ∀ (fuel : Nat) (bi ci ic : Nat), chunks.length ≤ ci + fuel → At chunks ci ic bi →
      ((flat chunks).drop bi = [] ∧ ∃ s', s'.ended = true ∧
          linesNextFull chunks (total chunks) tr fuel ⟨bi, ci, ic, false⟩ = if tr then some (.light [], s') else none)
      ∨ (∃ k r ci' ic', ((flat chunks).drop bi).idxOf? NL = some k
          ∧ linesNextFull chunks (total chunks) tr fuel ⟨bi, ci, ic, false⟩ = some (r, ⟨bi + (k + 1), ci', ic', false⟩)
          ∧ r.render = bsub (flat chunks) bi (bi + (k + 1)) ∧ At chunks ci' ic' (bi + (k + 1)))
      ∨ (∃ r s', (flat chunks).drop bi ≠ [] ∧ ((flat chunks).drop bi).idxOf? NL = none
          ∧ linesNextFull chunks (total chunks) tr fuel ⟨bi, ci, ic, false⟩ = some (r, s')
          ∧ r.render = (flat chunks).drop bi ∧ s'.ended = true) := by
  intro fuel
  induction fuel with
  | zero => intro bi ci ic h hs; exact absurd hs.idx (Nat.not_lt.2 h)
  | succ fuel ih =>
    intro bi ci ic hf h
    unfold linesNextFull
    simp only [Bool.false_eq_true, if_false, List.isEmpty_iff, hne]
    by_cases hend : bi = total chunks
    · rw [if_pos hend]
      exact .inl ⟨flat_drop_all chunks bi (Nat.le_of_eq hend.symm), _, rfl, rfl⟩
    · rw [if_neg hend, show (chunks.getD ci ([], 0)).1 = (chunks.getD ci default).1 from rfl]
      by_cases hadv : ic = (chunks.getD ci default).1.length ∧ ci < chunks.length - 1
      · -- at the end of a piece that is not the last: the same offset, seen from the next piece
        rw [if_pos hadv]
        exact ih bi (ci + 1) 0 (Nat.add_right_comm ci 1 fuel ▸ hf) ((hadv.1 ▸ h).next (Nat.add_lt_of_lt_sub hadv.2))
      · rw [if_neg hadv]
        rcases scanNL_spec chunks (chunks.length + 1) ci ic bi (Nat.le_trans (Nat.le_succ _) (Nat.le_add_left _ ci)) h with
          ⟨hscan, hno⟩ | ⟨ei, ein, k, hscan, hk, hat, hle, hin⟩
        · -- no break is left: the rest of the text is the last item
          have hRne : (flat chunks).drop bi ≠ [] := fun e =>
            hend (Nat.le_antisymm h.le_total (flat_length chunks ▸ List.drop_eq_nil_iff.1 e))
          rw [hscan]
          simp only
          by_cases hlast : chunks.length - ci = 1
          · rw [if_pos hlast]
            refine .inr (.inr ⟨_, _, hRne, hno, rfl, ?_, rfl⟩)
            rw [h.drop, flat_drop_all chunks _ (Nat.le_of_eq (total_take_all chunks _ (Nat.sub_le_iff_le_add'.1 (Nat.le_of_eq hlast))).symm),
              List.append_nil]
            rfl
          · rw [if_neg hlast]
            exact .inr (.inr ⟨_, _, hRne, hno, rfl, linePieces_rest chunks ci ic 0 bi h, rfl⟩)
        · rw [hscan]
          refine .inr (.inl ⟨k, ?_⟩)
          simp only
          by_cases hsame : ci = ei
          · subst hsame
            have hd : ein - ic = k + 1 := by have := h.off; have := hat.off; omega
            rw [if_pos rfl, hd]
            exact ⟨_, _, _, hk, rfl, (h.bsub hat (hin rfl)).symm, hat⟩
          · have hL := linePieces_line chunks ci ic ei ein 0 bi _ h hat (Nat.lt_of_le_of_ne hle hsame)
            have hlen := congrArg List.length hL
            rw [flat_length, bsub_length _ _ _ (flat_length chunks ▸ hat.le_total), Nat.add_sub_cancel_left] at hlen
            rw [if_neg hsame, show ((linePieces chunks ci ic ei (some ein) (ei + 1 - ci) ci 0).map (·.1.length)).sum = k + 1 from hlen]
            exact ⟨_, _, _, hk, rfl, hL, hat⟩

theorem collect_ended (chunks : List (Text × Nat)) (tot : Nat) (tr : Bool) (fuel : Nat) (s : LSt) (h : s.ended = true) :
    linesCollectFull chunks tot tr fuel s = [] := by
  cases fuel with
  | zero => rfl
  | succ f =>
    unfold linesCollectFull
    have : linesNextFull chunks tot tr (chunks.length + 2) s = none := by
      unfold linesNextFull; simp [h]
    rw [this]

theorem linesCollect_spec (chunks : List (Text × Nat)) (hne : chunks ≠ []) (tr : Bool) :
    ∀ (fuel bi ci ic : Nat), At chunks ci ic bi → total chunks - bi + 2 ≤ fuel →
      (linesCollectFull chunks (total chunks) tr fuel ⟨bi, ci, ic, false⟩).map render = linesSpec ((flat chunks).drop bi) tr := by
  intro fuel
  induction fuel with
  | zero => intro bi ci ic _ h; omega
  | succ fuel ih =>
    intro bi ci ic hs hf
    unfold linesCollectFull
    rcases linesNext_spec chunks hne tr (chunks.length + 2) bi ci ic (by omega) hs with
      ⟨hR, s', e3, e1⟩ | ⟨k, r, ci', ic', hk, e1, e2, e3⟩ | ⟨r, s', hR, hk, e1, e2, e3⟩
    · rw [e1, hR, linesSpec_nil]
      cases tr with
      | false => rfl
      | true =>
        simp only [if_true, List.map_cons, render]
        rw [collect_ended chunks (total chunks) true fuel s' e3]
        rfl
    · have hkl := (take_succ_endsNL _ k hk).1
      rw [List.length_drop, flat_length] at hkl
      rw [e1]
      simp only [List.map_cons]
      rw [ih _ ci' ic' e3 (by omega), linesSpec_NL _ tr k hk, e2, take_drop_eq_bsub, List.drop_drop]
    · rw [e1]
      simp only [List.map_cons, collect_ended _ _ _ _ _ e3, List.map_nil, e2]
      rw [linesSpec_noNL _ tr hk hR]

/-- **`lines_impl(trailing)`**: the items yielded on any rope render to the lines of the flat string
(`split_inclusive('\\n')`, plus a final empty item when `trailing` and the text is empty or ends with a line break) -/
theorem linesR_spec (r : Rope) (h : r.Inv) (tr : Bool) : (r.linesR tr).map render = r.lines tr := by
  rw [lines_eq_spec]
  cases r with
  | light s =>
    simp only [linesR, render]
    have := linesLight_spec s tr (s.length + 2) 0 (Nat.zero_le _) (by omega)
    simpa using this
  | full ps =>
    simp only [Inv] at h
    simp only [linesR, render_full]
    by_cases hne : ps = []
    · subst hne
      cases tr <;> simp [linesCollectFull, linesNextFull, endOf, flat, linesSpec_nil, render]
    · rw [endOf_total ps h]
      exact linesCollect_spec ps hne tr (total ps + ps.length + 2) 0 0 0
        ⟨List.length_pos_iff.mpr hne, Nat.zero_le _, rfl⟩ (by omega)

end Rope
end Rs
