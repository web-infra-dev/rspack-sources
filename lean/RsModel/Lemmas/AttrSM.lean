import RsModel.Lemmas.PosSM
import RsModel.Lemmas.CodecLookup
/-!
# C08 — the map-driven splitter attributes every byte as a lookup in the map does (columns = true)

`attrOf evs`: the original location each delivered byte carries (the `orig` of the chunk that covers it).
`attrFrom ms p t`: what looking each position of `t` (starting at `p`) up in the segment list `ms` gives.

The walker is followed with `WInv`: what the processed prefix of the map answers at the walker's position is what the walker holds
as its active segment.  During one `on_mapping` call for `m` (`AttrInv`) the whole map answers, at the places from the walker up to
`m`, that segment on the walker's line and nothing on later lines.  Every move runs over a stretch of the walker's line before `m`,
delivers it with what the walker holds, and leaves the walker inactive (`Move.stretch` of SMText): so the stretch is attributed
rightly (`attr_piece`), and beyond the new place the map answers nothing.  Step 5 re-establishes `WInv` on `m` (`WInv.arrive`).
-/
namespace Rs

def attrOf : List Ev → List (Option Orig)
  | [] => []
  | .chunk (some t) m :: es => List.replicate t.length m.orig ++ attrOf es
  | _ :: es => attrOf es

def attrFrom (ms : List Mapping) : Pos → Text → List (Option Orig)
  | _, [] => []
  | p, c :: cs => lookupCols ms p.line p.col :: attrFrom ms (adv p [c]) cs

theorem attrOf_append (a b : List Ev) : attrOf (a ++ b) = attrOf a ++ attrOf b := by
  induction a with
  | nil => rfl
  | cons e es ih =>
    cases e with
    | chunk t m => cases t <;> simp [attrOf, ih]
    | source i s c => simp [attrOf, ih]
    | name i n => simp [attrOf, ih]

theorem attrFrom_append (ms : List Mapping) : ∀ (a b : Text) (p : Pos), attrFrom ms p (a ++ b) = attrFrom ms p a ++ attrFrom ms (adv p a) b := by
  intro a
  induction a with
  | nil => intro b p; rfl
  | cons c cs ih =>
    intro b p
    simp only [List.cons_append, attrFrom, ih, adv_step p c cs]

theorem attrFrom_eq (ms : List Mapping) : ∀ (t : Text) (p : Pos),
    attrFrom ms p t = (List.range t.length).map fun j => lookupCols ms (adv p (t.take j)).line (adv p (t.take j)).col
  | [], _ => rfl
  | c :: cs, p => by
    rw [attrFrom, attrFrom_eq ms cs, List.length_cons, List.range_succ_eq_map, List.map_cons, List.map_map]
    exact congrArg _ (List.map_congr_left fun j _ => by rw [Function.comp, List.take_succ_cons, adv_step p c (cs.take j)])

theorem attrOf_length (evs : List Ev) : (attrOf evs).length = (evsText evs).length := by
  fun_induction attrOf evs with
  | case1 => rfl
  | case2 t m es ih => rw [evsText_cons, List.length_append, List.length_append, List.length_replicate, ih]; rfl
  | case3 e es hne ih => rw [evsText_cons, Ev.text.eq_2 e hne, ih]; rfl

theorem attrOf_noChunk (evs : List Ev) (h : ∀ e ∈ evs, e.isChunk = false) : attrOf evs = [] :=
  List.eq_nil_of_length_eq_zero (by rw [attrOf_length, evsText_anns h]; rfl)

theorem attrFrom_region (ms : List Mapping) (o : Option Orig) (t : Text) (l c0 : Nat) (hT : TokOK t)
    (h : ∀ c, c0 ≤ c → c < c0 + t.length → lookupCols ms l c = o) : attrFrom ms ⟨l, c0⟩ t = List.replicate t.length o := by
  rw [attrFrom_eq]
  refine List.eq_replicate_iff.2 ⟨by rw [List.length_map, List.length_range], fun a ha => ?_⟩
  obtain ⟨j, hj, rfl⟩ := List.mem_map.1 ha
  have hj := List.mem_range.1 hj
  -- before its last byte a token has no line break: byte `j` stands `j` columns on
  rw [adv_noNL _ _ (tok_prefix_noNL t hT j hj), List.length_take, Nat.min_eq_left (Nat.le_of_lt hj)]
  exact h _ (Nat.le_add_right _ _) (Nat.add_lt_add_left hj _)

theorem attrFrom_congr (A B : List Mapping) (t : Text) (p : Pos)
    (h : ∀ q : Pos, posLe p q → posLt q (adv p t) → lookupCols A q.line q.col = lookupCols B q.line q.col) : attrFrom A p t = attrFrom B p t := by
  rw [attrFrom_eq, attrFrom_eq]
  exact List.map_congr_left fun j hj => h _ (adv_ge _ _) (charPos_lt_end' p t j (List.mem_range.1 hj))

theorem attr_append (all : List Mapping) (pre : Text) (a b : List Ev)
    (ha : attrOf a = attrFrom all (adv startPos pre) (evsText a))
    (hb : attrOf b = attrFrom all (adv startPos (pre ++ evsText a)) (evsText b)) :
    attrOf (a ++ b) = attrFrom all (adv startPos pre) (evsText (a ++ b)) := by
  rw [attrOf_append, evsText_append, attrFrom_append, ← adv_append, ha, hb]

structure WInv (P : List Mapping) (s : FullSt) : Prop where
  reached : ∀ p ∈ P, p.gl < s.line ∨ (p.gl = s.line ∧ p.gc ≤ s.col)
  cur : (lookupGo s.line s.col none P).join = (if s.active then s.orig else none)

theorem lk_prefix (P : List Mapping) (s : FullSt) (h : WInv P s) (l c : Nat) (hpos : s.line < l ∨ (s.line = l ∧ s.col ≤ c)) :
    (lookupGo l c none P).join = if l = s.line then (if s.active then s.orig else none) else none := by
  rcases hpos with hlt | ⟨rfl, hc⟩
  · rw [if_neg (by omega), lookupGo_skip l c P none (fun p hp ⟨h1, _⟩ => by rcases h.reached p hp with h2 | ⟨h2, _⟩ <;> omega)]
    rfl
  · rw [if_pos rfl, lookupGo_const s.line s.col c hc P none (fun p hp h1 => by rcases h.reached p hp with h2 | ⟨_, h2⟩; omega; exact h2)]
    exact h.cur

theorem lookupGo_beyond (l c : Nat) (acc : Option (Option Orig)) (e : Pos) (he : posLt ⟨l, c⟩ e) (R : List Mapping)
    (hR : sortedFrom e.line e.col R) : lookupGo l c acc R = acc :=
  lookupGo_skip l c R acc fun x hx hq => by
    have := sortedFrom_all R _ _ hR x hx
    simp only [posLt] at he
    omega

theorem lk_all (P R : List Mapping) (m : Mapping) (hR : sortedFrom m.gl m.gc R) (l c : Nat)
    (hbefore : l < m.gl ∨ (l = m.gl ∧ c < m.gc)) : lookupCols (P ++ m :: R) l c = (lookupGo l c none P).join := by
  unfold lookupCols
  rw [lookupGo_append, lookupGo_beyond l c _ ⟨m.gl, m.gc⟩ hbefore (m :: R) ⟨Or.inr ⟨rfl, Nat.le_refl _⟩, hR⟩]

theorem attr_piece (lines : List Text) (E : Env lines) (all : List Mapping) (l c b : Nat) (o : Option Orig) (h1 : 1 ≤ l)
    (hn : l ≤ lines.length) (hc : c ≤ width (lineAt lines l)) (hreg : ∀ c', c ≤ c' → c' < b → lookupCols all l c' = o) :
    attrOf [Ev.chunk (some (csub (lineAt lines l) c b)) ⟨l, c, o⟩]
      = attrFrom all (adv startPos (emitted lines l c)) (evsText [Ev.chunk (some (csub (lineAt lines l) c b)) ⟨l, c, o⟩]) := by
  have hlen := csub_length_ascii _ (ascii_lineAt lines E.ascii l) c b
  rw [evsText_singleton, Ev.text, valid_pos lines E.ls E.ascii l c h1 hn hc,
    attrFrom_region all o _ l c (tokOK_csub (lineAt lines l) (tokOK_getD lines (tokOK_of_lines lines E.ls) _) _ _) fun c' h1 h2 => hreg c' h1 (by omega)]
  exact (List.append_nil _)

def AttrInv (lines : List Text) (all : List Mapping) (m : Mapping) (pre : Text) (acc : List Ev) (s : FullSt) : Prop :=
  PosInv lines pre acc s ∧ attrOf acc = attrFrom all (adv startPos pre) (evsText acc) ∧ (s.active = true → s.line ≤ lines.length)
  ∧ ∀ l c, (s.line < l ∨ (s.line = l ∧ s.col ≤ c)) → (l < m.gl ∨ (l = m.gl ∧ c < m.gc)) →
      lookupCols all l c = if l = s.line then (if s.active then s.orig else none) else none

theorem smStep5_cur (fl fc : Nat) (s : FullSt) (m : Mapping) (ha : s.active = false)
    (hin : m.orig.isSome = true → (m.gl < fl ∨ (m.gl = fl ∧ m.gc < fc))) :
    (if (smStep5 fl fc s m).active then (smStep5 fl fc s m).orig else none) = m.orig
    ∧ ((smStep5 fl fc s m).active = true → m.orig.isSome = true) := by
  rcases smStep5_cases fl fc s m with ⟨o, ho, _, e⟩ | ⟨hn, e⟩ <;> rw [e]
  · exact ⟨ho.symm, fun _ => ho ▸ rfl⟩
  · -- nothing changes: `m` is unmapped, since a mapped one lies before the end
    have : m.orig = none := hn.elim id fun hnb => Option.not_isSome_iff_eq_none.1 fun h => hnb (hin h)
    rw [ha, this]
    exact ⟨rfl, nofun⟩

theorem WInv.arrive {P : List Mapping} {s : FullSt} (hw : WInv P s) (m : Mapping) (hb : notBehind s m) (s' : FullSt)
    (hl : s'.line = m.gl) (hc : s'.col = m.gc) (hcur : (if s'.active then s'.orig else none) = m.orig) : WInv (P ++ [m]) s' := by
  constructor
  · intro p hp
    rw [hl, hc]
    rcases List.mem_append.1 hp with hp | hp
    · exact posLe_trans (a := ⟨p.gl, p.gc⟩) (b := ⟨s.line, s.col⟩) (c := ⟨m.gl, m.gc⟩) (hw.reached p hp) hb
    · rw [List.mem_singleton.1 hp]; exact Or.inr ⟨rfl, Nat.le_refl _⟩
  · rw [hl, hc, lookupGo_append, hcur]
    simp only [lookupGo, and_self, Nat.le_refl, if_true, Option.join]
    rfl

theorem line_le_of_before_end (n fl fc l c : Nat) (hfl : fl ≤ n + 1) (hfc : fl = n + 1 → fc = 0) (h : l < fl ∨ (l = fl ∧ c < fc)) : l ≤ n := by
  rcases h with h | ⟨h1, h2⟩
  · exact Nat.le_of_lt_succ (Nat.lt_of_lt_of_le h hfl)
  · rcases Nat.lt_or_eq_of_le hfl with h3 | h3
    · exact h1 ▸ Nat.le_of_lt_succ h3
    · rw [hfc h3] at h2
      exact absurd h2 (Nat.not_lt_zero _)

/-- **one `on_mapping` call**, for a walker `s` that holds what the processed prefix `P` answers at its place: every byte delivered
is attributed as the lookup in the whole map says, and the walker arrives on `m` with the invariant for `P ++ [m]` -/
theorem attrMoves (lines : List Text) (E : Env lines) (fl fc : Nat) (hfl : fl ≤ lines.length + 1) (hfc : fl = lines.length + 1 → fc = 0)
    (P R : List Mapping) (m : Mapping) (s : FullSt) (hi : Inside lines m) (hw : WInv P s) (hb : notBehind s m)
    (hin : m.orig.isSome = true → (m.gl < fl ∨ (m.gl = fl ∧ m.gc < fc))) (pre : Text) :
    MoveOK (AttrInv lines (P ++ m :: R) m pre)
      (fun acc s' => PosInv lines pre acc s' ∧ attrOf acc = attrFrom (P ++ m :: R) (adv startPos pre) (evsText acc) ∧ WInv (P ++ [m]) s'
        ∧ (s'.active = true → s'.line ≤ lines.length)) lines fl fc m where
  move := fun _ s _ s' h hv => by
    obtain ⟨b, hd, ha, he⟩ := hv.stretch E.wf
    have hs' : s'.active = false :=
      Bool.eq_false_iff.2 fun hx => Nat.lt_irrefl _ (Nat.lt_of_lt_of_le (ha hx).2 (h.2.2.1 (ha hx).1))
    refine ⟨(posMoves lines E pre fl fc m hi).move _ _ _ _ h.1 hv, attr_append _ pre _ _ h.2.1 ?_, fun hx => (by rw [hs'] at hx; cases hx),
      fun l c h1 h2 => ?_⟩
    · -- the stretch lies on the walker's line, before `m`: there the map answers what the walker holds
      rw [h.1.1.1]
      rcases he with ⟨rfl, _⟩ | ⟨hn, rfl⟩
      · rfl
      · exact attr_piece lines E _ s.line s.col b _ h.1.1.2 hn (h.1.2.2 hn) fun c hc hcb => by
          rw [h.2.2.2 s.line c (Or.inr ⟨rfl, hc⟩) (hd.elim (fun d => Or.inl d.1) fun d => Or.inr ⟨d.1, d.2.2.1 ▸ hcb⟩), if_pos rfl]
    · -- beyond the new place: later lines, where the map answers nothing, or nothing at all when the walker has arrived on `m`
      rw [hs']
      rcases hd with ⟨_, _, hl, _⟩ | ⟨_, _, _, hl, hc⟩
      · have hlt : s.line < l := by omega
        rw [h.2.2.2 l c (Or.inl hlt) h2, if_neg (Nat.ne_of_gt hlt)]
        exact (ite_self _).symm
      · omega
  activate := fun acc s' h hq hl hc => by
    obtain ⟨p5l, p5c⟩ := smStep5_pos fl fc s' m
    obtain ⟨q1, q2⟩ := smStep5_cur fl fc s' m (hq.inactive h.2.2.1) hin
    exact ⟨(posMoves lines E pre fl fc m hi).activate acc s' h.1 hq hl hc, h.2.1, hw.arrive m hb _ (p5l.trans hl) (p5c.trans hc) q1,
      fun hx => (by rw [p5l, hl]; exact line_le_of_before_end _ fl fc m.gl m.gc hfl hfc (hin (q2 hx)))⟩

/-- what C08 assumes of each segment: it lies inside the text, at or before its end `⟨fl, fc⟩`, and strictly before it if mapped -/
def SegOK (lines : List Text) (fl fc : Nat) (m : Mapping) : Prop :=
  Inside lines m ∧ (m.orig.isSome = true → (m.gl < fl ∨ (m.gl = fl ∧ m.gc < fc))) ∧ (m.gl < fl ∨ (m.gl = fl ∧ m.gc ≤ fc))

theorem smFullGo_attr (lines : List Text) (E : Env lines) (fl fc : Nat) (hfl : fl ≤ lines.length + 1) (hfc : fl = lines.length + 1 → fc = 0) (all : List Mapping) :
    ∀ (ms P : List Mapping) (s : FullSt), all = P ++ ms → sortedFrom s.line s.col ms → 1 ≤ s.line → ColOK lines s → WInv P s →
      (s.active = true → s.line ≤ lines.length) → (∀ m ∈ ms, SegOK lines fl fc m) →
      attrOf (smFullGo lines fl fc s ms) = attrFrom all (adv startPos (emitted lines s.line s.col)) (evsText (smFullGo lines fl fc s ms)) := by
  intro ms
  induction ms with
  | nil => intro P s _ _ _ _ _ _ _; rfl
  | cons m rest ih =>
    intro P s hall hs h1 hc hw hact hseg
    obtain ⟨hb, hrest⟩ := hs
    obtain ⟨hi, hin, _⟩ := hseg m (by simp)
    -- between the walker and `m` the whole map answers as the processed prefix does
    have := smFullStep_walk (attrMoves lines E fl fc hfl hfc P rest m s hi hw hb hin (emitted lines s.line s.col)) [] s
      ⟨⟨⟨by rw [evsText_nil, List.append_nil], h1⟩, trivial, hc⟩, rfl, hact,
        fun l c hge hlt => by rw [lk_all P rest m hrest l c hlt, lk_prefix P s hw l c hge]⟩ hb
    rw [List.nil_append] at this
    obtain ⟨⟨⟨e1, l1⟩, _, c1⟩, a, w, act⟩ := this
    obtain ⟨pl, pc⟩ := smFullStep_at lines fl fc s m hb
    rw [smFullGo, hall]
    refine attr_append _ _ _ _ a ?_
    rw [e1, ← hall]
    exact ih (P ++ [m]) _ (by rw [hall, List.append_assoc]; rfl) (by rw [pl, pc]; exact hrest) l1 c1 w act
      (fun x hx => hseg x (List.mem_cons_of_mem _ hx))

/-- the walk over a sorted map closed by the sentinel segment at the end `⟨fl, fc⟩` of the text `t` it delivers: the sentinel is in
the walker's domain, and it does not qualify for any position of the text -/
theorem smFull_attr (lines : List Text) (E : Env lines) (hne : lines ≠ []) (fl fc : Nat) (hend : lineLoopInfo lines = ⟨fl, fc⟩)
    (ms : List Mapping) (hsorted : sortedFrom 1 0 ms) (hseg : ∀ m ∈ ms, SegOK lines fl fc m) (t : Text)
    (htext : evsText (smFullGo lines fl fc {} (ms ++ [⟨fl, fc, none⟩])) = t) (hfin : adv startPos t = ⟨fl, fc⟩) :
    attrOf (smFullGo lines fl fc {} (ms ++ [⟨fl, fc, none⟩])) = attrFrom ms startPos t := by
  obtain ⟨h1fl, hflb, hfcb, hw⟩ := end_of_lines lines hne fl fc hend
  have hsent : SegOK lines fl fc ⟨fl, fc, none⟩ := ⟨⟨h1fl, hw⟩, fun h => (by cases h), Or.inr ⟨rfl, Nat.le_refl _⟩⟩
  have hgo := smFullGo_attr lines E fl fc hflb hfcb (ms ++ [⟨fl, fc, none⟩]) (ms ++ [⟨fl, fc, none⟩]) [] {} rfl
    (sortedFrom_snoc ⟨fl, fc, none⟩ _ 1 0 hsorted (fun m hm => (hseg m hm).2.2) (by show 1 < fl ∨ (1 = fl ∧ 0 ≤ fc); omega))
    (Nat.le_refl _) (fun _ => Nat.zero_le _) ⟨fun _ h => (by cases h), rfl⟩ (fun h => by cases h)
    (fun m hm => (List.mem_append.1 hm).elim (hseg m) fun h => List.mem_singleton.1 h ▸ hsent)
  rw [show emitted lines ({} : FullSt).line ({} : FullSt).col = [] from emitted_begin _ E.wf] at hgo
  rw [hgo, htext]
  apply attrFrom_congr
  intro q _ hq
  rw [show adv startPos [] = startPos from rfl, hfin] at hq
  exact lk_all _ [] ⟨fl, fc, none⟩ trivial q.line q.col hq

/-- **C08 (columns = true): the map-driven splitter attributes every byte of the text exactly as a lookup in the map does** —
for every ASCII text of at most `USIZE_MAX` bytes and every sorted map whose segments satisfy `SegOK` -/
theorem streamSMFull_attr (t : Text) (sm : SMap) (ha : IsAscii t) (hl : t.length ≤ USIZE_MAX) (hsorted : sortedFrom 1 0 (decode sm.mappings))
    (hseg : ∀ m ∈ decode sm.mappings, SegOK (splitLines t) (adv startPos t).line (adv startPos t).col m) :
    attrOf (streamSMFull t sm).evs = attrFrom (decode sm.mappings) startPos t := by
  by_cases ht : t = []
  · subst ht; rfl
  have htext := streamSMFull_text t sm (textOK_of_ascii t ha hl)
  rw [streamSMFull_eq t sm ht] at htext ⊢
  rw [attrOf_append, attrOf_append, attrOf_noChunk _ (smSourceEvs_noChunk sm), attrOf_noChunk _ (smNameEvs_noChunk sm), List.nil_append, List.nil_append]
  rw [evsText_append, evsText_append, smSourceEvs_notext, smNameEvs_notext, List.nil_append, List.nil_append] at htext
  exact smFull_attr (splitLines t) (env_of_ascii t ha hl) (splitLines_ne_nil ht) _ _ (adv_text_end t).symm _ hsorted hseg t htext rfl

instance instDecidableSortedFrom : ∀ (l c : Nat) (ms : List Mapping), Decidable (sortedFrom l c ms)
  | _, _, [] => isTrue trivial
  | l, c, m :: ms => have := instDecidableSortedFrom m.gl m.gc ms; by unfold sortedFrom; infer_instance
instance (lines : List Text) (fl fc : Nat) (m : Mapping) : Decidable (SegOK lines fl fc m) := by unfold SegOK; infer_instance

end Rs
