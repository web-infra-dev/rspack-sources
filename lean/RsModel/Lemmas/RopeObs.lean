import RsModel.Lemmas.RopePos
/-!
# Rope observers against the flat string: `ends_with`, equality with a string or a rope, `char_indices` (offsets)

One theorem per observer, saying it answers as the same question on `render` does: `endsWith_spec`, `eqStr_spec`, `eqRope_spec`,
`charIndices_offsets`; those that read the stored offsets ask `Rope.Inv`.
-/
namespace Rs
namespace Rope

theorem endsWith_aux (c : UInt8) : ∀ (qs : List (Text × Nat)),
    (match qs.find? (fun p => !p.1.isEmpty) with | some (l, _) => l.getLast? == some c | none => false)
      = ((flat qs.reverse).getLast? == some c) := by
  intro qs
  induction qs with
  | nil => rfl
  | cons q qs ih =>
    obtain ⟨t, o⟩ := q
    rw [List.reverse_cons, flat_append]
    rw [flat_cons, flat_nil, List.append_nil]
    by_cases ht : t = []
    · subst ht
      simp only [List.find?_cons, List.isEmpty_nil, Bool.not_true, List.append_nil]
      exact ih
    · have : (!t.isEmpty) = true := by cases t <;> simp_all
      simp only [List.find?_cons, this]
      rw [getLast?_append_ne _ _ ht]

theorem endsWith_spec (r : Rope) (c : UInt8) : r.endsWith c = (r.render.getLast? == some c) := by
  cases r with
  | light s => rfl
  | full ps =>
    have := endsWith_aux c ps.reverse
    rw [List.reverse_reverse] at this
    unfold endsWith
    rw [render_full]
    exact this

theorem beq_append_split (x1 x2 y1 y2 : Text) (h : x1.length = y1.length) :
    (x1 ++ x2 == y1 ++ y2) = (x1 == y1 && x2 == y2) := by
  apply Bool.eq_iff_iff.2
  simp only [beq_iff_eq, Bool.and_eq_true]
  constructor
  · intro he; exact List.append_inj he h
  · rintro ⟨rfl, rfl⟩; rfl

theorem ite_bne_ok (u v : Text) (x : Except Trap Bool) (r : Bool) (h : u = v → x = .ok r) :
    (if u != v then .ok false else x) = .ok (u == v && r) := by
  by_cases e : u = v
  · rw [if_neg (by simp [e]), h e, beq_iff_eq.2 e, Bool.true_and]
  · rw [if_pos (by simp [e]), beq_eq_false_iff_ne.2 e, Bool.false_and]

theorem eqStrGo_spec : ∀ (ps : List (Text × Nat)) (o : Text) (idx : Nat), idx + total ps = o.length →
    eqStrGo ps o idx = .ok (flat ps == o.drop idx) := by
  intro ps
  induction ps with
  | nil =>
    intro o idx h
    rw [List.drop_eq_nil_of_le (show o.length ≤ idx from Nat.le_of_eq h.symm)]; rfl
  | cons p rest ih =>
    intro o idx h
    obtain ⟨c, st⟩ := p
    have ht : idx + c.length + total rest = o.length := by rw [← h, Nat.add_assoc]; rfl
    unfold eqStrGo
    rw [if_neg (by omega), flat_cons, ← bsub_append_drop o idx _ (Nat.le_add_right idx c.length),
      beq_append_split _ _ _ _ ((bsub_length o idx _ (by omega)).trans (Nat.add_sub_cancel_left ..)).symm]
    exact ite_bne_ok _ _ _ _ fun _ => ih o _ ht

theorem eqStr_spec (r : Rope) (h : r.Inv) (o : Text) : eqStr r o = .ok (r.render == o) := by
  have hl := len_eq_render r h
  unfold eqStr
  by_cases hne : r.len = o.length
  · rw [if_neg (by simp [hne])]
    cases r with
    | light s => rfl
    | full ps => exact eqStrGo_spec ps o 0 (by rw [Nat.zero_add, ← flat_length]; exact hl.symm.trans hne)
  · rw [if_pos (by simpa using hne)]
    congr 1
    exact (beq_eq_false_iff_ne.2 fun he => hne (hl.trans (congrArg List.length he))).symm

theorem strCharIndices_fst : ∀ (t : Text) (off i : Nat), (strCharIndices off i t).map (·.1) = charStartsFrom (off + i) t := by
  intro t
  induction t with
  | nil => intro off i; rfl
  | cons b bs ih =>
    intro off i
    simp only [strCharIndices, charStartsFrom]
    split
    · exact ih off (i + 1)
    · rw [List.map_cons, ih off (i + 1)]; rfl

theorem charStartsFrom_append : ∀ (x y : Text) (i : Nat),
    charStartsFrom i (x ++ y) = charStartsFrom i x ++ charStartsFrom (i + x.length) y := by
  intro x
  induction x with
  | nil => intro y i; simp [charStartsFrom]
  | cons b bs ih =>
    intro y i
    simp only [List.cons_append, charStartsFrom, List.length_cons]
    have : i + (bs.length + 1) = i + 1 + bs.length := by omega
    split
    · rw [ih y (i + 1), this]
    · rw [ih y (i + 1), this]; rfl

theorem charIndices_offsets (r : Rope) (h : r.Inv) : (charIndices r).map (·.1) = charStarts r.render := by
  cases r with
  | light s => exact strCharIndices_fst s 0 0
  | full ps =>
    simp only [Inv] at h
    simp only [charIndices, render_full, charStarts]
    suffices hs : ∀ (ps : List (Text × Nat)) (s : Nat), OffsOK s ps →
        ((ps.map fun p => strCharIndices p.2 0 p.1).flatten).map (·.1) = charStartsFrom s (flat ps) by
      exact hs ps 0 h
    intro ps
    induction ps with
    | nil => intro s _; rfl
    | cons p rest ih =>
      intro s hof
      obtain ⟨c, o⟩ := p
      obtain ⟨h1, h2⟩ := hof
      subst h1
      rw [flat_cons, charStartsFrom_append, List.map_cons, List.flatten_cons, List.map_append, ih (o + c.length) h2]
      exact congrArg (· ++ _) (strCharIndices_fst c o 0)

/-- the text from byte `i` of the head piece on: `(cs, i)` is a position of the chunk-walking loop -/
def rest : List Text → Nat → Text
  | [], _ => []
  | c :: cs, i => c.drop i ++ cs.flatten

theorem rest_zero (cs : List Text) : rest cs 0 = cs.flatten := by cases cs <;> rfl

theorem rest_cons_add (c : Text) (cs : List Text) (i n : Nat) : rest (c :: cs) (i + n) = (c.drop i).drop n ++ cs.flatten := by
  rw [List.drop_drop]; rfl

theorem append_take_drop (y q : Text) (n : Nat) : y ++ q = y.take n ++ (y.drop n ++ q) := by
  rw [← List.append_assoc, List.take_append_drop]

/-- The chunk-walking comparison decides equality of the two remaining texts.  `(cs, ic)` is a position in the first
rope, `(os, io)` in the second; `bi` counts the bytes compared so far. -/
theorem eqLoop_spec : ∀ (fuel : Nat) (cs : List Text) (ic : Nat) (os : List Text) (io bi total : Nat),
    cs.length + os.length < fuel → bi + (rest cs ic).length = total → (rest cs ic).length = (rest os io).length →
    eqLoop fuel cs ic os io bi total = .ok (rest cs ic == rest os io) := by
  intro fuel
  induction fuel with
  | zero => intro cs ic os io bi total h; exact absurd h (Nat.not_lt_zero _)
  | succ fuel ih =>
    intro cs ic os io bi total hf hbi hAB
    -- every branch compares `n` bytes `U`, `V` of both sides and goes on with what remains
    have step : ∀ {U A V B : Text} {n : Nat} {cs2 : List Text} {ic2 : Nat} {os2 : List Text} {io2 : Nat},
        rest cs ic = U ++ A → rest os io = V ++ B → U.length = n → V.length = n → rest cs2 ic2 = A → rest os2 io2 = B →
        cs2.length + os2.length < fuel →
        (if U != V then .ok false else eqLoop fuel cs2 ic2 os2 io2 (bi + n) total) = .ok (rest cs ic == rest os io) := by
      intro U A V B n cs2 ic2 os2 io2 e1 e2 hU hV e3 e4 hf2
      subst e3 e4
      rw [e1, e2, List.length_append, List.length_append, hU, hV] at hAB
      rw [e1, List.length_append, hU, ← Nat.add_assoc] at hbi
      rw [e1, e2, beq_append_split _ _ _ _ (hU.trans hV.symm)]
      exact ite_bne_ok _ _ _ _ fun _ => ih _ _ _ _ _ _ hf2 hbi (Nat.add_left_cancel hAB)
    unfold eqLoop
    by_cases hend : bi = total
    · have hA : (rest cs ic).length = 0 := Nat.add_left_cancel (hbi.trans hend.symm)
      rw [if_pos hend, List.eq_nil_of_length_eq_zero (l := rest cs ic) hA,
        List.eq_nil_of_length_eq_zero (l := rest os io) (hAB ▸ hA)]
      rfl
    · rw [if_neg hend]
      cases cs with
      | nil => exact absurd hbi hend
      | cons c cs' =>
        cases os with
        | nil => rw [hAB] at hbi; exact absurd hbi hend
        | cons o os' =>
          simp only
          rw [← List.length_drop (l := c), ← List.length_drop (l := o)]
          rw [List.length_cons, List.length_cons] at hf
          by_cases h1 : (c.drop ic).length < (o.drop io).length
          · -- the rest of `c` is compared with the bytes of `o` that face it
            rw [if_pos h1, ← take_drop_eq_bsub, bne_comm]
            exact step rfl (append_take_drop _ _ _) rfl (List.length_take_of_le (Nat.le_of_lt h1)) (rest_zero cs')
              (rest_cons_add o os' io _) (by rw [List.length_cons]; omega)
          · rw [if_neg h1]
            by_cases h2 : (c.drop ic).length = (o.drop io).length
            · rw [if_pos h2]
              exact step rfl rfl rfl h2.symm (rest_zero cs') (rest_zero os') (by omega)
            · -- the rest of `o` is compared with the bytes of `c` that face it
              rw [if_neg h2, ← take_drop_eq_bsub]
              exact step (append_take_drop _ _ _) rfl (List.length_take_of_le (Nat.le_of_not_lt h1)) rfl
                (rest_cons_add c cs' ic _) (rest_zero os') (by rw [List.length_cons]; omega)

theorem eqRope_spec (a b : Rope) (ha : a.Inv) (hb : b.Inv) : eqRope a b = .ok (a.render == b.render) := by
  have la := len_eq_render a ha
  have lb := len_eq_render b hb
  unfold eqRope
  by_cases hne : a.len = b.len
  · rw [if_neg (by simp [hne])]
    have hgen : eqLoop (a.pieces.length + b.pieces.length + 2) a.pieces 0 b.pieces 0 0 a.len = .ok (a.render == b.render) := by
      rw [eqLoop_spec _ a.pieces 0 b.pieces 0 0 a.len (by omega)
        (by rw [rest_zero, pieces_flatten, Nat.zero_add]; exact la.symm)
        (by rw [rest_zero, rest_zero, pieces_flatten, pieces_flatten, ← la, ← lb]; exact hne),
        rest_zero, rest_zero, pieces_flatten, pieces_flatten]
    cases a with
    | light s =>
      cases b with
      | light o => rfl
      | full os => exact hgen
    | full ps => exact hgen
  · rw [if_pos (by simpa using hne)]
    congr 1
    exact (beq_eq_false_iff_ne.2 fun he => hne (by rw [la, lb, he])).symm

end Rope
end Rs
