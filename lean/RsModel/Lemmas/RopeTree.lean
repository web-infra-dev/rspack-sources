import RsModel.Lemmas.RopeSlice
import RsModel.Lemmas.Replace
import RsModel.Model.Tree
/-!
# `Source::rope()` renders to `Source::source()` for every tree (C07), and never slices off a boundary

`Src.RopeOK` is the domain: the texts of the leaves and the contents of the replacements are `&str`s, the ends of every replacement
are char boundaries of the text it edits (`ReplOK`).  `Src.rope_spec`: on it `rope()` succeeds, renders to `src` and is `Rope.WF`;
for a ReplaceSource the loop is the reference splice `applyGo` step for step (`ropeSplice_spec`).
-/
namespace Rs
open Rope

/-- what a replacement must satisfy for `rope()`: its content is a `&str`, its (clamped) ends are char boundaries -/
def ReplOK (t : Text) (r : Repl) : Prop :=
  pieceOK r.content = true ∧ isBoundary t (min r.start t.length) = true ∧ isBoundary t (min r.stop t.length) = true

theorem appendSlice_spec (inner acc : Rope) (hw : inner.WF) (hacc : acc.WF) (p q : Nat) (hpq : p ≤ q) (hq : q ≤ inner.render.length)
    (hbp : isBoundary inner.render p = true) (hbq : isBoundary inner.render q = true) :
    ∃ acc1, (inner.byteSlice p q).map acc.append = .ok acc1 ∧ acc1.render = acc.render ++ bsub inner.render p q ∧ acc1.WF := by
  obtain ⟨x, e1, e2, e3⟩ := (byteSlice_spec inner hw p q hpq hq).1 (by rw [hbp, hbq]; rfl)
  exact ⟨_, e1 ▸ rfl, by rw [render_append, e2], wf_append _ _ hacc e3⟩

/-- The loop of `rope()` is the reference splice `applyGo` (absolute, clamped positions) step for step, every cut being at a
char boundary. -/
theorem ropeSplice_spec (inner : Rope) (hw : inner.WF) :
    ∀ (rs : List Repl) (pos : Nat) (acc : Rope), pos ≤ inner.render.length → isBoundary inner.render pos = true → acc.WF →
      (∀ r ∈ rs, ReplOK inner.render r) →
      ∃ out, ropeSplice inner pos rs acc = .ok out ∧ out.render = acc.render ++ applyGo inner.render pos rs ∧ out.WF := by
  have hlen := len_eq_render inner hw.inv
  intro rs
  induction rs with
  | nil =>
    intro pos acc hpos hbp hacc _
    rw [ropeSplice, hlen, applyGo, ← bsub_to_end]
    exact appendSlice_spec inner acc hw hacc pos _ hpos (Nat.le_refl _) hbp (isBoundary_len _)
  | cons r rs ih =>
    intro pos acc hpos hbp hacc hrs
    obtain ⟨hc, hbs, hbe⟩ := hrs r List.mem_cons_self
    have hstep : ∃ acc1, (if pos < r.start then (inner.byteSlice pos (min r.start inner.render.length)).map acc.append else .ok acc) = .ok acc1
        ∧ acc1.render = acc.render ++ (if pos < r.start then bsub inner.render pos (min r.start inner.render.length) else []) ∧ acc1.WF := by
      by_cases hlt : pos < r.start
      · rw [if_pos hlt, if_pos hlt]
        exact appendSlice_spec inner acc hw hacc pos _ (Nat.le_min.2 ⟨Nat.le_of_lt hlt, hpos⟩) (Nat.min_le_right _ _) hbp hbs
      · rw [if_neg hlt, if_neg hlt]
        exact ⟨acc, rfl, (List.append_nil _).symm, hacc⟩
    obtain ⟨acc1, e1, e2, e3⟩ := hstep
    obtain ⟨out, o1, o2, o3⟩ := ih (min (max pos r.stop) inner.render.length) (acc1.add r.content) (Nat.min_le_right _ _)
      (isBoundary_max_clamp inner.render pos r.stop hpos hbp hbe) (wf_add _ _ e3 hc) (fun x hx => hrs x (List.mem_cons_of_mem _ hx))
    rw [ropeSplice, hlen, e1]
    exact ⟨out, o1, by simp only [o2, render_add, e2, applyGo, List.append_assoc], o3⟩

mutual
/-- the hypotheses of the rope theorem: every text is a `&str`; replacement ends are char boundaries of the wrapped text -/
def Src.RopeOK : Src → Prop
  | .raw _ _ lossy => pieceOK lossy = true
  | .rawStr t => pieceOK t = true
  | .rawBuf _ lossy => pieceOK lossy = true
  | .orig t _ => pieceOK t = true
  | .sms t _ _ _ _ _ => pieceOK t = true
  | .concat cs => cs.RopeOKs
  | .replace inner rs => inner.RopeOK ∧ ∀ r ∈ rs, ReplOK inner.src r
  | .cached _ inner => inner.RopeOK
def SrcList.RopeOKs : SrcList → Prop
  | .nil => True
  | .cons s r => s.RopeOK ∧ r.RopeOKs
end

mutual
theorem Src.rope_spec : ∀ (s : Src), s.RopeOK → ∃ r, s.rope = .ok r ∧ r.render = s.src ∧ r.WF
  | .raw .. | .rawStr .. | .rawBuf .. | .orig .. | .sms .. => fun h => ⟨_, rfl, rfl, h⟩
  | .concat .nil => fun _ => ⟨_, rfl, rfl, wf_new⟩
  | .concat (.cons s .nil) => fun h =>
    let ⟨x, x1, x2, x3⟩ := Src.rope_spec s h.1
    ⟨x, x1, x2.trans (List.append_nil _).symm, x3⟩
  -- with two or more children, `rope()` is by definition the walk over the children from the empty rope
  | .concat (.cons s (.cons s2 rest)) => fun h => SrcList.ropes_spec (.cons s (.cons s2 rest)) Rope.new h wf_new
  | .replace inner rs => fun h => by
    obtain ⟨x, x1, x2, x3⟩ := Src.rope_spec inner h.1
    simp only [Src.rope, x1, Except.bind, Src.src, replaceSource]
    by_cases he : rs.isEmpty = true
    · simp only [he, if_true]; exact ⟨x, rfl, x2, x3⟩
    · simp only [he, Bool.false_eq_true, if_false]
      obtain ⟨out, o1, o2, o3⟩ := ropeSplice_spec x x3 (sortRepls rs) 0 Rope.new (Nat.zero_le _) (isBoundary_zero _) wf_new
        (fun r hr => by rw [x2]; exact h.2 r ((mem_sortRepls rs r).1 hr))
      exact ⟨out, o1, by rw [o2, x2, ← specGo_eq_applyGo _ _ 0 (Nat.zero_le _)]; rfl, o3⟩
  | .cached _ inner => Src.rope_spec inner
theorem SrcList.ropes_spec : ∀ (l : SrcList) (acc : Rope), l.RopeOKs → acc.WF →
    ∃ r, l.ropes acc = .ok r ∧ r.render = acc.render ++ l.srcs ∧ r.WF
  | .nil => fun acc _ ha => ⟨acc, rfl, (List.append_nil _).symm, ha⟩
  | .cons s rest => fun acc h ha => by
    obtain ⟨x, x1, x2, x3⟩ := Src.rope_spec s h.1
    obtain ⟨y, y1, y2, y3⟩ := SrcList.ropes_spec rest (acc.append x) h.2 (wf_append _ _ ha x3)
    refine ⟨y, ?_, ?_, y3⟩
    · simp only [SrcList.ropes, x1, Except.bind]; exact y1
    · rw [y2, render_append, x2, List.append_assoc]; rfl
end

instance (t : Text) (r : Repl) : Decidable (ReplOK t r) := by unfold ReplOK; infer_instance

end Rs
