import RsModel.Model.Rope
/-!
# Rope: invariant (offsets are prefix sums), rendering of the constructors

`Rope.Inv` (`OffsOK`): the offset stored with a piece is the length of the pieces before it; `flat` is what a piece list renders to,
and under `Inv` the stored length is that of the rendering (`len_eq_render`).  For `new`, `append`, `add` and `from_iter`: the result
renders to the concatenation (`render_append`, `render_add`, `render_fromIter`) and keeps `Inv` (`inv_append`, `inv_add`, `inv_fromIter`).
-/
namespace Rs

theorem getLast?_append_ne {α} (a b : List α) (h : b ≠ []) : (a ++ b).getLast? = b.getLast? := by
  rw [List.getLast?_append, List.getLast?_eq_some_getLast h, Option.some_or]

namespace Rope

def OffsOK : Nat → List (Text × Nat) → Prop
  | _, [] => True
  | s, (c, o) :: rest => o = s ∧ OffsOK (s + c.length) rest

def Inv : Rope → Prop
  | .light _ => True
  | .full ps => OffsOK 0 ps

def total (ps : List (Text × Nat)) : Nat := (ps.map (·.1.length)).sum

theorem total_append (a b : List (Text × Nat)) : total (a ++ b) = total a + total b := by
  simp [total, List.sum_append]

def flat (ps : List (Text × Nat)) : Text := (ps.map (·.1)).flatten

theorem flat_nil : flat [] = [] := rfl
theorem flat_cons (c : Text) (l : Nat) (out : List (Text × Nat)) : flat ((c, l) :: out) = c ++ flat out := by simp [flat]
theorem flat_append (a b : List (Text × Nat)) : flat (a ++ b) = flat a ++ flat b := by simp [flat]
theorem flat_length (ps : List (Text × Nat)) : (flat ps).length = total ps := by
  rw [flat, List.length_flatten, List.map_map]; rfl
theorem render_full (ps : List (Text × Nat)) : (Rope.full ps).render = flat ps := rfl

theorem offsOK_append (s : Nat) (a b : List (Text × Nat)) :
    OffsOK s (a ++ b) ↔ OffsOK s a ∧ OffsOK (s + total a) b := by
  induction a generalizing s with
  | nil => simp [OffsOK, total]
  | cons p ps ih =>
    obtain ⟨c, o⟩ := p
    simp only [List.cons_append, OffsOK, ih, total, List.map_cons, List.sum_cons, and_assoc, Nat.add_assoc]

theorem endOf_total (ps : List (Text × Nat)) (h : OffsOK 0 ps) : endOf ps = total ps := by
  -- the last piece begins where the pieces before it end
  rcases List.eq_nil_or_concat ps with rfl | ⟨L, ⟨c, o⟩, rfl⟩
  · rfl
  · rw [List.concat_eq_append] at h ⊢
    obtain rfl : o = 0 + total L := ((offsOK_append 0 L [(c, o)]).1 h).2.1
    rw [endOf, List.getLast?_concat, total_append, Nat.zero_add]
    rfl

theorem len_eq_render (r : Rope) (h : r.Inv) : r.len = r.render.length := by
  cases r with
  | light s => rfl
  | full ps => rw [render_full, flat_length]; exact endOf_total ps h

theorem render_new : Rope.new.render = [] := rfl
theorem inv_new : Rope.new.Inv := trivial

def asFull : Rope → List (Text × Nat)
  | .light s => [(s, 0)]
  | .full ps => ps

theorem asFull_pieces (r : Rope) : r.asFull.map (·.1) = r.pieces := by cases r <;> rfl

theorem pieces_flatten (r : Rope) : r.pieces.flatten = r.render := by
  cases r with
  | light s => simp [pieces, render]
  | full ps => rfl

theorem inv_asFull (r : Rope) (h : r.Inv) : OffsOK 0 r.asFull ∧ total r.asFull = r.len := by
  cases r with
  | light s => exact ⟨⟨rfl, trivial⟩, by simp [asFull, total, len]⟩
  | full ps => exact ⟨h, (endOf_total ps h).symm⟩

theorem pushAll_spec (acc : List (Text × Nat)) (l : Nat) (os : List (Text × Nat)) :
    ∃ os', pushAll acc l os = acc ++ os' ∧ os'.map (·.1) = os.map (·.1) ∧ OffsOK l os' := by
  fun_induction pushAll acc l os with
  | case1 acc l => exact ⟨[], (List.append_nil _).symm, rfl, trivial⟩
  | case2 acc l c o rest ih =>
    obtain ⟨os', h1, h2, h3⟩ := ih
    exact ⟨(c, l) :: os', h1.trans (List.append_assoc ..), congrArg (c :: ·) h2, ⟨rfl, h3⟩⟩

theorem append_cases (a b : Rope) :
    (a.append b = a ∧ b.render = []) ∨ (a.append b = b ∧ a.render = []) ∨
    ∃ os', a.append b = .full (a.asFull ++ os') ∧ os'.map (·.1) = b.pieces ∧ OffsOK a.len os' := by
  cases a with
  | light s =>
    cases b with
    | light o =>
      by_cases h : o = []
      · subst h; exact .inl ⟨rfl, rfl⟩
      · exact .inr (.inr ⟨[(o, s.length)], by simp [append, asFull, h], rfl, rfl, trivial⟩)
    | full os =>
      by_cases h : s = []
      · subst h; exact .inr (.inl ⟨rfl, rfl⟩)
      · obtain ⟨os', h1, h2, h3⟩ := pushAll_spec [(s, 0)] s.length os
        exact .inr (.inr ⟨os', by simp [append, asFull, h, h1], h2, h3⟩)
  | full ps =>
    cases b with
    | light o =>
      by_cases h : o = []
      · subst h; exact .inl ⟨rfl, rfl⟩
      · exact .inr (.inr ⟨[(o, endOf ps)], by simp [append, asFull, h], rfl, rfl, trivial⟩)
    | full os =>
      by_cases h : os = []
      · subst h; exact .inl ⟨rfl, rfl⟩
      · obtain ⟨os', h1, h2, h3⟩ := pushAll_spec ps (endOf ps) os
        exact .inr (.inr ⟨os', by simp [append, asFull, h, h1], h2, h3⟩)

theorem render_append (a b : Rope) : (a.append b).render = a.render ++ b.render := by
  rcases append_cases a b with ⟨e, h⟩ | ⟨e, h⟩ | ⟨os', e, h1, _⟩
  · rw [e, h, List.append_nil]
  · rw [e, h, List.nil_append]
  · rw [e, render_full, flat_append, flat, asFull_pieces, pieces_flatten, ← pieces_flatten b, ← h1]; rfl

theorem inv_append (a b : Rope) (ha : a.Inv) (hb : b.Inv) : (a.append b).Inv := by
  rcases append_cases a b with ⟨e, _⟩ | ⟨e, _⟩ | ⟨os', e, _, h3⟩
  · rwa [e]
  · rwa [e]
  · obtain ⟨h1, h2⟩ := inv_asFull a ha
    rw [e]
    exact (offsOK_append 0 _ _).2 ⟨h1, by rwa [Nat.zero_add, h2]⟩

theorem add_eq_append (r : Rope) (v : Text) : r.add v = r.append (.light v) := by cases r <;> rfl

theorem render_add (r : Rope) (v : Text) : (r.add v).render = r.render ++ v := by
  rw [add_eq_append, render_append]; rfl

theorem inv_add (r : Rope) (v : Text) (h : r.Inv) : (r.add v).Inv := by
  rw [add_eq_append]; exact inv_append r _ h trivial

theorem fromIterGo_spec (l : Nat) (cs : List Text) :
    ((fromIterGo l cs).map (·.1)).flatten = cs.flatten ∧ OffsOK l (fromIterGo l cs) ∧ ∀ p ∈ fromIterGo l cs, p.1 ≠ [] := by
  fun_induction fromIterGo l cs with
  | case1 => exact ⟨rfl, trivial, nofun⟩
  | case2 l c cs h ih => rw [List.isEmpty_iff.1 h]; exact ih
  | case3 l c cs h ih =>
    obtain ⟨h1, h2, h3⟩ := ih
    exact ⟨congrArg (c ++ ·) h1, ⟨rfl, h2⟩, List.forall_mem_cons.2 ⟨mt List.isEmpty_iff.2 h, h3⟩⟩

theorem render_fromIter (cs : List Text) : (fromIter cs).render = cs.flatten := (fromIterGo_spec 0 cs).1
theorem inv_fromIter (cs : List Text) : (fromIter cs).Inv := (fromIterGo_spec 0 cs).2.1

theorem isEmpty_eq (r : Rope) : r.isEmpty = r.render.isEmpty := by
  cases r with
  | light s => rfl
  | full ps =>
    simp only [isEmpty, render]
    induction ps with
    | nil => rfl
    | cons p ps ih =>
      obtain ⟨c, o⟩ := p
      simp only [List.all_cons, List.map_cons, List.flatten_cons, ih]
      cases c <;> simp

end Rope
end Rs
