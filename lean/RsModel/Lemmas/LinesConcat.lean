import RsModel.Lemmas.LinesSM
import RsModel.Lemmas.DeclMap
import RsModel.Lemmas.ConcatTables
/-!
# columns = false: ConcatSource attributes every generated line alike in both modes

Per generated line the first *mapped* chunk counts; unmapped chunks (among them the closing mappings of the text-less mode)
play no role, so only line offsets and the index translation matter.
-/
namespace Rs

def trPair (sim : List Nat) (p : Nat × Nat) : Nat × Nat := (sim.getD p.1 0, p.2)

theorem trans_lines (sim nim : List Nat) (orig : Option Orig) (h : ∀ o, orig = some o → o.src < sim.length) :
    (trans sim nim orig).map (fun o => (o.src, o.line)) = (orig.map fun o => (o.src, o.line)).map (trPair sim) := by
  cases orig with
  | none => rfl
  | some o => simp [trans_of_some, trPair, List.getElem?_eq_getElem (h o rfl)]

theorem lookupLines_trMs (final : Bool) (evs : List Ev) (st : CSt) (hd : DeclOK 0 0 evs) (l : Nat) :
    lookupLines (trMs final (childStart st) evs) l = (lookupLines (chunkMs evs) l).map (trPair (concatEvs final (childStart st) evs).1.sim) := by
  obtain ⟨⟨es, _, e1, _, hes⟩, h⟩ := trMs_final_tables final evs (childStart st) 0 0 hd rfl rfl
  rw [h]
  -- a child that announces before use has every source index inside the table it ends with
  refine lookupLines_map _ _ l l _ fun m hm => ⟨Iff.rfl, trans_lines _ _ _ fun o ho => ?_⟩
  have := (declOK_chunkMs evs 0 0 hd m hm o ho).1
  rw [e1, List.length_append, hes]
  omega

/-- a line at or before the child's start becomes line 0, where nothing stands -/
theorem lookupLines_shift (st : CSt) (L : Nat) (ms : List Mapping) (h : ∀ m ∈ ms, 1 ≤ m.gl) :
    lookupLines (ms.map (shiftM st)) L = lookupLines ms (L - st.lineOff) := by
  rw [lookupLines_map (shiftM st) id L (L - st.lineOff) ms fun m hm => ⟨?_, Option.map_id_apply.symm⟩, Option.map_id_apply]
  have := h m hm
  rw [shiftM_gl]; omega

theorem concatChild_lines (final : Bool) (st : CSt) (c : SResult) (L : Nat) (h1 : ∀ m ∈ chunkMs c.evs, 1 ≤ m.gl) :
    lookupLines (chunkMs (concatChild final st c).2) L = lookupLines (trMs final (childStart st) c.evs) (L - st.lineOff) := by
  rw [concatChild_ms, lookupLines_skip L _ _ (fun x hx h => by
    split at hx
    · rw [List.mem_singleton.1 hx] at h; cases h.2
    · cases hx)]
  exact lookupLines_shift st L _ (trMs_all final (fun gl _ => 1 ≤ gl) _ _ h1)

/-- what ConcatSource asks of a child's text-less stream `cf` and normal stream `cn` when columns = false (the twin of `ChildOK`):
the same final position, chunk lines from 1, sound announcements that agree, and the same first mapped chunk on every line -/
structure ChildOKL (cf cn : SResult) : Prop where
  info : cf.info = cn.info
  linesF : ∀ m ∈ chunkMs cf.evs, 1 ≤ m.gl
  linesN : ∀ m ∈ chunkMs cn.evs, 1 ≤ m.gl
  declF : DeclOK 0 0 cf.evs
  declN : DeclOK 0 0 cn.evs
  decls : declsOf cf.evs = declsOf cn.evs
  look : ∀ L, lookupLines (chunkMs cf.evs) L = lookupLines (chunkMs cn.evs) L

inductive ChildrenOKL : List SResult → List SResult → Prop where
  | nil : ChildrenOKL [] []
  | cons (cf cn : SResult) (cfs cns : List SResult) : ChildOKL cf cn → ChildrenOKL cfs cns → ChildrenOKL (cf :: cfs) (cn :: cns)

theorem concatGo_linesModes : ∀ (cfs cns : List SResult), ChildrenOKL cfs cns → ∀ (stF stN : CSt),
    stF.lineOff = stN.lineOff → stF.sourceMapping = stN.sourceMapping → stF.nameMapping = stN.nameMapping →
    (∀ L, lookupLines (chunkMs (concatGo true stF cfs).2) L = lookupLines (chunkMs (concatGo false stN cns).2) L)
    ∧ declsOf (concatGo true stF cfs).2 = declsOf (concatGo false stN cns).2 := by
  intro cfs cns h
  induction h with
  | nil => intro _ _ _ _ _; exact ⟨fun _ => rfl, rfl⟩
  | cons cf cn cfs cns hc _ ih =>
    intro stF stN hlo hsm hnm
    obtain ⟨d1, d2, d3⟩ := concatChild_decls cf cn stF stN hsm hnm hc.decls
    have hlo' : (concatChild true stF cf).1.lineOff = (concatChild false stN cn).1.lineOff := by
      rw [(concatChild_offs true stF cf).1, (concatChild_offs false stN cn).1, hlo, hc.info]
    obtain ⟨i1, i2⟩ := ih _ _ hlo' d2 d3
    have htb := concatEvs_tb_modes cf.evs cn.evs (childStart stF) (childStart stN) (tb_child stF stN hsm hnm) hc.decls
    have hs : (concatEvs true (childStart stF) cf.evs).1.sim = (concatEvs false (childStart stN) cn.evs).1.sim := congrArg Tb.sim htb.1
    refine ⟨fun L => ?_, ?_⟩
    · simp only [concatGo, chunkMs_append]
      rw [lookupLines_append, lookupLines_append, concatChild_lines true stF cf L hc.linesF, concatChild_lines false stN cn L hc.linesN, i1 L, hlo,
        lookupLines_trMs true cf.evs stF hc.declF, lookupLines_trMs false cn.evs stN hc.declN, hs, hc.look]
    · simp only [concatGo, declsOf_append]
      rw [d1, i2]

end Rs
