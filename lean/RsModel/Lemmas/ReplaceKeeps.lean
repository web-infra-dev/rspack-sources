import RsModel.Lemmas.ReplaceWalk
/-!
# C06, ReplaceSource: what every delivered chunk keeps of the inner chunk it was cut from

For one inner chunk with mapping `m`: every chunk the ReplaceSource delivers while processing it — pieces of the inner text and
replacement content alike — is unmapped if the inner chunk is unmapped, and otherwise points to the same source index and the
same original line, at a column that is not before the inner chunk's column and that equals it when no content is recorded
for that source (the column is advanced only where `check_original_content` succeeds).
-/
namespace Rs

def KeepsOf (contents : List (Option Text)) (a b : Option Orig) : Prop :=
  (a = none → b = none) ∧ ∀ y, b = some y → ∃ x, a = some x ∧ y.src = x.src ∧ y.line = x.line ∧ x.col ≤ y.col
    ∧ ((∀ c, contents[x.src]? ≠ some (some c)) → y.col = x.col)

theorem Moved.keeps {contents : List (Option Text)} {chunk : Text} {a w : Option Orig} {p : Nat} (h : Moved contents chunk a p w)
    (f : Orig → Option Nat) : KeepsOf contents a (w.map fun o => { o with name := f o }) := by
  obtain ⟨k, rfl, hk⟩ := h
  cases a with
  | none => exact ⟨fun _ => rfl, nofun⟩
  | some o =>
    refine ⟨nofun, fun y hy => ?_⟩
    cases hy
    exact ⟨o, rfl, rfl, rfl, Nat.le_add_right _ _, fun hno => by rw [(hk o rfl).1 hno]; rfl⟩

theorem rOnChunk_keeps (st : RSt) (chunk : Text) (m : Mapping) :
    ∀ t mm, Ev.chunk t mm ∈ (rOnChunk st chunk m).2 → KeepsOf st.contents m.orig mm.orig := by
  intro t mm hm
  obtain ⟨_, _, _, hw, ⟨f, e⟩, _⟩ := ((rOnChunk_delivered st chunk m).1 _ hm).parts
  exact e ▸ hw.keeps f

/-- `KeepsOf` without the clause about recorded content -/
def KeepsW (a b : Option Orig) : Prop :=
  (a = none → b = none) ∧ ∀ y, b = some y → ∃ x, a = some x ∧ y.src = x.src ∧ y.line = x.line ∧ x.col ≤ y.col

theorem KeepsOf.weak {contents : List (Option Text)} {a b : Option Orig} (h : KeepsOf contents a b) : KeepsW a b :=
  ⟨h.1, fun y hy => by obtain ⟨x, h1, h2, h3, h4, _⟩ := h.2 y hy; exact ⟨x, h1, h2, h3, h4⟩⟩

theorem rOnChunk_noSrc (st : RSt) (chunk : Text) (m : Mapping) : NoSrc (rOnChunk st chunk m).2 :=
  fun _ _ _ h => nomatch (rOnChunk_delivered st chunk m).1 _ h

theorem rEv_sources (st : RSt) (e : Ev) (i : Nat) (s : Text) (c : Option Text) : Ev.source i s c ∈ (rEv st e).2 ↔ e = Ev.source i s c := by
  cases e with
  | chunk t m => exact ⟨fun h => absurd h (rOnChunk_noSrc _ _ _ i s c), nofun⟩
  | source j s' c' => exact List.mem_singleton.trans eq_comm
  | name j n => exact ⟨fun h => absurd h (globalName_noSrc _ _ i s c), nofun⟩

theorem rEvs_sources : ∀ (evs : List Ev) (st : RSt) (i : Nat) (s : Text) (c : Option Text),
    Ev.source i s c ∈ (rEvs st evs).2 ↔ Ev.source i s c ∈ evs
  | [], _, _, _, _ => Iff.rfl
  | e :: es, st, i, s, c => by rw [rEvs, List.mem_append, rEv_sources, rEvs_sources es, List.mem_cons, eq_comm]

theorem rRemainder_unmapped (gcInfo : Nat) (cls : List Text) (st : RSt) (line : Int) :
    (∀ t mm, Ev.chunk t mm ∈ (rRemainder gcInfo cls st line).2.1 → mm.orig = none) ∧ NoSrc (rRemainder gcInfo cls st line).2.1 :=
  ⟨fun _ _ h => by obtain ⟨_, _, _, _, e⟩ := rRemainder_evs _ _ _ _ _ h; cases e; rfl,
    fun _ _ _ h => by obtain ⟨_, _, _, _, e⟩ := rRemainder_evs _ _ _ _ _ h; cases e⟩

/-- **ReplaceSource, whole stream**: every delivered chunk is unmapped, or was cut from (or spliced into) an inner chunk whose
source index and original line it keeps, at a column not before that chunk's column; unmapped inner chunks stay unmapped;
and the sources are announced exactly as the inner stream announces them -/
theorem replaceStream_keeps (sorted : List Repl) (inner : SResult) :
    (∀ t' mm, Ev.chunk t' mm ∈ (replaceStream sorted inner).evs → mm.orig = none ∨ ∃ t m, Ev.chunk t m ∈ inner.evs ∧ KeepsW m.orig mm.orig)
    ∧ ∀ i s c, Ev.source i s c ∈ (replaceStream sorted inner).evs ↔ Ev.source i s c ∈ inner.evs := by
  refine ⟨fun t' mm h => ?_, ?_⟩
  · rcases replaceStream_chunk sorted inner h with ⟨st, t, m, hm, h'⟩ | ⟨h', _⟩
    · exact Or.inr ⟨t, m, hm, (rOnChunk_keeps st _ m t' mm h').weak⟩
    · exact Or.inl h'
  · intro i s c
    obtain ⟨_, _, _, _, e⟩ := replaceStream_evs sorted inner
    rw [e, List.mem_append, rEvs_sources]
    exact or_iff_left ((rRemainder_unmapped _ _ _ _).2 i s c)

end Rs
