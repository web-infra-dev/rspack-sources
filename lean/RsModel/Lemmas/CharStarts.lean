import RsModel.Model.Stream
/-!
# `WithIndices`: the char-start table is increasing and bounded

`charStartsFrom_sublist` gives both: the table is a sublist of the byte offsets of the line; they are read through `cpos`, the
table's answer for a char index (`cpos_le`, `substring_range`, `cpos_mono`, `cpos_big`).  Before it, what `List.getD` answers
inside a list, outside it, and in either case (`forall_getD`): lines and char starts are fetched with a default throughout the model.
-/
namespace Rs

theorem getD_of_lt {α} {l : List α} {i : Nat} (d : α) (h : i < l.length) : l.getD i d = l[i] := by
  rw [List.getD_eq_getElem?_getD, List.getElem?_eq_getElem h]; rfl

theorem getD_of_le {α} {l : List α} {i : Nat} (d : α) (h : l.length ≤ i) : l.getD i d = d := by
  rw [List.getD_eq_getElem?_getD, List.getElem?_eq_none h]; rfl

theorem forall_getD {α} {P : α → Prop} {l : List α} {d : α} (hd : P d) (h : ∀ x ∈ l, P x) (k : Nat) : P (l.getD k d) := by
  rw [List.getD_eq_getElem?_getD]
  cases hx : l[k]? with
  | none => exact hd
  | some x => exact h x (List.mem_of_getElem? hx)

theorem charStartsFrom_sublist : ∀ (t : Text) (i : Nat), (charStartsFrom i t).Sublist (List.range' i t.length)
  | [], _ => .slnil
  | b :: bs, i => by
    rw [charStartsFrom, List.length_cons, List.range'_succ]
    split
    · exact (charStartsFrom_sublist bs (i + 1)).cons _
    · exact (charStartsFrom_sublist bs (i + 1)).cons_cons _

theorem charStartsFrom_bounds (t : Text) (i : Nat) : ∀ x ∈ charStartsFrom i t, i ≤ x ∧ x < i + t.length :=
  fun _ hx => List.mem_range'_1.1 ((charStartsFrom_sublist t i).subset hx)

theorem charStartsFrom_sorted (t : Text) (i : Nat) : (charStartsFrom i t).Pairwise (· < ·) :=
  List.Pairwise.sublist (charStartsFrom_sublist t i) List.pairwise_lt_range'

/-- byte offset of char index `a`, clamped to the line length -/
def cpos (ln : Text) (a : Nat) : Nat := (charStarts ln).getD a ln.length

theorem cpos_le (ln : Text) (a : Nat) : cpos ln a ≤ ln.length := by
  unfold cpos
  by_cases h : a < (charStarts ln).length
  · rw [getD_of_lt _ h]
    have := (charStartsFrom_bounds ln 0 _ (List.getElem_mem h)).2
    omega
  · rw [getD_of_le _ (Nat.le_of_not_lt h)]; exact Nat.le_refl _

/-- `c19_substring_range` (Props/C19.lean) says what this is for -/
theorem substring_range (ln : Text) (a b : Nat) (h : a < b) : cpos ln a ≤ cpos ln b ∧ cpos ln b ≤ ln.length := by
  refine ⟨?_, cpos_le ln b⟩
  unfold cpos
  by_cases hb : b < (charStarts ln).length
  · rw [getD_of_lt _ hb, getD_of_lt _ (Nat.lt_trans h hb)]
    exact Nat.le_of_lt (List.pairwise_iff_getElem.mp (charStartsFrom_sorted ln 0) a b _ _ h)
  · rw [getD_of_le _ (Nat.le_of_not_lt hb)]; exact cpos_le ln a

theorem cpos_mono (ln : Text) (a b : Nat) (h : a ≤ b) : cpos ln a ≤ cpos ln b := by
  rcases Nat.eq_or_lt_of_le h with rfl | hlt
  · exact Nat.le_refl _
  · exact (substring_range ln a b hlt).1

theorem charStartsFrom_length_le (t : Text) (i : Nat) : (charStartsFrom i t).length ≤ t.length :=
  Nat.le_trans (charStartsFrom_sublist t i).length_le (Nat.le_of_eq List.length_range')

theorem cpos_big (ln : Text) (a : Nat) (h : ln.length ≤ a) : cpos ln a = ln.length :=
  getD_of_le _ (Nat.le_trans (charStartsFrom_length_le ln 0) h)

end Rs
