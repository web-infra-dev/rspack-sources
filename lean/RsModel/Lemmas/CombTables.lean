import RsModel.Lemmas.CombInner
import RsModel.Lemmas.DeclSM
import RsModel.Lemmas.Tables
/-!
# C09/C11: the translation tables of the combinator

`stream_chunks_of_combined_source_map` keeps nine tables: two name-keyed de-duplication maps (`source_mapping`, `name_mapping`),
four local-index → global-index tables with the sentinel `-2` ("not announced yet") and three value tables (the names behind
`name_index`, `inner_source_index`, `inner_name_index`).  `KInv` says what
they mean: the de-duplication maps list the announced files / names in announcement order, and every resolved entry of an index
table points to the announcement that carries the right name.  The invariant is kept by every callback (`combEnd_inv`), which gives
the stream clause of C11 for the combinator (dense, announced before use: `streamCombined_declOK`) and the name-level reading of C09
(pass-through and fall-back chunks name the outer file, composed chunks name the inner map's file: `combOnChunk_sem`, `combFold_ok`).
-/
namespace Rs

theorem getD_eq_some {α} {o : Option α} {d v : α} (h : o.getD d = v) (hv : v ≠ d) : o = some v := by
  cases o with
  | none => exact absurd h.symm hv
  | some w => exact congrArg some h

theorem ite_some_eq {α} {c : Prop} [Decidable c] {a k : α} (h : (if c then some a else none) = some k) : c ∧ a = k := by
  split at h
  · exact ⟨by assumption, Option.some.inj h⟩
  · cases h

theorem lt_of_getElem?_eq {α} {a b : List α} {i j : Nat} (h : a[i]? = b[j]?) (hj : j < b.length) : i < a.length :=
  (List.getElem?_eq_some_iff.1 (h.trans (List.getElem?_eq_getElem hj))).1

/-- `tbl` translates local indices (whose names are `loc`) into indices of the announced list `glob`:
unresolved (`-2`), none (`-1`), or the index of an announcement that carries the same name -/
def TblSem (tbl : List Int) (loc glob : List Text) : Prop :=
  tbl.length = loc.length ∧ ∀ (i : Nat) (v : Int), tbl[i]? = some v → v = -2 ∨ v = -1 ∨ (0 ≤ v ∧ glob[v.toNat]? = loc[i]?)

theorem tblSem_nil (glob : List Text) : TblSem [] [] glob := ⟨rfl, fun i v h => by simp at h⟩

theorem tblSem_get {tbl : List Int} {loc glob : List Text} (h : TblSem tbl loc glob) {i : Nat} {v : Int} (hv : tbl[i]? = some v) (h0 : 0 ≤ v) :
    v.toNat < glob.length ∧ glob[v.toNat]? = loc[i]? ∧ i < loc.length := by
  have hi : i < loc.length := h.1 ▸ (List.getElem?_eq_some_iff.1 hv).1
  rcases h.2 i v hv with h1 | h1 | ⟨_, h2⟩
  · omega
  · omega
  · exact ⟨lt_of_getElem?_eq h2 hi, h2, hi⟩

theorem tblSem_mono {tbl : List Int} {loc glob : List Text} (x : List Text) (h : TblSem tbl loc glob) : TblSem tbl loc (glob ++ x) := by
  refine ⟨h.1, fun i v hv => ?_⟩
  rcases h.2 i v hv with h1 | h1 | ⟨h1, h2⟩
  · exact Or.inl h1
  · exact Or.inr (Or.inl h1)
  · exact Or.inr (Or.inr ⟨h1, by rw [List.getElem?_append_left (tblSem_get h hv h1).1]; exact h2⟩)

theorem tblSem_insert {tbl : List Int} {loc glob : List Text} (h : TblSem tbl loc glob) (k : Nat) (hk : k ≤ tbl.length) (v : Int) (name d : Text)
    (hv : v = -2 ∨ v = -1 ∨ (0 ≤ v ∧ glob[v.toNat]? = some name)) : TblSem (lmInsert 0 tbl k v) (lmInsert d loc k name) glob := by
  refine ⟨by rw [lmInsert_length, lmInsert_length, h.1], fun i w hw => ?_⟩
  rw [lmInsert_get _ _ _ _ hk] at hw
  rw [lmInsert_get _ _ _ _ (h.1 ▸ hk)]
  split at hw
  · rename_i hik
    cases hw
    simp only [hik, if_true]
    exact hv
  · rename_i hik
    simp only [hik, if_false]
    exact h.2 i w hw

theorem tblSem_resolve {tbl : List Int} {loc glob : List Text} (h : TblSem tbl loc glob) {k : Nat} (hk : k < tbl.length) (g : Nat)
    (hg : glob[g]? = loc[k]?) : TblSem (lmInsert 0 tbl k (g : Int)) loc glob := by
  refine ⟨by rw [lmInsert_length, ← h.1]; omega, fun i w hw => ?_⟩
  rw [lmInsert_get _ _ _ _ (Nat.le_of_lt hk)] at hw
  split at hw
  · rename_i hik
    cases hw; subst hik
    exact Or.inr (Or.inr ⟨Int.natCast_nonneg g, by rw [Int.toNat_natCast]; exact hg⟩)
  · exact h.2 i w hw

structure KInv (cfg : CombCfg) (st : CombSt) (S N OS : List Text) : Prop where
  sm : st.sourceMapping = S.zipIdx
  nm : st.nameMapping = N.zipIdx
  sim : TblSem st.sourceIndexMapping OS S
  nim : TblSem st.nameIndexMapping st.nameIndexValueMapping N
  isim : TblSem st.innerSourceIndexMapping (st.innerSourceIndexValueMapping.map (·.1)) S
  inim : TblSem st.innerNameIndexMapping st.innerNameIndexValueMapping N
  segs : ∀ ld ∈ st.lineData, ∀ seg ∈ ld.segs, seg.src < st.innerSourceIndexMapping.length ∧ seg.name < st.innerNameIndexMapping.length
  isi : st.innerSourceIndex = -2 ∨ (0 ≤ st.innerSourceIndex ∧ OS[st.innerSourceIndex.toNat]? = some cfg.innerName)

theorem segsBound_mono {ld : List LineData} {a b a' b' : Nat} (ha : a ≤ a') (hb : b ≤ b')
    (h : ∀ l ∈ ld, ∀ seg ∈ l.segs, seg.src < a ∧ seg.name < b) : ∀ l ∈ ld, ∀ seg ∈ l.segs, seg.src < a' ∧ seg.name < b' :=
  fun l hl seg hs => ⟨Int.lt_of_lt_of_le (h l hl seg hs).1 (Int.ofNat_le.2 ha), Int.lt_of_lt_of_le (h l hl seg hs).2 (Int.ofNat_le.2 hb)⟩

/-- `-1 ≤ i` holds of `Mapping.si` (`-1`: unmapped) and excludes the sentinel `-2` of an inner source not announced yet -/
theorem KInv.inner_at {cfg : CombCfg} {st : CombSt} {S N OS : List Text} (h : KInv cfg st S N OS) {i : Int} (hi : -1 ≤ i)
    (he : i = st.innerSourceIndex) : 0 ≤ i ∧ OS[i.toNat]? = some cfg.innerName := by
  rcases h.isi with h0 | h0
  · omega
  · exact he ▸ h0

/-- `declOK_append` with the counters read off the tables -/
theorem declOK_app {S N : List Text} {a b : List Ev} :
    DeclOK S.length N.length (a ++ b) ↔ DeclOK S.length N.length a ∧ DeclOK (S ++ annS a).length (N ++ annN a).length b := by
  rw [declOK_append, List.length_append, List.length_append, annS_length, annN_length]

theorem declOK_snoc_chunk {S N : List Text} {a : List Ev} (t : Option Text) (m : Mapping) (ha : DeclOK S.length N.length a)
    (hm : ∀ o, m.orig = some o → IdxLt (S ++ annS a).length (N ++ annN a).length o) :
    DeclOK S.length N.length (a ++ [Ev.chunk t m]) :=
  declOK_app.2 ⟨ha, hm, trivial⟩

theorem chunk_mem_snoc {a : List Ev} (ha : ∀ t mm, Ev.chunk t mm ∉ a) {c t : Option Text} {x mm : Mapping}
    (h : Ev.chunk t mm ∈ a ++ [Ev.chunk c x]) : t = c ∧ mm = x := by
  rcases List.mem_append.1 h with h | h
  · exact absurd h (ha t mm)
  · simpa using h

theorem chunk_mem_single {c t : Option Text} {x mm : Mapping} (h : Ev.chunk t mm ∈ [Ev.chunk c x]) : t = c ∧ mm = x :=
  chunk_mem_snoc (a := []) (fun _ _ hm => nomatch hm) h

/-- what a pass-through / fall-back chunk says: same text and position; when mapped, the announced file is the outer map's file
of that index, the location is the outer one, and the announced name is the outer map's name of that index -/
def PassSem (S N OS ON : List Text) (chunk : Option Text) (m : Mapping) (si ol oc ni : Int) (evs : List Ev) : Prop :=
  ∀ t mm, Ev.chunk t mm ∈ evs → t = chunk ∧ mm.gl = m.gl ∧ mm.gc = m.gc ∧ ∀ y, mm.orig = some y →
    0 ≤ si ∧ S[y.src]? = OS[si.toNat]? ∧ si.toNat < OS.length ∧ y.line = ol.toNat ∧ y.col = oc.toNat
      ∧ ∀ k, y.name = some k → 0 ≤ ni ∧ N[k]? = ON[ni.toNat]? ∧ ni.toNat < ON.length

theorem passSem_unmapped {S N OS ON : List Text} {chunk : Option Text} {m : Mapping} {si ol oc ni : Int} :
    PassSem S N OS ON chunk m si ol oc ni [.chunk chunk ⟨m.gl, m.gc, none⟩] := by
  intro t mm hm
  obtain ⟨rfl, rfl⟩ := chunk_mem_single hm
  exact ⟨rfl, rfl, rfl, fun y hy => nomatch hy⟩

theorem combPass_ok (cfg : CombCfg) (st : CombSt) (S N OS : List Text) (h : KInv cfg st S N OS) (chunk : Option Text) (m : Mapping) (si ol oc ni : Int)
    (r : CombSt × List Ev) (hr : combPass st chunk m si ol oc ni = r) :
    DeclOK S.length N.length r.2 ∧ KInv cfg r.1 (S ++ annS r.2) (N ++ annN r.2) OS
    ∧ PassSem (S ++ annS r.2) (N ++ annN r.2) OS st.nameIndexValueMapping chunk m si ol oc ni r.2 := by
  unfold combPass at hr
  dsimp only at hr
  generalize hfs : (if si < 0 then (-1 : Int) else (st.sourceIndexMapping[si.toNat]?).getD (-1)) = v at hr
  by_cases hneg : v < 0
  · rw [if_pos hneg] at hr
    subst hr
    simp only [annS, annN, List.append_nil]
    exact ⟨⟨(fun o ho => nomatch ho), trivial⟩, h, passSem_unmapped⟩
  ·
    rw [if_neg hneg] at hr
    obtain ⟨hsi, hv⟩ : 0 ≤ si ∧ st.sourceIndexMapping[si.toNat]? = some v := by
      split at hfs
      · omega
      · exact ⟨by omega, getD_eq_some hfs (by omega)⟩
    obtain ⟨g1, g2, g3⟩ := tblSem_get h.sim hv (by omega)
    generalize hf0 : (if ni ≥ 0 then (st.nameIndexMapping[ni.toNat]?).getD (-1) else (-1 : Int)) = f0 at hr
    have hrd : f0 ≠ -1 → 0 ≤ ni ∧ st.nameIndexMapping[ni.toNat]? = some f0 := by
      intro hne
      split at hf0
      · exact ⟨by assumption, getD_eq_some hf0 hne⟩
      · exact absurd hf0.symm hne
    by_cases hf : f0 = -2
    ·
      subst hf
      rw [if_pos (beq_self_eq_true _)] at hr
      obtain ⟨hni, hw⟩ := hrd (by decide)
      have hlt : ni.toNat < st.nameIndexMapping.length := (List.getElem?_eq_some_iff.1 hw).1
      have hlt2 : ni.toNat < st.nameIndexValueMapping.length := h.nim.1 ▸ hlt
      obtain ⟨n1, n2, n3, n4⟩ := globalName_spec N st.nameIndexValueMapping[ni.toNat] S.length
      have hnc := (globalName_annOf (fun _ _ => True) N.zipIdx st.nameIndexValueMapping[ni.toNat]).noChunk
      rw [List.getD_eq_getElem?_getD, List.getElem?_eq_getElem hlt2, Option.getD_some, h.nm] at hr
      generalize globalName N.zipIdx st.nameIndexValueMapping[ni.toNat] = g at n1 n2 n3 n4 hnc hr
      rw [← List.getElem?_eq_getElem hlt2] at n4
      subst hr
      simp only [annS_snoc_chunk, annN_snoc_chunk, n3, List.append_nil]
      refine ⟨declOK_snoc_chunk _ _ n2 ?_, ?_, ?_⟩
      · intro o ho
        cases ho
        refine ⟨by rw [n3, List.append_nil]; exact g1, fun k hk => ?_⟩
        cases hk
        exact lt_of_getElem?_eq n4 hlt2
      · exact { h with nm := n1, nim := tblSem_resolve (tblSem_mono _ h.nim) hlt _ n4, inim := tblSem_mono _ h.inim }
      · intro t mm hm
        obtain ⟨rfl, rfl⟩ := chunk_mem_snoc hnc hm
        refine ⟨rfl, rfl, rfl, fun y hy => ?_⟩
        cases hy
        exact ⟨hsi, g2, g3, rfl, rfl, fun k hk => by cases hk; exact ⟨hni, n4, hlt2⟩⟩
    · rw [if_neg (mt beq_iff_eq.1 hf)] at hr
      subst hr
      simp only [annS, annN, List.append_nil]
      have hname : ∀ k, (if f0 ≥ 0 then some f0.toNat else none) = some k →
          0 ≤ ni ∧ N[k]? = st.nameIndexValueMapping[ni.toNat]? ∧ ni.toNat < st.nameIndexValueMapping.length ∧ k < N.length := by
        intro k hk
        obtain ⟨hge, rfl⟩ := ite_some_eq hk
        obtain ⟨hni, hw⟩ := hrd (by omega)
        obtain ⟨q1, q2, q3⟩ := tblSem_get h.nim hw hge
        exact ⟨hni, q2, q3, q1⟩
      refine ⟨⟨fun o ho => ?_, trivial⟩, h, fun t mm hm => ?_⟩
      · cases ho
        exact ⟨g1, fun k hk => (hname k hk).2.2.2⟩
      · obtain ⟨rfl, rfl⟩ := chunk_mem_single hm
        refine ⟨rfl, rfl, rfl, fun y hy => ?_⟩
        cases hy
        exact ⟨hsi, g2, g3, rfl, rfl, fun k hk => ⟨(hname k hk).1, (hname k hk).2.1, (hname k hk).2.2.1⟩⟩

theorem combNoInner_ok (cfg : CombCfg) (st : CombSt) (S N OS : List Text) (h : KInv cfg st S N OS) (chunk : Option Text) (m : Mapping) (si ol oc ni : Int)
    (hin : OS[si.toNat]? = some cfg.innerName) (r : CombSt × List Ev) (hr : combNoInner cfg st chunk m si ol oc ni = r) :
    DeclOK S.length N.length r.2 ∧ KInv cfg r.1 (S ++ annS r.2) (N ++ annN r.2) OS
    ∧ PassSem (S ++ annS r.2) (N ++ annN r.2) OS st.nameIndexValueMapping chunk m si ol oc ni r.2
    ∧ (cfg.remove = true → ∀ t mm, Ev.chunk t mm ∈ r.2 → mm.orig = none) := by
  by_cases hrm : cfg.remove = true
  · rw [combNoInner, if_pos hrm] at hr
    subst hr
    simp only [annS, annN, List.append_nil]
    exact ⟨⟨(fun o ho => nomatch ho), trivial⟩, h, passSem_unmapped, fun _ t mm hm => by obtain ⟨_, rfl⟩ := chunk_mem_single hm; rfl⟩
  · refine .imp_right (.imp_right fun a4 => ⟨a4, fun hr => absurd hr hrm⟩) ?_
    by_cases hun : st.sourceIndexMapping[si.toNat]? = some (-2)
    · -- the inner source is registered under the outer index `si`, which names it (`hin`); then the chunk passes through
      obtain ⟨n1, n2, n3, n4⟩ := globalSource_spec S cfg.innerName st.innerSource N.length
      have hnc := (globalSource_annOf (P := fun _ _ => True) S.zipIdx cfg.innerName st.innerSource trivial).noChunk
      rw [combNoInner_unresolved _ _ _ _ _ _ _ _ hrm hun, h.sm] at hr
      generalize globalSource S.zipIdx cfg.innerName st.innerSource = g at n1 n2 n3 n4 hnc hr
      have h1 : KInv cfg { st with sourceMapping := g.1, sourceIndexMapping := lmInsert 0 st.sourceIndexMapping si.toNat g.2.2 } (S ++ annS g.2.1) N OS :=
        { h with sm := n1, isim := tblSem_mono _ h.isim,
                 sim := tblSem_resolve (tblSem_mono _ h.sim) (List.getElem?_eq_some_iff.1 hun).1 _ (n4.trans hin.symm) }
      obtain ⟨a1, a2, a4⟩ := combPass_ok cfg _ _ N OS h1 chunk m si ol oc ni _ rfl
      subst hr
      rw [annS_append, annN_append, n3, List.nil_append, ← List.append_assoc]
      exact ⟨declOK_app.2 ⟨n2, by rw [n3, List.append_nil]; exact a1⟩, a2, fun t mm hm => a4 t mm ((List.mem_append.1 hm).resolve_left (hnc t mm))⟩
    · rw [combNoInner, if_neg hrm, if_neg (mt beq_iff_eq.1 hun)] at hr
      exact combPass_ok cfg st S N OS h chunk m si ol oc ni r hr

theorem combSrcResolve_ok (cfg : CombCfg) (st : CombSt) (S N OS : List Text) (h : KInv cfg st S N OS) (isi : Nat) (hisi : isi < st.innerSourceIndexMapping.length) (nn : Nat)
    (r : CombSt × List Ev × Int) (hr : combSrcResolve st isi = r) :
    DeclOK S.length nn r.2.1 ∧ annN r.2.1 = [] ∧ KInv cfg r.1 (S ++ annS r.2.1) N OS
    ∧ (0 ≤ r.2.2 → (S ++ annS r.2.1)[r.2.2.toNat]? = (st.innerSourceIndexValueMapping.map (·.1))[isi]?) := by
  have hlen : isi < st.innerSourceIndexValueMapping.length := by have := h.isim.1; rw [List.length_map] at this; omega
  have hv := List.getElem?_eq_getElem hisi
  unfold combSrcResolve at hr
  simp only [hv, List.getElem?_eq_getElem hlen, Option.getD_some] at hr
  by_cases hun : st.innerSourceIndexMapping[isi] = -2
  · obtain ⟨n1, n2, n3, n4⟩ := globalSource_spec S st.innerSourceIndexValueMapping[isi].1 st.innerSourceIndexValueMapping[isi].2 nn
    rw [if_pos (beq_iff_eq.2 hun), h.sm] at hr
    generalize globalSource S.zipIdx st.innerSourceIndexValueMapping[isi].1 st.innerSourceIndexValueMapping[isi].2 = g at n1 n2 n3 n4 hr
    have hval : (S ++ annS g.2.1)[g.2.2]? = (st.innerSourceIndexValueMapping.map (·.1))[isi]? := by
      rw [n4, List.getElem?_map, List.getElem?_eq_getElem hlen]; rfl
    subst hr
    exact ⟨n2, n3,
      { h with sm := n1, sim := tblSem_mono _ h.sim, isim := tblSem_resolve (tblSem_mono _ h.isim) hisi _ hval,
               segs := segsBound_mono (lmInsert_length_le ..) (Nat.le_refl _) h.segs },
      fun _ => by rw [Int.toNat_natCast]; exact hval⟩
  · rw [if_neg (mt beq_iff_eq.1 hun)] at hr
    subst hr
    exact ⟨trivial, rfl, by simpa only [annS, List.append_nil] using h,
      fun h0 => by simpa only [annS, List.append_nil] using (tblSem_get h.isim hv h0).2.1⟩

/-- the outer name equals the original text at the composed location: same length, in the content recorded for inner source `isi` -/
def OuterMatch (st : CombSt) (isi : Nat) (seg : InnerSeg) (nameIndex ioc : Int) : Prop :=
  ∃ lines, innerContentLines st isi = some lines
    ∧ st.nameIndexValueMapping.getD nameIndex.toNat [] = combOrigName lines seg ioc (st.nameIndexValueMapping.getD nameIndex.toNat []).length

/-- where the name behind the resolved global index `g` comes from: the inner map's name, or, when the inner segment has none, the outer
mapping's name provided it matches the original text (`OuterMatch`) -/
def NameFrom (st : CombSt) (N : List Text) (isi : Nat) (seg : InnerSeg) (ini nameIndex ioc : Int) (g : Int) : Prop :=
  (0 ≤ ini ∧ N[g.toNat]? = st.innerNameIndexValueMapping[ini.toNat]? ∧ ini.toNat < st.innerNameIndexValueMapping.length)
  ∨ (ini < 0 ∧ 0 ≤ nameIndex ∧ N[g.toNat]? = st.nameIndexValueMapping[nameIndex.toNat]? ∧ nameIndex.toNat < st.nameIndexValueMapping.length
      ∧ OuterMatch st isi seg nameIndex ioc)

theorem combNameResolve_ok (cfg : CombCfg) (st : CombSt) (S N OS : List Text) (h : KInv cfg st S N OS) (isi : Nat) (seg : InnerSeg) (ini nameIndex ioc : Int)
    (hini : 0 ≤ ini → ini.toNat < st.innerNameIndexValueMapping.length)
    (hni : 0 ≤ nameIndex → nameIndex.toNat < st.nameIndexValueMapping.length) (ns : Nat)
    (r : CombSt × List Ev × Int) (hr : combNameResolve st isi seg ini nameIndex ioc = r) :
    DeclOK ns N.length r.2.1 ∧ annS r.2.1 = [] ∧ KInv cfg r.1 S (N ++ annN r.2.1) OS
    ∧ (0 ≤ r.2.2 → NameFrom st (N ++ annN r.2.1) isi seg ini nameIndex ioc r.2.2) := by
  have hstay : ∀ g : Int, (0 ≤ g → NameFrom st N isi seg ini nameIndex ioc g) → (st, ([] : List Ev), g) = r →
      DeclOK ns N.length r.2.1 ∧ annS r.2.1 = [] ∧ KInv cfg r.1 S (N ++ annN r.2.1) OS
      ∧ (0 ≤ r.2.2 → NameFrom st (N ++ annN r.2.1) isi seg ini nameIndex ioc r.2.2) := by
    rintro g hg rfl
    exact ⟨trivial, rfl, by simpa only [annN, List.append_nil] using h, by simpa only [annN, List.append_nil] using hg⟩
  have hno : (st, ([] : List Ev), (-1 : Int)) = r → _ := hstay (-1) (fun h0 => absurd h0 (by decide))
  unfold combNameResolve at hr
  by_cases hi0 : ini ≥ 0
  · have hlt2 := hini hi0
    have hlt : ini.toNat < st.innerNameIndexMapping.length := h.inim.1 ▸ hlt2
    have hv := List.getElem?_eq_getElem hlt
    rw [if_pos hi0] at hr
    simp only [hv, List.getElem?_eq_getElem hlt2, Option.getD_some] at hr
    by_cases hun : st.innerNameIndexMapping[ini.toNat] = -2
    · obtain ⟨n1, n2, n3, n4⟩ := globalName_spec N st.innerNameIndexValueMapping[ini.toNat] ns
      rw [if_pos (beq_iff_eq.2 hun), h.nm] at hr
      generalize globalName N.zipIdx st.innerNameIndexValueMapping[ini.toNat] = g at n1 n2 n3 n4 hr
      rw [← List.getElem?_eq_getElem hlt2] at n4
      subst hr
      exact ⟨n2, n3,
        { h with nm := n1, nim := tblSem_mono _ h.nim, inim := tblSem_resolve (tblSem_mono _ h.inim) hlt _ n4,
                 segs := segsBound_mono (Nat.le_refl _) (lmInsert_length_le ..) h.segs },
        fun _ => Or.inl ⟨hi0, by rw [Int.toNat_natCast]; exact n4, hlt2⟩⟩
    · rw [if_neg (mt beq_iff_eq.1 hun)] at hr
      exact hstay _ (fun h0 => Or.inl ⟨hi0, (tblSem_get h.inim hv h0).2.1, hlt2⟩) hr
  · rw [if_neg hi0] at hr
    by_cases hn0 : nameIndex ≥ 0
    · have hlt2 := hni hn0
      have hlt : nameIndex.toNat < st.nameIndexMapping.length := h.nim.1 ▸ hlt2
      have hv := List.getElem?_eq_getElem hlt
      rw [if_pos hn0] at hr
      cases hlines : innerContentLines st isi with
      | none => rw [hlines] at hr; exact hno hr
      | some lines =>
        simp only [hlines, hv, List.getElem?_eq_getElem hlt2, Option.getD_some] at hr
        by_cases hmatch : st.nameIndexValueMapping.getD nameIndex.toNat [] = combOrigName lines seg ioc (st.nameIndexValueMapping.getD nameIndex.toNat []).length
        · have hom : OuterMatch st isi seg nameIndex ioc := ⟨lines, hlines, hmatch⟩
          rw [if_pos (beq_iff_eq.2 hmatch)] at hr
          by_cases hun : st.nameIndexMapping[nameIndex.toNat] = -2
          · obtain ⟨n1, n2, n3, n4⟩ := globalName_spec N st.nameIndexValueMapping[nameIndex.toNat] ns
            rw [if_pos (beq_iff_eq.2 hun), h.nm] at hr
            generalize globalName N.zipIdx st.nameIndexValueMapping[nameIndex.toNat] = g at n1 n2 n3 n4 hr
            rw [← List.getElem?_eq_getElem hlt2] at n4
            subst hr
            exact ⟨n2, n3,
              { h with nm := n1, inim := tblSem_mono _ h.inim, nim := tblSem_resolve (tblSem_mono _ h.nim) hlt _ n4 },
              fun _ => Or.inr ⟨by omega, hn0, by rw [Int.toNat_natCast]; exact n4, hlt2, hom⟩⟩
          · rw [if_neg (mt beq_iff_eq.1 hun)] at hr
            exact hstay _ (fun h0 => Or.inr ⟨by omega, hn0, (tblSem_get h.nim hv h0).2.1, hlt2, hom⟩) hr
        · rw [if_neg (mt beq_iff_eq.1 hmatch)] at hr
          exact hno hr
    · rw [if_neg hn0] at hr
      exact hno hr

theorem combAdj_pos (st : CombSt) (seg : InnerSeg) (ic : Text) (loc : Int) (h : combAdj st seg ic loc = true) : 0 < loc := by
  unfold combAdj at h
  split at h
  · assumption
  · cases h

/-- what a composed chunk says: same text and position; the announced file is the inner map's file of the segment found, the line is
the segment's, the column the segment's (or advanced by the offset into it), and an announced name is the inner segment's name (column
not advanced) or the outer mapping's name, which then equals the original text at the delivered column (`OuterMatch`) -/
def FoundSem (st : CombSt) (S N : List Text) (chunk : Option Text) (m : Mapping) (seg : InnerSeg) (origCol nameIndex : Int) (evs : List Ev) : Prop :=
  ∀ t mm, Ev.chunk t mm ∈ evs → t = chunk ∧ mm.gl = m.gl ∧ mm.gc = m.gc ∧ ∀ y, mm.orig = some y →
    S[y.src]? = (st.innerSourceIndexValueMapping.map (·.1))[seg.src.toNat]? ∧ seg.src.toNat < st.innerSourceIndexValueMapping.length
    ∧ y.line = seg.line.toNat
    ∧ (y.col = seg.col.toNat ∨ (0 < origCol - seg.gc ∧ y.col = (seg.col + (origCol - seg.gc)).toNat))
    ∧ ∀ k, y.name = some k →
        (0 ≤ seg.name ∧ y.col = seg.col.toNat ∧ N[k]? = st.innerNameIndexValueMapping[seg.name.toNat]? ∧ seg.name.toNat < st.innerNameIndexValueMapping.length)
        ∨ (0 ≤ nameIndex ∧ N[k]? = st.nameIndexValueMapping[nameIndex.toNat]? ∧ nameIndex.toNat < st.nameIndexValueMapping.length
            ∧ ∃ ioc : Int, y.col = ioc.toNat ∧ OuterMatch st seg.src.toNat seg nameIndex ioc)

theorem combFound_ok (cfg : CombCfg) (st : CombSt) (S N OS : List Text) (h : KInv cfg st S N OS) (chunk : Option Text) (m : Mapping) (seg : InnerSeg) (ic : Text)
    (origCol nameIndex : Int) (hs0 : 0 ≤ seg.src) (hs1 : seg.src < st.innerSourceIndexMapping.length) (hn1 : seg.name < st.innerNameIndexMapping.length)
    (hni : 0 ≤ nameIndex → nameIndex.toNat < st.nameIndexValueMapping.length)
    (r : CombSt × List Ev) (hr : combFound st chunk m seg ic origCol nameIndex = r) :
    DeclOK S.length N.length r.2 ∧ KInv cfg r.1 (S ++ annS r.2) (N ++ annN r.2) OS
    ∧ FoundSem st (S ++ annS r.2) (N ++ annN r.2) chunk m seg origCol nameIndex r.2 := by
  unfold combFound at hr
  dsimp only at hr
  have hisi : seg.src.toNat < st.innerSourceIndexMapping.length := by omega
  have hisv : seg.src.toNat < st.innerSourceIndexValueMapping.length := by have := h.isim.1; rw [List.length_map] at this; omega
  obtain ⟨fr, aS⟩ := combSrcResolve_walk st seg.src.toNat
  generalize hrS : combSrcResolve st seg.src.toNat = rS at hr fr aS
  obtain ⟨a1, a2, a4, a6⟩ := combSrcResolve_ok cfg st S N OS h _ hisi N.length rS hrS
  have hadj := combAdj_pos st seg ic (origCol - seg.gc)
  generalize combAdj st seg ic (origCol - seg.gc) = adj at hadj hr
  have aN := (combNameResolve_walk rS.1 seg.src.toNat seg (if adj = true then -1 else seg.name) nameIndex
    (if adj = true then seg.col + (origCol - seg.gc) else seg.col)).2
  generalize hrN : combNameResolve rS.1 seg.src.toNat seg (if adj = true then -1 else seg.name) nameIndex
    (if adj = true then seg.col + (origCol - seg.gc) else seg.col) = rN at hr aN
  obtain ⟨b1, b2, b4, b6⟩ := combNameResolve_ok cfg rS.1 (S ++ annS rS.2.1) N OS a4 _ seg _ nameIndex _
    (fun h0 => by rw [fr.inames, ← h.inim.1]; split at h0 <;> omega) (fr.names ▸ hni) (S ++ annS rS.2.1).length rN hrN
  subst hr
  have hnc : ∀ t mm, Ev.chunk t mm ∉ rS.2.1 ++ rN.2.1 := fun t mm hm => (List.mem_append.1 hm).elim (aS.noChunk t mm) (aN.noChunk t mm)
  have eS : annS (rS.2.1 ++ rN.2.1) = annS rS.2.1 := by rw [annS_append, b2, List.append_nil]
  have eN : annN (rS.2.1 ++ rN.2.1) = annN rN.2.1 := by rw [annN_append, a2, List.nil_append]
  simp only [annS_snoc_chunk, annN_snoc_chunk, eS, eN]
  refine ⟨declOK_snoc_chunk _ _ (declOK_app.2 ⟨a1, by rw [a2, List.append_nil]; exact b1⟩) fun o ho => ?_, b4, fun t mm hm => ?_⟩
  · obtain ⟨hge, rfl⟩ := ite_some_eq ho
    rw [eS, eN]
    refine ⟨lt_of_getElem?_eq (a6 hge) (by rw [List.length_map]; exact hisv), fun k hk => ?_⟩
    obtain ⟨hge2, rfl⟩ := ite_some_eq hk
    rcases b6 hge2 with ⟨_, q, q2⟩ | ⟨_, _, q, q2, _⟩
    · exact lt_of_getElem?_eq q q2
    · exact lt_of_getElem?_eq q q2
  · obtain ⟨rfl, rfl⟩ := chunk_mem_snoc hnc hm
    refine ⟨rfl, rfl, rfl, fun y hy => ?_⟩
    obtain ⟨hge, rfl⟩ := ite_some_eq hy
    refine ⟨a6 hge, hisv, rfl, ?_, fun k hk => ?_⟩
    · cases adj with
      | true => exact Or.inr ⟨hadj rfl, rfl⟩
      | false => exact Or.inl rfl
    · obtain ⟨hge2, rfl⟩ := ite_some_eq hk
      rcases b6 hge2 with ⟨q0, q, q2⟩ | ⟨_, q0, q, q2, lines, l1, l2⟩
      · cases adj with
        | true => simp at q0
        | false => exact Or.inl ⟨q0, rfl, fr.inames ▸ q, fr.inames ▸ q2⟩
      · refine Or.inr ⟨q0, fr.names ▸ q, fr.names ▸ q2, _, rfl, lines, ?_, fr.names ▸ l2⟩
        unfold innerContentLines at l1 ⊢
        rw [fr.conts] at l1
        exact l1

theorem Mapping.si_ge (m : Mapping) : -1 ≤ m.si := by
  unfold Mapping.si
  split <;> omega

theorem Mapping.ni_lt (m : Mapping) (n : Nat) (hm : ∀ o, m.orig = some o → ∀ k, o.name = some k → k < n) (h0 : 0 ≤ m.ni) : m.ni.toNat < n := by
  rcases m with ⟨gl, gc, _ | ⟨src, line, col, _ | k⟩⟩
  · simp [Mapping.ni] at h0
  · simp [Mapping.ni] at h0
  · exact hm _ rfl k rfl

theorem combOnChunk_branches (cfg : CombCfg) (st : CombSt) (S N OS : List Text) (h : KInv cfg st S N OS) (chunk : Option Text) (m : Mapping)
    (hni : 0 ≤ m.ni → m.ni.toNat < st.nameIndexValueMapping.length) (r : CombSt × List Ev) (hr : combOnChunk cfg st chunk m = r) :
    DeclOK S.length N.length r.2 ∧ KInv cfg r.1 (S ++ annS r.2) (N ++ annN r.2) OS
    ∧ r.1.nameIndexValueMapping = st.nameIndexValueMapping
    ∧ ((∃ idx, m.si = st.innerSourceIndex ∧ findInner st m.ol m.oc = some idx ∧ 0 ≤ ((st.lineData.getD (m.ol.toNat - 1) {}).segs.getD idx default).src
          ∧ FoundSem st (S ++ annS r.2) (N ++ annN r.2) chunk m ((st.lineData.getD (m.ol.toNat - 1) {}).segs.getD idx default) m.oc m.ni r.2)
      ∨ ((m.si = st.innerSourceIndex → ∀ idx, findInner st m.ol m.oc = some idx → ((st.lineData.getD (m.ol.toNat - 1) {}).segs.getD idx default).src < 0)
          ∧ PassSem (S ++ annS r.2) (N ++ annN r.2) OS st.nameIndexValueMapping chunk m m.si m.ol m.oc m.ni r.2
          ∧ (m.si = st.innerSourceIndex → cfg.remove = true → ∀ t mm, Ev.chunk t mm ∈ r.2 → mm.orig = none))) := by
  have hnames : r.1.nameIndexValueMapping = st.nameIndexValueMapping := by
    obtain ⟨_, _, _, e, fr, _⟩ := combOnChunk_walk cfg st m
    rw [← hr, e chunk]
    exact fr.names
  rcases combOnChunk_cases cfg st m with ⟨idx, heq, hfi, hge, e⟩ | ⟨heq, hlt, e⟩ | ⟨hne, e⟩
  · obtain ⟨f1, f2⟩ := findInner_mem st m.ol m.oc idx hfi
    obtain ⟨g1, g2⟩ := h.segs _ f1 _ f2
    obtain ⟨c1, c2, c4⟩ := combFound_ok cfg st S N OS h chunk m _ _ m.oc m.ni hge g1 g2 hni r ((e chunk).symm.trans hr)
    exact ⟨c1, c2, hnames, Or.inl ⟨idx, heq, hfi, hge, c4⟩⟩
  · obtain ⟨c1, c2, c4, c5⟩ := combNoInner_ok cfg st S N OS h chunk m m.si m.ol m.oc m.ni (h.inner_at m.si_ge heq).2 r ((e chunk).symm.trans hr)
    exact ⟨c1, c2, hnames, Or.inr ⟨fun _ => hlt, c4, fun _ => c5⟩⟩
  · obtain ⟨c1, c2, c4⟩ := combPass_ok cfg st S N OS h chunk m m.si m.ol m.oc m.ni r ((e chunk).symm.trans hr)
    exact ⟨c1, c2, hnames, Or.inr ⟨fun heq => absurd heq hne, c4, fun heq => absurd heq hne⟩⟩

/-- what one `on_chunk` of the combinator delivers: the outer mapping passed through (`PassSem`), or the composition with the inner
segment the search finds (`FoundSem`) -/
def ChunkSem (st : CombSt) (S N OS : List Text) (chunk : Option Text) (m : Mapping) (evs : List Ev) : Prop :=
  PassSem S N OS st.nameIndexValueMapping chunk m m.si m.ol m.oc m.ni evs
  ∨ ∃ seg idx, 0 ≤ seg.src ∧ m.si = st.innerSourceIndex ∧ findInner st m.ol m.oc = some idx
      ∧ seg = (st.lineData.getD (m.ol.toNat - 1) {}).segs.getD idx default ∧ FoundSem st S N chunk m seg m.oc m.ni evs

theorem combOnChunk_ok (cfg : CombCfg) (st : CombSt) (S N OS : List Text) (h : KInv cfg st S N OS) (chunk : Option Text) (m : Mapping)
    (hm : ∀ o, m.orig = some o → ∀ k, o.name = some k → k < st.nameIndexValueMapping.length) :
    DeclOK S.length N.length (combOnChunk cfg st chunk m).2
    ∧ KInv cfg (combOnChunk cfg st chunk m).1 (S ++ annS (combOnChunk cfg st chunk m).2) (N ++ annN (combOnChunk cfg st chunk m).2) OS
    ∧ (combOnChunk cfg st chunk m).1.nameIndexValueMapping = st.nameIndexValueMapping
    ∧ ChunkSem st (S ++ annS (combOnChunk cfg st chunk m).2) (N ++ annN (combOnChunk cfg st chunk m).2) OS chunk m (combOnChunk cfg st chunk m).2 := by
  obtain ⟨c1, c2, c3, c4⟩ := combOnChunk_branches cfg st S N OS h chunk m (m.ni_lt _ hm) _ rfl
  refine ⟨c1, c2, c3, ?_⟩
  rcases c4 with ⟨idx, heq, hfi, hge, hf⟩ | ⟨_, hp, _⟩
  · exact Or.inr ⟨_, idx, hge, heq, hfi, rfl, hf⟩
  · exact Or.inl hp

/-- **C09, one outer chunk, in a state where the tables mean what `KInv` says**: what is delivered is composed (`FoundSem`) exactly when
the outer chunk points into the inner source and the search finds a mapped segment; otherwise it passes through or falls back to the
inner source itself (`PassSem`), and is unmapped when removal is requested for a chunk of the inner source -/
theorem combOnChunk_sem (cfg : CombCfg) (st : CombSt) (S N OS : List Text) (h : KInv cfg st S N OS) (chunk : Option Text) (m : Mapping)
    (hm : ∀ o, m.orig = some o → ∀ k, o.name = some k → k < st.nameIndexValueMapping.length) :
    (∀ idx, m.si = st.innerSourceIndex → findInner st m.ol m.oc = some idx →
        0 ≤ ((st.lineData.getD (m.ol.toNat - 1) {}).segs.getD idx default).src →
        FoundSem st (S ++ annS (combOnChunk cfg st chunk m).2) (N ++ annN (combOnChunk cfg st chunk m).2) chunk m
          ((st.lineData.getD (m.ol.toNat - 1) {}).segs.getD idx default) m.oc m.ni (combOnChunk cfg st chunk m).2)
    ∧ ((m.si = st.innerSourceIndex → ∀ idx, findInner st m.ol m.oc = some idx → ((st.lineData.getD (m.ol.toNat - 1) {}).segs.getD idx default).src < 0) →
        PassSem (S ++ annS (combOnChunk cfg st chunk m).2) (N ++ annN (combOnChunk cfg st chunk m).2) OS st.nameIndexValueMapping chunk m m.si m.ol m.oc m.ni
          (combOnChunk cfg st chunk m).2
        ∧ (m.si = st.innerSourceIndex → cfg.remove = true → ∀ t mm, Ev.chunk t mm ∈ (combOnChunk cfg st chunk m).2 → mm.orig = none)) := by
  obtain ⟨_, _, _, c4⟩ := combOnChunk_branches cfg st S N OS h chunk m (m.ni_lt _ hm) _ rfl
  rcases c4 with ⟨idx, heq, hfi, hge, hf⟩ | ⟨hlt, hp⟩
  · refine ⟨fun idx' _ hfi' _ => ?_, fun hall => ?_⟩
    · cases hfi.symm.trans hfi'; exact hf
    · have := hall heq idx hfi; omega
  · exact ⟨fun idx heq hfi h0 => by have := hlt heq idx hfi; omega, fun _ => hp⟩

theorem toSeg_bound (m : Mapping) (a b : Nat) (h : ∀ o, m.orig = some o → IdxLt a b o) :
    (toSeg m).src < a ∧ (toSeg m).name < b := by
  rcases m with ⟨gl, gc, _ | ⟨src, line, col, _ | k⟩⟩
  · simp only [toSeg]; omega
  · have h1 : src < a := (h _ rfl).1
    simp only [toSeg]; omega
  · have h1 : src < a := (h _ rfl).1
    have h2 : k < b := (h _ rfl).2 k rfl
    simp only [toSeg]; omega

/-- announcements enter the inner tables unresolved, in the order `DeclOK` gives them, and a chunk's segment names entries that are
there by then -/
theorem innerFold_inv (cfg : CombCfg) (S N OS : List Text) : ∀ (evs : List Ev) (st : CombSt) (ns nn : Nat), KInv cfg st S N OS → DeclOK ns nn evs →
    ns ≤ st.innerSourceIndexMapping.length → nn ≤ st.innerNameIndexMapping.length →
    KInv cfg (evs.foldl combInnerEv st) S N OS ∧ (evs.foldl combInnerEv st).nameIndexValueMapping = st.nameIndexValueMapping := by
  intro evs
  induction evs with
  | nil => intro st ns nn h _ _ _; exact ⟨h, rfl⟩
  | cons e es ih =>
    intro st ns nn h hd hns hnn
    cases e with
    | chunk text m =>
      refine ih (combInnerEv st (.chunk text m)) ns nn { h with segs := fun ld hld => ?_ } hd.2 hns hnn
      -- every line of the padded table is an old line or empty; so is the line that gains the segment
      have hold : ∀ x, x ∈ st.lineData ∨ x = {} → ∀ sg ∈ x.segs, sg.src < st.innerSourceIndexMapping.length ∧ sg.name < st.innerNameIndexMapping.length := by
        rintro x (hx | rfl)
        · exact h.segs x hx
        · exact fun sg hsg => nomatch hsg
      rw [combInnerEv_lineData] at hld
      rcases List.mem_or_eq_of_mem_set hld with hld | rfl
      · exact hold ld ((List.mem_append.1 hld).imp id List.eq_of_mem_replicate)
      · intro seg hseg
        rcases List.mem_append.1 hseg with hseg | hseg
        · exact hold _ (forall_getD (P := fun x => x ∈ st.lineData ∨ x = {}) (.inr rfl) (fun _ => .inl) _) seg hseg
        · cases List.mem_singleton.1 hseg
          have := toSeg_bound m ns nn hd.1
          show (toSeg m).src < (st.innerSourceIndexMapping.length : Int) ∧ (toSeg m).name < (st.innerNameIndexMapping.length : Int)
          omega
    | source i source content =>
      obtain ⟨rfl, hd⟩ := hd
      exact ih (combInnerEv st (.source i source content)) (i + 1) nn
        { h with isim := lmInsert_map .. ▸ tblSem_insert h.isim i hns (-2) source [] (Or.inl rfl),
                 segs := segsBound_mono (lmInsert_length_le ..) (Nat.le_refl _) h.segs }
        hd (by show i + 1 ≤ (lmInsert 0 st.innerSourceIndexMapping i (-2)).length; rw [lmInsert_length]; omega) hnn
    | name i name =>
      obtain ⟨rfl, hd⟩ := hd
      exact ih (combInnerEv st (.name i name)) ns (i + 1)
        { h with inim := tblSem_insert h.inim i hnn (-2) name [] (Or.inl rfl),
                 segs := segsBound_mono (Nat.le_refl _) (lmInsert_length_le ..) h.segs }
        hd hns (by show i + 1 ≤ (lmInsert 0 st.innerNameIndexMapping i (-2)).length; rw [lmInsert_length]; omega)

theorem combOnName_ok (cfg : CombCfg) (st : CombSt) (S N OS : List Text) (h : KInv cfg st S N OS) (n : Text) :
    KInv cfg (combOnName st st.nameIndexValueMapping.length n) S N OS
    ∧ (combOnName st st.nameIndexValueMapping.length n).nameIndexValueMapping = st.nameIndexValueMapping ++ [n] :=
  ⟨{ h with nim := tblSem_insert h.nim _ (Nat.le_of_eq h.nim.1.symm) (-2) n [] (Or.inl rfl) }, lmInsert_at_length _ _ _⟩

theorem combOnSource_ok (cfg : CombCfg) (hI : MapIdxOK cfg.innerMap) (st : CombSt) (S N OS : List Text) (h : KInv cfg st S N OS) (source : Text) (content : Option Text) :
    DeclOK S.length N.length (combOnSource cfg st OS.length source content).2
    ∧ annN (combOnSource cfg st OS.length source content).2 = []
    ∧ KInv cfg (combOnSource cfg st OS.length source content).1 (S ++ annS (combOnSource cfg st OS.length source content).2) N (OS ++ [source])
    ∧ (combOnSource cfg st OS.length source content).1.nameIndexValueMapping = st.nameIndexValueMapping := by
  have hsim : ∀ (x : List Text) (v : Int), (v = -2 ∨ v = -1 ∨ (0 ≤ v ∧ (S ++ x)[v.toNat]? = some source)) →
      TblSem (lmInsert 0 st.sourceIndexMapping OS.length v) (OS ++ [source]) (S ++ x) := fun x v hv =>
    lmInsert_at_length [] OS source ▸ tblSem_insert (tblSem_mono x h.sim) OS.length (Nat.le_of_eq h.sim.1.symm) v source [] hv
  unfold combOnSource
  split
  · rename_i hs
    simp only [annS, annN, List.append_nil]
    have h1 : KInv cfg { st with innerSourceIndex := (OS.length : Int)
                                 innerSource := st.innerSource.or content
                                 sourceIndexMapping := lmInsert 0 st.sourceIndexMapping OS.length (-2) } S N (OS ++ [source]) :=
      { h with sim := List.append_nil S ▸ hsim [] (-2) (Or.inl rfl),
               isi := Or.inr ⟨Int.natCast_nonneg _, by rw [Int.toNat_natCast, eq_of_beq hs]; simp⟩ }
    have hd := streamSM_declOK ((st.innerSource.or content).getD []) cfg.innerMap ⟨cfg.columns, false⟩ hI
    obtain ⟨b1, b2⟩ := innerFold_inv cfg S N (OS ++ [source]) _ _ 0 0 h1 hd (Nat.zero_le _) (Nat.zero_le _)
    exact ⟨trivial, trivial, b1, b2⟩
  · obtain ⟨n1, n2, n3, n4⟩ := globalSource_spec S source content N.length
    rw [h.sm]
    generalize globalSource S.zipIdx source content = r at n1 n2 n3 n4
    refine ⟨n2, n3, { h with sm := n1, isim := tblSem_mono _ h.isim, isi := ?_, sim := hsim _ _ (Or.inr (Or.inr ⟨Int.natCast_nonneg _, by rw [Int.toNat_natCast]; exact n4⟩)) }, rfl⟩
    exact h.isi.imp id fun ⟨h1, h2⟩ => ⟨h1, by rw [List.getElem?_append_left (List.getElem?_eq_some_iff.1 h2).1]; exact h2⟩

theorem combEnd_inv (cfg : CombCfg) (hI : MapIdxOK cfg.innerMap) : ∀ (evs : List Ev) (st : CombSt) (S N OS : List Text), KInv cfg st S N OS →
    DeclOK OS.length st.nameIndexValueMapping.length evs →
    KInv cfg (combEnd cfg st evs) (S ++ annS (combFold cfg st evs)) (N ++ annN (combFold cfg st evs)) (OS ++ annS evs)
    ∧ (combEnd cfg st evs).nameIndexValueMapping = st.nameIndexValueMapping ++ annN evs
    ∧ DeclOK S.length N.length (combFold cfg st evs) := by
  intro evs
  induction evs with
  | nil => intro st S N OS h _; simpa [combEnd, combFold, annS, annN, DeclOK] using h
  | cons e es ih =>
    intro st S N OS h hd
    simp only [combEnd, combFold]
    cases e with
    | chunk text m =>
      simp only [combStep]
      obtain ⟨a1, a2, a3, _⟩ := combOnChunk_ok cfg st S N OS h text m (fun o ho k hk => (hd.1 o ho).2 k hk)
      generalize combOnChunk cfg st text m = r at a1 a2 a3
      obtain ⟨i1, i2, i3⟩ := ih r.1 _ _ OS a2 (a3 ▸ hd.2)
      rw [annS_append, annN_append, ← List.append_assoc, ← List.append_assoc]
      exact ⟨i1, a3 ▸ i2, declOK_app.2 ⟨a1, i3⟩⟩
    | source i s c =>
      obtain ⟨rfl, hd2⟩ := hd
      simp only [combStep]
      obtain ⟨a1, a2, a4, a5⟩ := combOnSource_ok cfg hI st S N OS h s c
      generalize combOnSource cfg st OS.length s c = r at a1 a2 a4 a5
      obtain ⟨i1, i2, i3⟩ := ih r.1 _ N (OS ++ [s]) a4 (by rw [a5, List.length_append]; exact hd2)
      rw [annS_append, annN_append, a2, ← List.append_assoc]
      exact ⟨by simpa [annS] using i1, a5 ▸ i2,
        declOK_app.2 ⟨a1, by rw [a2, List.append_nil]; exact i3⟩⟩
    | name i n =>
      obtain ⟨rfl, hd2⟩ := hd
      simp only [combStep, List.nil_append]
      obtain ⟨a1, a2⟩ := combOnName_ok cfg st S N OS h n
      obtain ⟨i1, i2, i3⟩ := ih _ S N OS a1 (by rw [a2, List.length_append]; exact hd2)
      exact ⟨i1, by rw [i2, a2]; exact List.append_assoc .., i3⟩

theorem combFold_at (cfg : CombCfg) (hI : MapIdxOK cfg.innerMap) {evs : List Ev} {st : CombSt} {S N OS : List Text} (h : KInv cfg st S N OS)
    (hd : DeclOK OS.length st.nameIndexValueMapping.length evs) {e : Ev} (he : e ∈ combFold cfg st evs) :
    ∃ pre x post, evs = pre ++ x :: post ∧ e ∈ (combStep cfg (combEnd cfg st pre) x).2
      ∧ KInv cfg (combEnd cfg st pre) (S ++ annS (combFold cfg st pre)) (N ++ annN (combFold cfg st pre)) (OS ++ annS pre)
      ∧ (combEnd cfg st pre).nameIndexValueMapping = st.nameIndexValueMapping ++ annN pre
      ∧ DeclOK (OS ++ annS pre).length (combEnd cfg st pre).nameIndexValueMapping.length (x :: post)
      ∧ (S ++ annS (combFold cfg st pre) ++ annS (combStep cfg (combEnd cfg st pre) x).2) <+: (S ++ annS (combFold cfg st evs))
      ∧ (N ++ annN (combFold cfg st pre) ++ annN (combStep cfg (combEnd cfg st pre) x).2) <+: (N ++ annN (combFold cfg st evs)) := by
  obtain ⟨pre, x, post, rfl, hx⟩ := combFold_mem cfg evs st he
  obtain ⟨dP, dX⟩ := declOK_app.1 hd
  obtain ⟨k1, k2, _⟩ := combEnd_inv cfg hI pre st S N OS h dP
  refine ⟨pre, x, post, rfl, hx, k1, k2, k2 ▸ dX, ?_, ?_⟩
  · simp only [combFold_append, combFold, annS_append, ← List.append_assoc]
    exact List.prefix_append _ _
  · simp only [combFold_append, combFold, annN_append, ← List.append_assoc]
    exact List.prefix_append _ _

/-- `c09_tables_pass` from any state that satisfies `KInv`: every delivered chunk is read in the tables of the whole run (`S`, `N` grown
by the announcements made, `OS` and the outer names by those received) -/
theorem combFold_ok (cfg : CombCfg) (hI : MapIdxOK cfg.innerMap) (evs : List Ev) (st : CombSt) (S N OS : List Text)
    (h : KInv cfg st S N OS) (hd : DeclOK OS.length st.nameIndexValueMapping.length evs) :
    ∀ t' mm, Ev.chunk t' mm ∈ combFold cfg st evs →
      ∃ m, Ev.chunk t' m ∈ evs ∧ mm.gl = m.gl ∧ mm.gc = m.gc ∧
        ((∀ y, mm.orig = some y → ∃ a, m.orig = some a
            ∧ (S ++ annS (combFold cfg st evs))[y.src]? = (OS ++ annS evs)[a.src]? ∧ a.src < (OS ++ annS evs).length
            ∧ y.line = a.line ∧ y.col = a.col
            ∧ ∀ k, y.name = some k → ∃ k', a.name = some k'
                ∧ (N ++ annN (combFold cfg st evs))[k]? = (st.nameIndexValueMapping ++ annN evs)[k']?
                ∧ k' < (st.nameIndexValueMapping ++ annN evs).length)
         ∨ (∃ (a : Orig) (seg : InnerSeg), m.orig = some a ∧ (OS ++ annS evs)[a.src]? = some cfg.innerName ∧ 0 ≤ seg.src ∧ ∀ y, mm.orig = some y →
              y.line = seg.line.toNat ∧ (y.col = seg.col.toNat ∨ (seg.gc < a.col ∧ y.col = (seg.col + ((a.col : Int) - seg.gc)).toNat)))) := by
  intro t' mm hm
  obtain ⟨pre, x, post, rfl, hx, k1, k2, dX, pS, pN⟩ := combFold_at cfg hI h hd hm
  cases x with
  | source i s c => exact absurd hx ((combStep_anns cfg _ rfl).noChunk t' mm)
  | name i n => exact absurd hx ((combStep_anns cfg _ rfl).noChunk t' mm)
  | chunk t m =>
    -- the tables of the moment are initial parts of the final ones
    have pOS : (OS ++ annS pre) <+: (OS ++ annS (pre ++ .chunk t m :: post)) := by
      rw [annS_append, ← List.append_assoc]; exact List.prefix_append _ _
    have pON : (combEnd cfg st pre).nameIndexValueMapping <+: (st.nameIndexValueMapping ++ annN (pre ++ .chunk t m :: post)) := by
      rw [k2, annN_append, ← List.append_assoc]; exact List.prefix_append _ _
    rcases (combOnChunk_ok cfg _ _ _ _ k1 t m fun o ho => (dX.1 o ho).2).2.2.2 with hp | ⟨seg, idx, hs0, hsi, _, _, hf⟩
    · obtain ⟨rfl, e2, e3, e4⟩ := hp t' mm hx
      refine ⟨m, List.mem_append_right _ List.mem_cons_self, e2, e3, Or.inl fun y hy => ?_⟩
      obtain ⟨q1, q2, q3, q4, q5, q6⟩ := e4 y hy
      cases hmo : m.orig with
      | none => simp only [Mapping.si, hmo] at q1; omega
      | some a =>
        simp only [Mapping.si, Mapping.ol, Mapping.oc, Mapping.ni, hmo, Int.toNat_natCast] at q2 q3 q4 q5 q6
        refine ⟨a, rfl, (prefix_get_eq pS q3 q2).trans (prefix_get_eq pOS q3 rfl).symm, Nat.lt_of_lt_of_le q3 pOS.length_le, q4, q5, fun k hk => ?_⟩
        obtain ⟨r1, r2, r3⟩ := q6 k hk
        cases hon : a.name with
        | none => simp only [hon] at r1; omega
        | some k' =>
          simp only [hon, Int.toNat_natCast] at r2 r3
          exact ⟨k', rfl, (prefix_get_eq pN r3 r2).trans (prefix_get_eq pON r3 rfl).symm, Nat.lt_of_lt_of_le r3 pON.length_le⟩
    · obtain ⟨rfl, e2, e3, e4⟩ := hf t' mm hx
      refine ⟨m, List.mem_append_right _ List.mem_cons_self, e2, e3, Or.inr ?_⟩
      obtain ⟨h0, h0'⟩ := k1.inner_at m.si_ge hsi
      cases hmo : m.orig with
      | none => simp only [Mapping.si, hmo] at h0; omega
      | some a =>
        simp only [Mapping.si, hmo, Int.toNat_natCast] at h0'
        refine ⟨a, seg, rfl, prefix_get _ _ pOS _ _ h0', hs0, fun y hy => ?_⟩
        obtain ⟨_, _, q3, q4, _⟩ := e4 y hy
        simp only [Mapping.oc, hmo] at q4
        exact ⟨q3, q4.imp id fun ⟨q4, q5⟩ => ⟨by omega, q5⟩⟩

theorem kinv_init (cfg : CombCfg) (os : Option Text) : KInv cfg { innerSource := os } [] [] [] :=
  { sm := rfl, nm := rfl, sim := tblSem_nil _, nim := tblSem_nil _, isim := tblSem_nil _, inim := tblSem_nil _,
    segs := fun _ hld => (nomatch hld), isi := Or.inl rfl }

/-- **C11, stream clause for the combinator**: the stream of a SourceMapSource with an inner map announces source and name indices
densely from zero, each once, and every chunk uses only indices announced before it — for all four modes, whenever the two attached
maps reference existing entries of their own tables -/
theorem streamCombined_declOK (t : Text) (sm : SMap) (n : Text) (os : Option Text) (im : SMap) (rm : Bool) (o : Opts)
    (h1 : MapIdxOK sm) (h2 : MapIdxOK im) : DeclOK 0 0 (streamCombined t sm n os im rm o).evs :=
  (combEnd_inv ⟨t, n, im, rm, o.columns⟩ h2 _ _ [] [] [] (kinv_init _ os) (streamSM_declOK t sm o h1)).2.2

end Rs
