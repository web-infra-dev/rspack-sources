import RsModel.Lemmas.RootHistory
import RsModel.Lemmas.WarmLinesF
/-!
# Call histories on a CachedSource wrapper itself, columns = false (file and line granularity)

Either fill of the entry is the lines-only map of a stream that stands for the wrapped source's normal-mode stream (`M3L`, in
`LinesTree`: the text-less stream by T3, the normal-mode stream as itself), so its replay (`replayLeaf_lname`) and the map itself
(`M3L.map_lname`; both in `WarmLines`) name every generated line like that stream; the protocol is that of RootHistory
(`rootCall2_entry`, `run_answers`).
-/
namespace Rs

def rootKeyL (id : Nat) : Nat × Opts := (id, ⟨false, false⟩)

def rootCallL (id : Nat) (inner : Src) (c : RCall) (σ : Store) : RAns × Store :=
  match c with
  | .stream => (.stream ((Src.cached id inner).stream ⟨false, false⟩ σ).1, ((Src.cached id inner).stream ⟨false, false⟩ σ).2)
  | .map => (.map ((Src.cached id inner).map ⟨false, false⟩ σ).1, ((Src.cached id inner).map ⟨false, false⟩ σ).2)

def runRootL (id : Nat) (inner : Src) : List RCall → Store → List RAns × Store
  | [], σ => ([], σ)
  | c :: cs, σ => ((rootCallL id inner c σ).1 :: (runRootL id inner cs (rootCallL id inner c σ).2).1, (runRootL id inner cs (rootCallL id inner c σ).2).2)

def mapFillL (inner : Src) : Option SMap := (getMap inner ⟨false, false⟩ []).1
def streamFillL (inner : Src) : Option SMap := mapOfEvs false (inner.stream ⟨false, false⟩ []).1.evs

def RootInvL (id : Nat) (inner : Src) (σ : Store) : Prop :=
  σ.get? (rootKeyL id) = none ∨ σ.get? (rootKeyL id) = some (mapFillL inner) ∨ σ.get? (rootKeyL id) = some (streamFillL inner)

structure RootHypL (inner : Src) : Prop where
  nc : inner.NoCached
  mode : inner.ModeHypL
  ascii : IsAscii inner.src
  len : inner.src.length ≤ USIZE_MAX
  smallF : ∀ m ∈ chunkMs (inner.stream ⟨false, true⟩ []).1.evs, ∀ o, m.orig = some o → o.src < U31 ∧ o.line < U31
  smallN : ∀ m ∈ chunkMs (inner.stream ⟨false, false⟩ []).1.evs, ∀ o, m.orig = some o → o.src < U31 ∧ o.line < U31
  isGetMap : ∀ σ, inner.map ⟨false, false⟩ σ = getMap inner ⟨false, false⟩ σ

theorem replay_fill_lname (inner : Src) (h : RootHypL inner) (e : Option SMap) (he : e = mapFillL inner ∨ e = streamFillL inner) (L : Nat) :
    LNameOf (match e with
      | some m => streamSM inner.src m ⟨false, false⟩
      | none => streamRaw inner.src ⟨false, false⟩).evs L = LNameOf (inner.stream ⟨false, false⟩ []).1.evs L := by
  obtain ⟨hw, hp, hi⟩ := Src.modeHypL_base inner h.mode
  have n := Src.nc_modeFacts inner false h.nc hw hp hi
  rcases he with rfl | rfl
  · -- the entry `map()` stored is built from the text-less stream, which stands for the normal-mode one by T3
    simp only [mapFillL, getMap]
    exact replayLeaf_lname inner h.nc hw hp hi h.ascii h.len _
      (Src.m3l inner h.mode (Src.nc_nodup inner h.nc) [] [] (cold_nil _) (cold_nil _)) n.declF h.smallF L
  · exact replayLeaf_lname inner h.nc hw hp hi h.ascii h.len _ (M3L.same _ n.pos n.tl) n.declN h.smallN L

theorem rootInvL_step (id : Nat) (inner : Src) (h : RootHypL inner) (σ : Store) (hi : RootInvL id inner σ) (c : RCall) :
    RootInvL id inner (rootCallL id inner c σ).2
    ∧ (match (rootCallL id inner c σ).1 with
       | .stream r => ∀ L, LNameOf r.evs L = LNameOf (inner.stream ⟨false, false⟩ []).1.evs L
       | .map m => m = mapFillL inner ∨ m = streamFillL inner) := by
  have e : rootCallL id inner c σ = rootCall2 id inner (false, c) σ := by cases c <;> rfl
  have hf : id ∉ inner.ids := Src.nc_ids inner h.nc ▸ List.not_mem_nil
  rw [e]
  exact (rootCall2_entry id inner false hf h.isGetMap σ c (inner.stream ⟨false, false⟩ []).1 (mapFillL inner)
    (hi.imp_left fun h0 => ⟨h0, (Src.stream_nc inner _ σ h.nc).2, by rw [getMap_nc inner h.nc]; rfl⟩)
    (fun r => ∀ L, LNameOf r.evs L = LNameOf (inner.stream ⟨false, false⟩ []).1.evs L) (fun _ => rfl)
    (replay_fill_lname inner h)).imp_left Or.inr

theorem runRootL_answers (id : Nat) (inner : Src) (h : RootHypL inner) : ∀ (calls : List RCall) (σ : Store), RootInvL id inner σ →
    ∀ a ∈ (runRootL id inner calls σ).1,
      (match a with
       | .stream r => ∀ L, LNameOf r.evs L = LNameOf (inner.stream ⟨false, false⟩ []).1.evs L
       | .map m => m = mapFillL inner ∨ m = streamFillL inner) :=
  run_answers (runRootL id inner) (fun c σ => (rootCallL id inner c σ).1) (fun c σ => (rootCallL id inner c σ).2)
    (fun _ => rfl) (fun _ _ _ => rfl) (RootInvL id inner) _ (fun c σ hi => rootInvL_step id inner h σ hi c)

theorem fills_resolve_lines (inner : Src) (h : RootHypL inner) (m : Option SMap) (hm : m = mapFillL inner ∨ m = streamFillL inner) :
    ∀ sm, m = some sm → ∀ L, 0 < L → LNameM sm L = LNameOf (inner.stream ⟨false, false⟩ []).1.evs L := by
  have hn := Src.nc_nodup inner h.nc
  have hcold : Cold [] inner.ids := cold_nil _
  have b := Src.base_factsL inner h.mode hn [] [] hcold hcold
  intro sm hsm L hL
  rcases hm with rfl | rfl
  · exact getMap_lname inner h.mode hn [] [] hcold hcold false h.smallF sm hsm L hL
  · exact (M3L.same _ b.pos b.tl).map_lname b.declN h.smallN sm hsm L hL

end Rs
