import RsModel.Lemmas.Lines
/-!
# Indices are announced before they are used (C11, stream clause); stretches of chunks; what the leaves refer to

`DeclOK ns nn evs`: with `ns` sources and `nn` names announced so far, every source (name) event of `evs` announces exactly the
next index, and every chunk uses only indices announced earlier in the stream.  `cntS` / `cntN` count the announcements, so that
`declOK_append` cuts a stream in two.

`ChunkOrigs P evs`: `evs` consists of chunks, and the original locations they carry satisfy `P`.  That is the form in which a stretch
of chunks enters a proof about announcements: it announces nothing (`chunkOrigs_cnt`), and it is `DeclOK` when its indices lie below
the counts (`declOK_chunks`, with `P = IdxLt ns nn`).  The streams of one chunk per line have it for whatever their locations satisfy
(`lineEvs_origs`, `mappedLines_origs`), a raw leaf has it for every `P`, and an OriginalSource, in each of its four modes, is its own
announcement followed by chunks that refer to source 0 and to no name (`streamOriginal_evs`).
-/
namespace Rs

def DeclOK : Nat → Nat → List Ev → Prop
  | _, _, [] => True
  | ns, nn, .chunk _ m :: es => (∀ o, m.orig = some o → o.src < ns ∧ ∀ k, o.name = some k → k < nn) ∧ DeclOK ns nn es
  | ns, nn, .source i _ _ :: es => i = ns ∧ DeclOK (ns + 1) nn es
  | ns, nn, .name i _ :: es => i = nn ∧ DeclOK ns (nn + 1) es

def cntS : List Ev → Nat
  | [] => 0
  | .source _ _ _ :: es => cntS es + 1
  | _ :: es => cntS es

def cntN : List Ev → Nat
  | [] => 0
  | .name _ _ :: es => cntN es + 1
  | _ :: es => cntN es

theorem cntS_append (a b : List Ev) : cntS (a ++ b) = cntS a + cntS b := by
  induction a with
  | nil => simp [cntS]
  | cons e es ih => cases e <;> simp only [List.cons_append, cntS, ih] <;> omega

theorem cntN_append (a b : List Ev) : cntN (a ++ b) = cntN a + cntN b := by
  induction a with
  | nil => simp [cntN]
  | cons e es ih => cases e <;> simp only [List.cons_append, cntN, ih] <;> omega

theorem declOK_append : ∀ (a b : List Ev) (ns nn : Nat),
    DeclOK ns nn (a ++ b) ↔ DeclOK ns nn a ∧ DeclOK (ns + cntS a) (nn + cntN a) b := by
  intro a
  induction a with
  | nil => intro b ns nn; simp [DeclOK, cntS, cntN]
  | cons e es ih =>
    intro b ns nn
    cases e with
    | chunk t m => simp only [List.cons_append, DeclOK, ih, cntS, cntN]; exact and_assoc.symm
    | source i s c =>
      simp only [List.cons_append, DeclOK, ih, cntS, cntN]
      have e1 : ns + 1 + cntS es = ns + (cntS es + 1) := by omega
      rw [e1]; exact and_assoc.symm
    | name i n =>
      simp only [List.cons_append, DeclOK, ih, cntS, cntN]
      have e1 : nn + 1 + cntN es = nn + (cntN es + 1) := by omega
      rw [e1]; exact and_assoc.symm

theorem declOK_mono : ∀ (evs : List Ev) (ns nn ns' nn' : Nat), cntS evs = 0 → cntN evs = 0 → ns ≤ ns' → nn ≤ nn' →
    DeclOK ns nn evs → DeclOK ns' nn' evs := by
  intro evs
  induction evs with
  | nil => intros; trivial
  | cons e es ih =>
    intro ns nn ns' nn' h1 h2 hs hn h
    cases e with
    | chunk t m =>
      simp only [cntS, cntN] at h1 h2
      exact ⟨fun o ho => ⟨by have := (h.1 o ho).1; omega, fun k hk => by have := (h.1 o ho).2 k hk; omega⟩, ih _ _ _ _ h1 h2 hs hn h.2⟩
    | source i s c => simp [cntS] at h1
    | name i n => simp [cntN] at h2

def ChunkOrigs (P : Orig → Prop) (evs : List Ev) : Prop := ∀ e ∈ evs, ∃ t m, e = Ev.chunk t m ∧ ∀ o, m.orig = some o → P o

def IdxLt (ns nn : Nat) (o : Orig) : Prop := o.src < ns ∧ ∀ k, o.name = some k → k < nn

instance (ns nn : Nat) (o : Orig) : Decidable (IdxLt ns nn o) := by unfold IdxLt; infer_instance

theorem chunkOrigs_nil (P : Orig → Prop) : ChunkOrigs P [] := fun e he => by simp at he

theorem chunkOrigs_append (P : Orig → Prop) (a b : List Ev) (ha : ChunkOrigs P a) (hb : ChunkOrigs P b) : ChunkOrigs P (a ++ b) := by
  intro e he
  rcases List.mem_append.1 he with h | h
  · exact ha e h
  · exact hb e h

theorem chunkOrigs_single (P : Orig → Prop) (t : Option Text) (m : Mapping) (h : ∀ o, m.orig = some o → P o) : ChunkOrigs P [Ev.chunk t m] := by
  intro e he
  simp only [List.mem_singleton] at he
  exact ⟨t, m, he, h⟩

theorem ChunkOrigs.mono {P Q : Orig → Prop} {evs : List Ev} (h : ChunkOrigs P evs) (hPQ : ∀ o, P o → Q o) : ChunkOrigs Q evs :=
  fun e he => let ⟨t, m, hm, ho⟩ := h e he; ⟨t, m, hm, fun o h => hPQ o (ho o h)⟩

theorem chunkOrigs_cnt (P : Orig → Prop) : ∀ (evs : List Ev), ChunkOrigs P evs → cntS evs = 0 ∧ cntN evs = 0 := by
  intro evs
  induction evs with
  | nil => intro _; exact ⟨rfl, rfl⟩
  | cons e es ih =>
    intro h
    obtain ⟨t, m, rfl, _⟩ := h e (by simp)
    simp only [cntS, cntN]
    exact ih (fun x hx => h x (by simp [hx]))

theorem declOK_chunks (ns nn : Nat) : ∀ (evs : List Ev), ChunkOrigs (IdxLt ns nn) evs → DeclOK ns nn evs := by
  intro evs
  induction evs with
  | nil => intro _; trivial
  | cons e es ih =>
    intro h
    obtain ⟨t, m, rfl, hm⟩ := h e (by simp)
    exact ⟨hm, ih (fun x hx => h x (by simp [hx]))⟩

theorem lineEvs_origs (P : Orig → Prop) {g : Nat → Option Orig} (h : ∀ k o, g k = some o → P o) (l : Nat) (ls : List Text) :
    ChunkOrigs P (lineEvs g l ls) := fun _ he =>
  let ⟨_, _, k, e⟩ := lineEvs_mem he
  ⟨_, _, e, h k⟩

theorem mappedLines_origs (P : Orig → Prop) {g : Nat → Option Orig} (h : ∀ k o, g k = some o → P o) (a n : Nat) :
    ChunkOrigs P (mappedLines g a n) := fun _ he =>
  let ⟨k, o, _, _, hg, e⟩ := mappedLines_mem he
  ⟨_, _, e, fun _ ho => Option.some.inj ho ▸ h k o hg⟩

theorem rawChunks_origs (P : Orig → Prop) (ls : List Text) (l : Nat) : ChunkOrigs P (rawChunks l ls) := by
  rw [rawChunks_eq]; exact lineEvs_origs P (fun _ _ h => by cases h) l ls

theorem streamRaw_origs (P : Orig → Prop) (t : Text) (o : Opts) : ChunkOrigs P (streamRaw t o).evs := by
  unfold streamRaw
  split
  · exact chunkOrigs_nil P
  · exact rawChunks_origs _ _ _

theorem streamRaw_declOK (t : Text) (o : Opts) (ns nn : Nat) : DeclOK ns nn (streamRaw t o).evs :=
  declOK_chunks ns nn _ (streamRaw_origs _ t o)

/-- an OriginalSource refers to itself only: source 0, no name -/
def Orig.self (o : Orig) : Prop := o.src = 0 ∧ o.name = none

theorem self_of_some {x : Orig} (hs : x.src = 0) (hn : x.name = none) : ∀ o, some x = some o → o.self
  | _, rfl => ⟨hs, hn⟩

theorem origTokChunks_origs (final : Bool) : ∀ (toks : List Text) (l c : Nat), ChunkOrigs Orig.self (origTokChunks final l c toks).1 := by
  intro toks
  induction toks with
  | nil => intro l c; exact chunkOrigs_nil _
  | cons tok toks ih =>
    intro l c
    simp only [origTokChunks]
    apply chunkOrigs_append
    · split
      · split
        · exact chunkOrigs_nil _
        · exact chunkOrigs_single _ _ _ (fun o ho => by cases ho)
      · exact chunkOrigs_single _ _ _ (self_of_some rfl rfl)
    · split <;> exact ih _ _

theorem origLineChunks_origs (ls : List Text) (l : Nat) : ChunkOrigs Orig.self (origLineChunks l ls) := by
  rw [origLineChunks_eq]; exact lineEvs_origs _ (fun _ => self_of_some rfl rfl) l ls

theorem origFinalLines_origs (a b : Nat) : ChunkOrigs Orig.self (origFinalLines a b) := by
  rw [origFinalLines_eq]; exact mappedLines_origs _ (fun _ => self_of_some rfl rfl) a (b - a)

theorem streamOriginal_evs (t name : Text) (o : Opts) :
    ∃ body, (streamOriginal t name o).evs = .source 0 name (some t) :: body ∧ ChunkOrigs Orig.self body := by
  rcases o with ⟨c, f⟩
  cases c
  · cases f
    · exact ⟨_, rfl, origLineChunks_origs _ _⟩
    · by_cases h : ((genInfo t).col == 0) = true
      · exact ⟨origFinalLines 1 (genInfo t).line, by simp only [streamOriginal, h]; rfl, origFinalLines_origs _ _⟩
      · exact ⟨origFinalLines 1 ((genInfo t).line + 1), by simp only [streamOriginal, h]; rfl, origFinalLines_origs _ _⟩
  · exact ⟨_, rfl, origTokChunks_origs _ _ _ _⟩

theorem streamOriginal_source {T name : Text} {o : Opts} {i : Nat} {s : Text} {c : Option Text}
    (h : Ev.source i s c ∈ (streamOriginal T name o).evs) : i = 0 ∧ s = name ∧ c = some T := by
  obtain ⟨body, e, hb⟩ := streamOriginal_evs T name o
  rcases List.mem_cons.1 (e ▸ h) with h | h
  · cases h; exact ⟨rfl, rfl, rfl⟩
  · obtain ⟨_, _, e', _⟩ := hb _ h; cases e'

theorem streamOriginal_declOK (t name : Text) (o : Opts) : DeclOK 0 0 (streamOriginal t name o).evs := by
  obtain ⟨body, he, hb⟩ := streamOriginal_evs t name o
  rw [he]
  exact ⟨rfl, declOK_chunks 1 0 _ (hb.mono fun o h => ⟨h.1 ▸ Nat.zero_lt_one, fun k hk => nomatch h.2.symm.trans hk⟩)⟩

end Rs
