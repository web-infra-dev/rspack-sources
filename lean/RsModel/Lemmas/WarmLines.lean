import RsModel.Lemmas.LineFirst
import RsModel.Lemmas.ReplayLines
import RsModel.Lemmas.LinesTree
import RsModel.Lemmas.WarmTree
/-!
# Warm caches inside a tree, columns = false (C10 at file-and-line granularity)

With columns = false a CachedSource stores the lines-only map of its subtree's stream and later replays its text line by line
through it.  The replay does not attribute every byte like the subtree did (a whole line goes to its first mapped segment), but for
every generated line the *first mapped chunk* resolves to the same file name and original line (`replayL_leaf`).  That statement is
carried through ConcatSource by way of the byte-level name attribution: `(fsl L 1 T A).map fl` — the (file, line) of the first mapped
byte on line `L` — is what `lookupLines` finds (`lfirst_eq_lname`), and composes over concatenation (`fsl_append`; `fsl` and its
lemmas are in `LineFirst`).
-/
namespace Rs

-- the replay tree of a CachedSource node is a `match` on `mapOfEvs` of its subtree's stream: kept from unfolding, as in WarmTree
attribute [local irreducible] mapOfEvs

def fl (n : NLoc) : Option Text × Nat := (n.file, n.line)

/-- what a consumer of a columns = false stream sees for generated line `L`: the file name (through the stream's own announcements)
and original line of the first mapped chunk on that line -/
def LNameOf (evs : List Ev) (L : Nat) : Option (Option Text × Nat) :=
  (lookupLines (chunkMs evs) L).map fun p => ((tblS emptyS evs p.1).map (·.1), p.2)

theorem lfirst_eq_lname (r : SResult) (hp : PosOK r) (hTL : evsTL r.evs = false) (hMN : MappedNE r.evs) (hT : ChunksTok r.evs)
    (hd : DeclOK 0 0 r.evs) (L : Nat) :
    (fsl L 1 (evsText r.evs) (NA r.evs)).map fl = LNameOf r.evs L := by
  unfold NA
  rw [attrN_end_tables _ 0 0 emptyS emptyN hd, List.map_map, Option.map_comp_map, fsl_map]
  -- both sides read the location of the first mapped chunk on line `L`
  have hf : fsl L 1 _ _ = _ := fsl_find L r.evs [] hp.1 hTL hMN hT
  rw [hf]
  unfold LNameOf lookupLines
  cases (chunkMs r.evs).find? (fun m => m.gl == L && m.orig.isSome) with
  | none => rfl
  | some m => obtain ⟨_, _, o⟩ := m; cases o <;> rfl

theorem oe_map {α β : Type} (f : α → β) (x y : Option α) :
    (match x with | some v => some v | none => y).map f = (match x.map f with | some v => some v | none => y.map f) := by
  cases x <;> rfl

theorem oe_map_congr {α β : Type} (f : α → β) (x y x' y' : Option α) (h : x.map f = x'.map f) (h' : y.map f = y'.map f) :
    (match x with | some v => some v | none => y).map f = (match x' with | some v => some v | none => y').map f := by
  rw [oe_map, oe_map, h, h']

theorem fsl_any_cur {α β : Type} (g : α → β) (T : Text) (A B : List (Option α))
    (h : ∀ L, (fsl L 1 T A).map g = (fsl L 1 T B).map g) : ∀ L cur, (fsl L cur T A).map g = (fsl L cur T B).map g := by
  intro L cur
  by_cases hlt : L < cur
  · rw [fsl_lt L T cur A hlt, fsl_lt L T cur B hlt]
  · -- shift both walks to start on line 1
    have := h (L + 1 - cur)
    rwa [← fsl_shift cur _ T 1 A, ← fsl_shift cur _ T 1 B, show L + 1 - cur + cur = L + 1 by omega, Nat.add_comm 1 cur,
      fsl_shift 1 L T cur A, fsl_shift 1 L T cur B] at this

theorem mapOfEvs_idxOK_lines (evs : List Ev) (hd : DeclOK 0 0 evs)
    (hs : ∀ m ∈ chunkMs evs, ∀ o, m.orig = some o → o.src < U31 ∧ o.line < U31) (hl : linesOK 1 (chunkMs evs))
    (sm : SMap) (h : mapOfEvs false evs = some sm) : MapIdxOK sm := by
  intro x hmem o ho
  rw [mapOfEvs_decode_lines evs hs hl sm h] at hmem
  obtain ⟨m, hm1, o', ho', rfl⟩ := keptLines_mem _ _ x hmem
  cases ho
  exact ⟨(mapOfEvs_idxLt false evs hd sm h m hm1 o' ho').1, fun k hk => by cases hk⟩

theorem streamSMLinesFull_tables (t : Text) (sm : SMap) (hne : (splitLines t).isEmpty = false) :
    ∀ i, i < sm.sources.length → (tblS emptyS (streamSMLinesFull t sm).evs i).map (·.1) = some (applyRoot sm.sourceRoot (sm.sources.getD i [])) := by
  intro i hi
  rw [streamSMLinesFull_evs t sm (fun h => by rw [h] at hne; cases hne), tblS_append,
    tblS_noSource _ _ (chunkOrigs_cnt _ _ (lineEvs_origs (fun _ => True) (fun _ _ _ => trivial) _ _)).1]
  unfold smSourceEvs
  rw [List.range_eq_range', tblS_sourceEvs]
  simp [hi]

theorem lookupLines_idx (evs : List Ev) (hd : DeclOK 0 0 evs) (L si ol : Nat) (h : lookupLines (chunkMs evs) L = some (si, ol)) : si < cntS evs := by
  obtain ⟨m, a, hm, _, ho, rfl, _⟩ := lookupLines_some _ L si ol h
  simpa using (declOK_chunkMs _ 0 0 hd m hm a ho).1

theorem lname_via_sources (evs : List Ev) (hd : DeclOK 0 0 evs) (srcs : List Text) (hs : srcs = (evs.foldl mapAccEv {}).sources) (L : Nat) :
    ((lookupLines (chunkMs evs) L).map fun p => (srcs[p.1]?, p.2)) = LNameOf evs L := by
  obtain ⟨_, _, r4, _⟩ := mapAcc_tblRelF_empty evs hd
  unfold LNameOf
  cases hq : lookupLines (chunkMs evs) L with
  | none => rfl
  | some p => rw [Option.map_some, Option.map_some, r4 p.1 (lookupLines_idx _ hd L p.1 p.2 hq), hs]

/-- what a consumer of a columns = false SourceMap resolves generated line `L` to: file name (through the map's own `sources`) and
original line of the line's first mapped segment -/
def LNameM (sm : SMap) (L : Nat) : Option (Option Text × Nat) :=
  (lookupLines (decode sm.mappings) L).map fun p => (sm.sources[p.1]?, p.2)

/-- **C08, name level, columns = false**: on every line that carries text the replay of a map names, through its own announcements,
the file and original line the map names through its `sources` -/
theorem streamSMLinesFull_lname (T : Text) (sm : SMap) (hs : sortedFrom 1 0 (decode sm.mappings)) (hidx : MapIdxOK sm)
    (hroot : sm.sourceRoot = none) (L : Nat) (h1 : 1 ≤ L) (hL : L ≤ (splitLines T).length) :
    LNameOf (streamSMLinesFull T sm).evs L = LNameM sm L := by
  unfold LNameOf LNameM
  rw [streamSMLinesFull_lines T sm hs L h1 hL]
  cases hq : lookupLines (decode sm.mappings) L with
  | none => rfl
  | some p =>
    obtain ⟨m, a, hm, _, ho, e, _⟩ := lookupLines_some _ L p.1 p.2 hq
    have hi := e ▸ (hidx m hm a ho).1
    rw [Option.map_some, Option.map_some,
      streamSMLinesFull_tables T sm (List.isEmpty_eq_false_iff.2 (List.ne_nil_of_length_pos (Nat.lt_of_lt_of_le h1 hL))) _ hi, hroot,
      List.getD_eq_getElem?_getD, List.getElem?_eq_getElem hi]
    rfl

/-- **the map built with columns = false from a stream that stands for `N` names every generated line like `N`** (the twin of
`M3.map_attr`): lines-only codec ∘ `M3L`, the file name read through the map's own `sources`, which are `N`'s announcements -/
theorem M3L.map_lname {F N : SResult} (m : M3L F N) (hd : DeclOK 0 0 N.evs)
    (hsmall : ∀ m ∈ chunkMs F.evs, ∀ o, m.orig = some o → o.src < U31 ∧ o.line < U31)
    (sm : SMap) (hm : mapOfEvs false F.evs = some sm) (L : Nat) (hL : 0 < L) : LNameM sm L = LNameOf N.evs L := by
  unfold LNameM
  rw [mapOfEvs_lookupLines _ hsmall (linesOK_of_sorted _ 1 0 m.sorted) sm hm L hL, m.look L]
  exact lname_via_sources _ hd _ (mapOfEvs_tablesOf m.decls hm).1 L

theorem lookupLines_of_encodeLines_nil (ms : List Mapping) (hs : ∀ m ∈ ms, ∀ o, m.orig = some o → o.src < U31 ∧ o.line < U31)
    (hlo : linesOK 1 ms) (h : encodeLines ms = []) (L : Nat) (hL : 0 < L) : lookupLines ms L = none := by
  rw [← lookupLines_kept ms L hL, ← decode_lencode ms hs hlo, h]
  rfl

theorem lfirst_nc (s : Src) (hnc : s.NoCached) (hw : s.WF) (hp : s.PosHyp false) (hi : s.IdxHyp) (L : Nat) :
    (fsl L 1 s.src (NA (s.stream ⟨false, false⟩ []).1.evs)).map fl = LNameOf (s.stream ⟨false, false⟩ []).1.evs L := by
  have n := Src.nc_modeFacts s false hnc hw hp hi
  have := lfirst_eq_lname _ n.pos n.tl (Src.stream_mappedNE' _ false []) n.tok n.declN L
  rwa [n.text] at this

theorem fsl_of_lname (a b : Src) (e : a.src = b.src) (na : a.NoCached) (nb : b.NoCached) (wa : a.WF) (wb : b.WF)
    (pa : a.PosHyp false) (pb : b.PosHyp false) (ia : a.IdxHyp) (ib : b.IdxHyp)
    (h : ∀ L, 1 ≤ L → L ≤ (splitLines b.src).length →
      LNameOf (a.stream ⟨false, false⟩ []).1.evs L = LNameOf (b.stream ⟨false, false⟩ []).1.evs L) :
    ∀ L cur, (fsl L cur b.src (NA (a.stream ⟨false, false⟩ []).1.evs)).map fl
      = (fsl L cur b.src (NA (b.stream ⟨false, false⟩ []).1.evs)).map fl := by
  apply fsl_any_cur
  intro L
  by_cases hL : 1 ≤ L ∧ L ≤ (splitLines b.src).length
  · have e1 := lfirst_nc a na wa pa ia L
    rw [e] at e1
    rw [e1, lfirst_nc b nb wb pb ib L]
    exact h L hL.1 hL.2
  · -- no byte of the text lies on line `L`
    by_cases h0 : L < 1
    · rw [fsl_lt L _ 1 _ h0, fsl_lt L _ 1 _ h0]
    · have e := fsl_lines_none (α := NLoc) L (splitLines b.src) (lines_of_splitLines _) 1
      rw [splitLines_join] at e
      rw [e _ (by omega), e _ (by omega)]

/-- **the replay leaf, columns = false**, for a cache-free tree `b` and *any* stream `F` the entry may have been built from: `F`
need only be sorted, announce what `b`'s normal-mode stream announces and attribute every generated line like it (`M3L`).  A
text-less stream of `b` is such an `F` (T3), and so is the normal-mode stream itself.  The replay agrees with `b`'s stream on the
first mapped byte of every line: C08 at name level on the replay (`streamSMLinesFull_lname`) ∘ the map of `F` names every line like
`b`'s stream (`M3L.map_lname`), as with columns = true. -/
theorem replayLeaf_lines (b : Src) (nb : b.NoCached) (wb : b.WF) (pb : b.PosHyp false) (ib : b.IdxHyp)
    (ha : IsAscii b.src) (hl : b.src.length ≤ USIZE_MAX) (F : SResult) (hm3 : M3L F (b.stream ⟨false, false⟩ []).1)
    (hdF : DeclOK 0 0 F.evs) (hsmall : ∀ m ∈ chunkMs F.evs, ∀ o, m.orig = some o → o.src < U31 ∧ o.line < U31) :
    (∀ L cur, (fsl L cur b.src (NA ((replayLeaf b.src (mapOfEvs false F.evs)).stream ⟨false, false⟩ []).1.evs)).map fl
      = (fsl L cur b.src (NA (b.stream ⟨false, false⟩ []).1.evs)).map fl)
    ∧ (replayLeaf b.src (mapOfEvs false F.evs)).ModeHypL := by
  have hlo := linesOK_of_sorted _ 1 0 hm3.sorted
  cases hm : mapOfEvs false F.evs with
  | some sm =>
    have hidx := mapOfEvs_idxOK_lines _ hdF hsmall hlo sm hm
    have hsorted : sortedFrom 1 0 (decode sm.mappings) := by
      rw [mapOfEvs_decode_lines _ hsmall hlo sm hm]; exact keptLines_sortedFrom _ hlo
    have hmode : (Src.sms b.src [] sm none none false).ModeHypL := ⟨fun im him => (by cases him), ha, hl, hsorted, hidx⟩
    obtain ⟨wa, pa, ia⟩ := Src.modeHypL_base _ hmode
    -- the replay names every line like the stored map (C08), the stored map like `b`'s stream (`M3L`)
    exact ⟨fsl_of_lname _ b rfl trivial nb wa wb pa pb ia ib fun L h1 hL =>
      (streamSMLinesFull_lname b.src sm hsorted hidx (mapOfEvs_tables false _ sm hm).2.2 L h1 hL).trans
        (hm3.map_lname (stream_declOK_nc b ⟨false, false⟩ nb ib) hsmall sm hm L h1), hmode⟩
  | none =>
    -- `F` maps nothing, hence neither does `b`'s normal-mode stream on any line, nor the raw replay
    refine ⟨fsl_of_lname _ b rfl trivial nb trivial wb trivial pb trivial ib fun L h1 _ => ?_, trivial⟩
    unfold LNameOf
    rw [← hm3.look L, lookupLines_of_encodeLines_nil _ hsmall hlo (mapOfEvs_none' false _ hm) L h1,
      lookupLines_none L _ fun m hm' => by rw [streamRaw_unmapped b.src false m hm']; simp]
    rfl

/-- `replayLeaf_lines` as a consumer of the replay sees it: the first mapped chunk of every generated line names the same file and
original line as in `b`'s own stream (`lfirst_nc` on both sides: the replay leaf is a cache-free tree of the domain as well) -/
theorem replayLeaf_lname (b : Src) (nb : b.NoCached) (wb : b.WF) (pb : b.PosHyp false) (ib : b.IdxHyp)
    (ha : IsAscii b.src) (hl : b.src.length ≤ USIZE_MAX) (F : SResult) (hm3 : M3L F (b.stream ⟨false, false⟩ []).1)
    (hdF : DeclOK 0 0 F.evs) (hsmall : ∀ m ∈ chunkMs F.evs, ∀ o, m.orig = some o → o.src < U31 ∧ o.line < U31) (L : Nat) :
    LNameOf (match mapOfEvs false F.evs with
      | some m => streamSM b.src m ⟨false, false⟩
      | none => streamRaw b.src ⟨false, false⟩).evs L = LNameOf (b.stream ⟨false, false⟩ []).1.evs L := by
  obtain ⟨a, m⟩ := replayLeaf_lines b nb wb pb ib ha hl F hm3 hdF hsmall
  rw [← lfirst_nc b nb wb pb ib L, ← a L 1]
  generalize mapOfEvs false F.evs = e at m ⊢
  obtain ⟨wa, pa, ia⟩ := Src.modeHypL_base _ m
  cases e <;> exact (lfirst_nc _ (by trivial) wa pa ia L).symm

theorem replayL_leaf (id : Nat) (inner : Src) (hw : inner.strip.WF) (hp : inner.strip.PosHyp false) (hi : inner.strip.IdxHyp)
    (ha : IsAscii inner.src) (hl : inner.src.length ≤ USIZE_MAX)
    (hsmall : ∀ m ∈ chunkMs (inner.strip.stream ⟨false, false⟩ []).1.evs, ∀ o, m.orig = some o → o.src < U31 ∧ o.line < U31) :
    (∀ L cur, (fsl L cur inner.src (NA (((Src.cached id inner).warm ⟨false, false⟩).stream ⟨false, false⟩ []).1.evs)).map fl
      = (fsl L cur inner.src (NA (inner.strip.stream ⟨false, false⟩ []).1.evs)).map fl)
    ∧ ((Src.cached id inner).warm ⟨false, false⟩).IdxHyp := by
  have hnc := Src.strip_nc inner
  have n := Src.nc_modeFacts inner.strip false hnc hw hp hi
  rw [Src.warm_cached]
  rw [← Src.strip_src inner] at ha hl ⊢
  -- a fill by streaming: the stream stands for itself
  exact (replayLeaf_lines inner.strip hnc hw hp hi ha hl _ (M3L.same _ n.pos n.tl) n.declN hsmall).imp_right
    fun m => (Src.modeHypL_base _ m).2.2

theorem NA_length_nc (s : Src) (c : Bool) (hnc : s.NoCached) (hw : s.WF) (hi : s.IdxHyp) :
    (NA (s.stream ⟨c, false⟩ []).1.evs).length = s.src.length := by
  unfold NA
  rw [attrN_end_tables _ 0 0 emptyS emptyN (stream_declOK_nc s _ hnc hi), List.length_map, List.length_map, attrOf_length,
    Src.stream_text s c [] hw]

theorem concat_NA_nc' (c : Bool) (s : Src) (rest : SrcList) (hn : (SrcList.cons s rest).NoCachedL) (hi : (SrcList.cons s rest).IdxHyps) :
    NA ((Src.concat (.cons s rest)).stream ⟨c, false⟩ []).1.evs
      = ((SrcList.cons s rest).toList.map fun x => NA (x.stream ⟨c, false⟩ []).1.evs).flatten :=
  concat_NA c (.cons s rest) hn hi

mutual
/-- what the columns = false warm-cache theorem asks of the tree: no CachedSource beneath a ReplaceSource; every cached subtree in
the domain of C02 (columns = false) with ASCII text, source indices and original lines below 2³¹; map indices inside their tables -/
def Src.WarmHypL : Src → Prop
  | .sms t n map os inner rm => (Src.sms t n map os inner rm).IdxHyp
  | .concat cs => cs.WarmHypsL
  | .replace inner _ => inner.NoCached ∧ inner.IdxHyp
  | .cached _ inner => inner.strip.WF ∧ inner.strip.PosHyp false ∧ inner.strip.IdxHyp ∧ IsAscii inner.src ∧ inner.src.length ≤ USIZE_MAX
      ∧ (∀ m ∈ chunkMs (inner.strip.stream ⟨false, false⟩ []).1.evs, ∀ o, m.orig = some o → o.src < U31 ∧ o.line < U31)
  | _ => True
def SrcList.WarmHypsL : SrcList → Prop
  | .nil => True
  | .cons s r => s.WarmHypL ∧ r.WarmHypsL
end

mutual
/-- what the composition needs of the leaves, for caches filled by a call with `final_source = f`: each cached subtree's replay
agrees with the subtree's own stream on the first mapped byte of every line -/
def Src.LeafOK (f : Bool) : Src → Prop
  | .sms t n map os inner rm => (Src.sms t n map os inner rm).IdxHyp
  | .concat cs => cs.LeafOKs f
  | .replace inner _ => inner.NoCached ∧ inner.IdxHyp
  | .cached id inner =>
    (∀ L cur, (fsl L cur inner.src (NA (((Src.cached id inner).warm ⟨false, f⟩).stream ⟨false, false⟩ []).1.evs)).map fl
      = (fsl L cur inner.src (NA (inner.strip.stream ⟨false, false⟩ []).1.evs)).map fl)
    ∧ ((Src.cached id inner).warm ⟨false, f⟩).IdxHyp ∧ inner.strip.IdxHyp
  | _ => True
def SrcList.LeafOKs (f : Bool) : SrcList → Prop
  | .nil => True
  | .cons s r => s.LeafOK f ∧ r.LeafOKs f
end

mutual
theorem Src.warmG_LN (f : Bool) : ∀ (s : Src), s.WF → s.LeafOK f → s.CachedOK →
    (∀ L cur, (fsl L cur s.src (NA ((s.warm ⟨false, f⟩).stream ⟨false, false⟩ []).1.evs)).map fl
      = (fsl L cur s.src (NA (s.strip.stream ⟨false, false⟩ []).1.evs)).map fl)
    ∧ (s.warm ⟨false, f⟩).IdxHyp ∧ s.strip.IdxHyp
  | .raw .. | .rawStr .. | .rawBuf .. | .orig .. => fun _ _ _ => ⟨fun _ _ => rfl, trivial, trivial⟩
  | .sms .. => fun _ h _ => ⟨fun _ _ => rfl, h, h⟩
  | .concat cs => fun hw h hk => by
    obtain ⟨b1, b2, b3⟩ := SrcList.warmG_LNs f cs hw h hk
    refine ⟨fun L cur => ?_, b2, b3⟩
    rw [Src.warm, Src.strip, concat_NA false _ (SrcList.warmL_nc cs _ hk) b2, concat_NA false _ (SrcList.stripL_nc cs) b3]
    exact b1 L cur
  | .replace inner rs => fun _ h _ => by
    rw [Src.strip, Src.strip_of_nc inner h.1]
    exact ⟨fun _ _ => rfl, h.2, h.2⟩
  | .cached .. => fun _ h _ => h
theorem SrcList.warmG_LNs (f : Bool) : ∀ (l : SrcList), l.WFs → l.LeafOKs f → l.CachedOKs →
    (∀ L cur, (fsl L cur l.srcs (((l.warmL ⟨false, f⟩).toList.map fun x => NA (x.stream ⟨false, false⟩ []).1.evs).flatten)).map fl
      = (fsl L cur l.srcs ((l.stripL.toList.map fun x => NA (x.stream ⟨false, false⟩ []).1.evs).flatten)).map fl)
    ∧ (l.warmL ⟨false, f⟩).IdxHyps ∧ l.stripL.IdxHyps
  | .nil => fun _ _ _ => ⟨fun _ _ => rfl, trivial, trivial⟩
  | .cons s r => fun hw h hk => by
    obtain ⟨a1, a2, a3⟩ := Src.warmG_LN f s hw.1 h.1 hk.1
    obtain ⟨b1, b2, b3⟩ := SrcList.warmG_LNs f r hw.2 h.2 hk.2
    refine ⟨?_, ⟨a2, b2⟩, ⟨a3, b3⟩⟩
    intro L cur
    simp only [SrcList.warmL, SrcList.stripL, SrcList.toList, List.map_cons, List.flatten_cons, SrcList.srcs]
    have l1 := NA_length_nc _ false (Src.warm_nc s ⟨false, f⟩ hk.1) (Src.warm_wf _ s hw.1) a2
    have l2 := NA_length_nc _ false (Src.strip_nc s) (Src.strip_wf s hw.1) a3
    rw [Src.warm_src] at l1
    rw [Src.strip_src] at l2
    rw [fsl_append L s.src cur r.srcs _ _ l1, fsl_append L s.src cur r.srcs _ _ l2]
    exact oe_map_congr fl _ _ _ _ (a1 L cur) (b1 L (lineAfter cur s.src))
end

mutual
theorem Src.warmHypL_leafOK : ∀ (s : Src), s.WarmHypL → s.LeafOK false
  | .raw .. | .rawStr .. | .rawBuf .. | .orig .. => fun _ => trivial
  | .sms .. | .replace .. => id
  | .concat cs => SrcList.warmHypsL_leafOKs cs
  | .cached id inner => fun ⟨w1, w2, w3, w4, w5, w6⟩ =>
    (replayL_leaf id inner w1 w2 w3 w4 w5 w6).imp_right fun b => ⟨b, w3⟩
theorem SrcList.warmHypsL_leafOKs : ∀ (l : SrcList), l.WarmHypsL → l.LeafOKs false
  | .nil => fun _ => trivial
  | .cons s r => fun h => ⟨Src.warmHypL_leafOK s h.1, SrcList.warmHypsL_leafOKs r h.2⟩
end

theorem warmG_lname (f : Bool) (s : Src) (hw : s.WF) (hp : s.PosHyp false) (h : s.LeafOK f) (hk : s.CachedOK) (L : Nat) :
    LNameOf ((s.warm ⟨false, f⟩).stream ⟨false, false⟩ []).1.evs L = LNameOf (s.strip.stream ⟨false, false⟩ []).1.evs L := by
  obtain ⟨a1, a2, a3⟩ := Src.warmG_LN f s hw h hk
  have b1 := lfirst_nc _ (Src.warm_nc s ⟨false, f⟩ hk) (Src.warm_wf _ s hw) (Src.warm_posHyp_lines f s hp) a2 L
  have b2 := lfirst_nc _ (Src.strip_nc s) (Src.strip_wf s hw) (Src.strip_posHyp false s hp) a3 L
  rw [Src.warm_src] at b1
  rw [Src.strip_src] at b2
  rw [← b1, ← b2]
  exact a1 L 1

/-- **the second stream of a tree with CachedSource nodes, columns = false**: for every generated line, the first mapped chunk of the
replay tree's stream resolves — through the stream's own announcements — to the same file name and original line as the first
mapped chunk of the cache-free tree's stream -/
theorem warmL_lname (s : Src) (hw : s.WF) (hp : s.PosHyp false) (h : s.WarmHypL) (hk : s.CachedOK) (L : Nat) :
    LNameOf ((s.warm ⟨false, false⟩).stream ⟨false, false⟩ []).1.evs L = LNameOf (s.strip.stream ⟨false, false⟩ []).1.evs L :=
  warmG_lname false s hw hp (Src.warmHypL_leafOK s h) hk L

/-! ## regrouping with columns = false: only the sequence of leaves matters -/

mutual
theorem Src.src_leaves : ∀ (s : Src), s.src = (s.leaves.map Src.src).flatten
  | .raw .. | .rawStr .. | .rawBuf .. | .orig .. | .sms .. | .replace .. | .cached .. => (List.append_nil _).symm
  | .concat cs => SrcList.srcs_leavesL cs
theorem SrcList.srcs_leavesL : ∀ (l : SrcList), l.srcs = (l.leavesL.map Src.src).flatten
  | .nil => rfl
  | .cons s r => by
    simp only [SrcList.srcs, SrcList.leavesL, List.map_append, List.flatten_append]
    rw [Src.src_leaves s, SrcList.srcs_leavesL r]
end

theorem lname_same_leaves (a b : Src) (ha : a.NoCached) (hb : b.NoCached) (ia : a.IdxHyp) (ib : b.IdxHyp)
    (wa : a.WF) (wb : b.WF) (pa : a.PosHyp false) (pb : b.PosHyp false) (h : a.leaves = b.leaves) (L : Nat) :
    LNameOf (a.stream ⟨false, false⟩ []).1.evs L = LNameOf (b.stream ⟨false, false⟩ []).1.evs L := by
  rw [← lfirst_nc a ha wa pa ia L, ← lfirst_nc b hb wb pb ib L, NA_same_leaves' false a b ha hb ia ib h, Src.src_leaves a, Src.src_leaves b, h]

end Rs
