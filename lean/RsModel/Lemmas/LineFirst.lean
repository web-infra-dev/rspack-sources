import RsModel.Lemmas.Replay
import RsModel.Lemmas.ChunksTok
/-!
# The first mapped entry of a generated line (columns = false granularity)

`fsl L cur T A`: walk the bytes of `T` (the first one on line `cur`) together with their attribution entries `A`; the first entry
that is `some` among the bytes on line `L`.  In closed form (`fsl_eq`): pair every entry with the line its byte is on (`byteLines`)
and take the first `some` on line `L`, so what is needed of `fsl` are facts about `zip` and `findSome?`.  For a normal-mode stream at
true positions this is what `lookupLines` finds among the chunk mappings (`fsl_find`), and it composes over concatenated texts
(`fsl_append`), which is what lets line-granular attribution pass through ConcatSource by way of the byte-level name attribution
`NA` (in `NameLevel`).
-/
namespace Rs

def fsl {α : Type} (L : Nat) : Nat → Text → List (Option α) → Option α
  | _, [], _ => none
  | _, _ :: _, [] => none
  | cur, b :: bs, a :: as =>
    if cur = L then (match a with
      | some x => some x
      | none => fsl L (if b = NL then cur + 1 else cur) bs as)
    else fsl L (if b = NL then cur + 1 else cur) bs as

/-- the line the byte after `t` is on, when `t` starts on line `cur` -/
def lineAfter : Nat → Text → Nat
  | cur, [] => cur
  | cur, b :: bs => lineAfter (if b = NL then cur + 1 else cur) bs

/-- … which is the line `adv` reaches: the facts about `lineAfter` are the line components of those about `adv` -/
theorem lineAfter_adv : ∀ (t : Text) (p : Pos), (adv p t).line = lineAfter p.line t := by
  intro t
  induction t with
  | nil => intro p; rfl
  | cons c cs ih =>
    intro p
    simp only [adv, lineAfter]
    split
    · rw [ih]
    · rw [ih]

theorem lineAfter_append (a b : Text) (cur : Nat) : lineAfter cur (a ++ b) = lineAfter (lineAfter cur a) b := by
  rw [← lineAfter_adv _ ⟨cur, 0⟩, adv_append, lineAfter_adv, lineAfter_adv]

theorem lineAfter_noNL (t : Text) (cur : Nat) (h : ∀ c ∈ t, c ≠ NL) : lineAfter cur t = cur :=
  (lineAfter_adv t ⟨cur, 0⟩).symm.trans (congrArg Pos.line (adv_noNL t ⟨cur, 0⟩ h))

theorem lineAfter_ge : ∀ (t : Text) (cur : Nat), cur ≤ lineAfter cur t := by
  intro t cur
  rw [← lineAfter_adv t ⟨cur, 0⟩]
  rcases adv_ge t ⟨cur, 0⟩ with h | h
  · exact Nat.le_of_lt h
  · exact Nat.le_of_eq h.1

/-- the line each byte of `t` is on, when `t` starts on line `cur` -/
def byteLines : Nat → Text → List Nat
  | _, [] => []
  | cur, b :: bs => cur :: byteLines (if b = NL then cur + 1 else cur) bs

theorem byteLines_length : ∀ (t : Text) (cur : Nat), (byteLines cur t).length = t.length
  | [], _ => rfl
  | _ :: bs, _ => congrArg (· + 1) (byteLines_length bs _)

theorem byteLines_append : ∀ (a b : Text) (cur : Nat), byteLines cur (a ++ b) = byteLines cur a ++ byteLines (lineAfter cur a) b
  | [], _, _ => rfl
  | _ :: xs, b, _ => congrArg (_ :: ·) (byteLines_append xs b _)

theorem byteLines_shift (k : Nat) : ∀ (t : Text) (cur : Nat), byteLines (cur + k) t = (byteLines cur t).map (· + k)
  | [], _ => rfl
  | b :: bs, cur => by
    rw [byteLines, byteLines, List.map_cons, ← byteLines_shift k bs, apply_ite (· + k), Nat.add_right_comm]

theorem byteLines_ge {t : Text} {cur l : Nat} (h : l ∈ byteLines cur t) : cur ≤ l := by
  rw [← Nat.zero_add cur, byteLines_shift cur t 0] at h
  obtain ⟨x, _, rfl⟩ := List.mem_map.1 h
  omega

/-- a potential token lies on one line: a line break can only be its last byte -/
theorem byteLines_tok {t : Text} (h : TokOK t) (cur : Nat) : byteLines cur t = List.replicate t.length cur := by
  have noNL : ∀ (s : Text), (∀ x ∈ s, x ≠ NL) → byteLines cur s = List.replicate s.length cur := by
    intro s
    induction s with
    | nil => intro _; rfl
    | cons c cs ih =>
      intro hs
      rw [byteLines, if_neg (hs c List.mem_cons_self), ih fun x hx => hs x (List.mem_cons_of_mem _ hx)]; rfl
  obtain ⟨s, hs, rfl | rfl⟩ := h
  · exact noNL _ hs
  · rw [byteLines_append, noNL s hs, lineAfter_noNL s cur hs, List.length_append, ← List.replicate_append_replicate]; rfl

theorem byteLines_lines {ls : List Text} (h : Lines ls) : ∀ (cur l : Nat), l ∈ byteLines cur ls.flatten → l < cur + ls.length := by
  induction h using Lines.rec3 with
  | nil => intro cur l hl; cases hl
  | last t _ hno =>
    intro cur l hl
    rw [List.flatten_singleton, byteLines_tok ⟨t, hno, .inl rfl⟩] at hl
    exact List.eq_of_mem_replicate hl ▸ Nat.lt_succ_self _
  | step t rest hno _ _ ih =>
    intro cur l hl
    rw [List.flatten_cons, byteLines_append, byteLines_tok ⟨t, hno, .inr rfl⟩, lineAfter_append, lineAfter_noNL t cur hno,
      List.mem_append] at hl
    rw [List.length_cons, ← Nat.add_assoc, Nat.add_right_comm]
    -- a byte of the first piece is on line `cur`; the others lie in the pieces that follow, which start on line `cur + 1`
    rcases hl with hl | hl
    · exact List.eq_of_mem_replicate hl ▸ Nat.lt_of_lt_of_le (Nat.lt_succ_self _) (Nat.le_add_right _ _)
    · exact ih (cur + 1) l hl

theorem fsl_eq {α : Type} (L : Nat) (T : Text) (cur : Nat) (A : List (Option α)) :
    fsl L cur T A = ((byteLines cur T).zip A).findSome? fun p => if p.1 = L then p.2 else none := by
  fun_induction fsl L cur T A with
  | case1 => rfl
  | case2 => rfl
  | case3 => rw [byteLines, List.zip_cons_cons, List.findSome?_cons, if_pos rfl]
  | case4 _ _ _ ih => rw [byteLines, List.zip_cons_cons, List.findSome?_cons, if_pos rfl, ih]
  | case5 _ _ _ _ _ h ih => rw [byteLines, List.zip_cons_cons, List.findSome?_cons, if_neg h, ih]

theorem fsl_map {α β : Type} (f : α → β) (L : Nat) : ∀ (T : Text) (cur : Nat) (A : List (Option α)),
    fsl L cur T (A.map (Option.map f)) = (fsl L cur T A).map f := by
  intro T cur A
  rw [fsl_eq, fsl_eq, List.zip_map_right, List.findSome?_map, List.map_findSome?]
  congr 1
  funext p
  simp only [Function.comp, Prod.map, id]
  split <;> rfl

theorem fsl_shift {α : Type} (k L : Nat) : ∀ (T : Text) (cur : Nat) (A : List (Option α)), fsl (L + k) (cur + k) T A = fsl L cur T A := by
  intro T cur A
  rw [fsl_eq, fsl_eq, byteLines_shift, List.zip_map_left, List.findSome?_map]
  congr 1
  funext p
  simp only [Function.comp, Prod.map, id, Nat.add_right_cancel_iff]

theorem fsl_none {α : Type} (L cur : Nat) (T : Text) (A : List (Option α)) (h : ∀ l ∈ byteLines cur T, l ≠ L) : fsl L cur T A = none := by
  rw [fsl_eq, List.findSome?_eq_none_iff]
  exact fun p hp => if_neg (h p.1 (List.of_mem_zip hp).1)

theorem fsl_lt {α : Type} (L : Nat) : ∀ (T : Text) (cur : Nat) (A : List (Option α)), L < cur → fsl L cur T A = none :=
  fun T cur A h => fsl_none L cur T A fun _ hl => Nat.ne_of_gt (Nat.lt_of_lt_of_le h (byteLines_ge hl))

theorem fsl_lines_none {α : Type} (L : Nat) : ∀ (ls : List Text), Lines ls → ∀ (cur : Nat) (A : List (Option α)), cur + ls.length ≤ L →
    fsl L cur ls.flatten A = none :=
  fun _ h cur A hle => fsl_none L cur _ A fun l hl => Nat.ne_of_lt (Nat.lt_of_lt_of_le (byteLines_lines h cur l hl) hle)

theorem fsl_append {α : Type} (L : Nat) : ∀ (T1 : Text) (cur : Nat) (T2 : Text) (A1 A2 : List (Option α)), A1.length = T1.length →
    fsl L cur (T1 ++ T2) (A1 ++ A2) = (match fsl L cur T1 A1 with
      | some x => some x
      | none => fsl L (lineAfter cur T1) T2 A2) := by
  intro T1 cur T2 A1 A2 h
  rw [fsl_eq, fsl_eq, fsl_eq, byteLines_append, List.zip_append (by rw [byteLines_length, h]), List.findSome?_append]
  cases List.findSome? _ _ <;> rfl

theorem fsl_tok {α : Type} (L cur : Nat) (t T' : Text) (a : Option α) (A' : List (Option α)) (ht : TokOK t) :
    fsl L cur (t ++ T') (List.replicate t.length a ++ A')
      = (if t.length = 0 then none else if cur = L then a else none).or (fsl L (lineAfter cur t) T' A') := by
  rw [fsl_eq, byteLines_append, byteLines_tok ht, List.zip_append (by simp), List.zip_replicate', List.findSome?_append,
    List.findSome?_replicate, ← fsl_eq]

/-- **what `lookupLines` finds**: in a normal-mode stream whose chunks stand at their true positions, are potential tokens and carry
text when mapped, the first mapped chunk on generated line `L` is the chunk of the first mapped byte on line `L` -/
theorem fsl_find (L : Nat) : ∀ (evs : List Ev) (pre : Text), posOKT pre evs → evsTL evs = false → MappedNE evs → ChunksTok evs →
    fsl L (adv startPos pre).line (evsText evs) (attrOf evs)
      = ((chunkMs evs).find? (fun m => m.gl == L && m.orig.isSome)).bind (·.orig) := by
  intro evs
  induction evs with
  | nil => intro pre _ _ _ _; rfl
  | cons e es ih =>
    intro pre hp hTL hMN hT
    have hTLs : evsTL es = false := by simp only [evsTL_cons, Bool.or_eq_false_iff] at hTL; exact hTL.2
    have hMNs : MappedNE es := fun t m hm => hMN t m (List.mem_cons_of_mem _ hm)
    have hTs : ChunksTok es := fun t m hm => hT t m (List.mem_cons_of_mem _ hm)
    cases e with
    | chunk t m =>
      cases t with
      | none => simp [evsTL_cons, Ev.textless] at hTL
      | some t =>
        simp only [posOKT] at hp
        have hcur : (adv startPos pre).line = m.gl := by rw [← hp.1]
        have hih := ih (pre ++ t) hp.2 hTLs hMNs hTs
        rw [adv_append, lineAfter_adv, hcur] at hih
        simp only [evsText_cons, Ev.text, attrOf, chunkMs, List.find?_cons]
        rw [hcur, fsl_tok L m.gl t _ m.orig _ (hT t m List.mem_cons_self), hih]
        -- the chunk answers exactly when it is on line `L` and mapped; a mapped chunk has a byte
        by_cases hL : m.gl = L
        · cases ho : m.orig with
          | none => simp
          | some x =>
            have hne : t.length ≠ 0 := fun h => hMN t m List.mem_cons_self (by rw [ho]; rfl) (List.eq_nil_of_length_eq_zero h)
            simp [hL, hne, ho]
        · simp [hL, beq_false_of_ne hL]
    | source i s c => exact ih pre hp hTLs hMNs hTs
    | name i n => exact ih pre hp hTLs hMNs hTs

end Rs
