import RsModel.Lemmas.Histories
import RsModel.Lemmas.WarmMap
import RsModel.Lemmas.WarmLines
/-!
# What every call of every history answers (C03 / C10)

`runCalls_results` (in `Histories`: each call returns the cache-free tree's stream or the replay tree's stream for its options) ∘
the two-call theorems (`Src.warm_NA` in `WarmTree`, `warm_map_NA` in `WarmMap`, `getMap_names` in `NameLevel`, `warmL_lname` in
`WarmLines`): in any history of streaming / `get_map` calls, of any length, in any order of options, every normal-mode stream with
columns and every map built from a text-less stream with columns resolves every byte of `source()` to the same file name, original
line, original column and name — those of the cache-free tree; and in every normal-mode stream with columns = false the first mapped
chunk of every generated line resolves to the same file name and original line as in the cache-free tree's stream.
-/
namespace Rs

theorem runCalls_is_stream (s : Src) : ∀ (calls : List Opts) (σ : Store) (k : Nat) (o : Opts), calls[k]? = some o →
    ∃ σ', (runCalls s calls σ).1[k]? = some (s.stream o σ').1 :=
  fun calls σ k o h => ⟨_, runCalls_at s calls σ k o h⟩

theorem history_stream_NA (s : Src) (hk : s.NoCR) (hn : s.ids.Nodup) (σ : Store) (hc : Cold σ s.ids) (h : s.WarmHyp)
    (calls : List Opts) (k : Nat) (hcall : calls[k]? = some ⟨true, false⟩) :
    ∃ r, (runCalls s calls σ).1[k]? = some r ∧ NA r.evs = NA (s.strip.stream ⟨true, false⟩ []).1.evs := by
  refine ⟨_, runCalls_results s hk hn σ hc calls k _ hcall, ?_⟩
  unfold answerOf
  split
  · exact (Src.warm_NA s h (Src.noCR_cachedOK s hk)).1
  · rfl

theorem history_map_NA (s : Src) (hk : s.NoCR) (hn : s.ids.Nodup) (σ : Store) (hc : Cold σ s.ids) (h : s.ModeHypC) (hs : s.SmallF)
    (hsmall1 : ∀ m ∈ chunkMs (s.strip.stream ⟨true, true⟩ []).1.evs, m.small)
    (hsmall2 : ∀ m ∈ chunkMs ((s.warm ⟨true, true⟩).stream ⟨true, true⟩ []).1.evs, m.small)
    (calls : List Opts) (k : Nat) (hcall : calls[k]? = some ⟨true, true⟩) :
    ∃ r, (runCalls s calls σ).1[k]? = some r ∧ ∀ sm, mapOfEvs true r.evs = some sm →
      (attrFrom (decode sm.mappings) startPos s.src).map (Option.map (resolveMF sm)) = NA (s.strip.stream ⟨true, false⟩ []).1.evs := by
  refine ⟨_, runCalls_results s hk hn σ hc calls k _ hcall, ?_⟩
  intro sm hsm
  unfold answerOf at hsm
  have hck := Src.noCR_cachedOK s hk
  split at hsm
  · exact warm_map_NA s h hck hs true hsmall2 sm (by simp only [getMap]; exact hsm)
  · have hsn := Src.strip_nc s
    have hn' := Src.nc_nodup _ hsn
    have e1 := getMap_names s.strip (Src.strip_modeHypC s h) hn' [] [] (cold_nil _) (cold_nil _) true hsmall1 sm (by simp only [getMap]; exact hsm)
    rw [Src.strip_src] at e1
    exact e1

theorem history_stream_lname (s : Src) (hk : s.NoCR) (hn : s.ids.Nodup) (σ : Store) (hc : Cold σ s.ids) (hw : s.WF) (hp : s.PosHyp false)
    (h : s.WarmHypL) (calls : List Opts) (k : Nat) (hcall : calls[k]? = some ⟨false, false⟩) :
    ∃ r, (runCalls s calls σ).1[k]? = some r ∧ ∀ L, LNameOf r.evs L = LNameOf (s.strip.stream ⟨false, false⟩ []).1.evs L := by
  refine ⟨_, runCalls_results s hk hn σ hc calls k _ hcall, ?_⟩
  intro L
  unfold answerOf
  split
  · exact warmL_lname s hw hp h (Src.noCR_cachedOK s hk) L
  · rfl

end Rs
