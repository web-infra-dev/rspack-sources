import RsModel.Lemmas.TrapsSM
import RsModel.Lemmas.Pos
import RsModel.Lemmas.SMText
/-!
# The size side-conditions of the no-trap theorems, from byte lengths

`text below 4 GiB` and `mappings string below 4 GiB` imply the line-count, line-length and `generated_line` bounds the theorems of
`TrapsSM.lean` use.  With them the leaves cannot trap: SourceMapSource and Raw by `TrapsSM.lean`, OriginalSource here.
-/
namespace Rs
namespace Chk

theorem length_le_of_ne : ∀ (L : List Text), (∀ x ∈ L, x ≠ []) → L.length ≤ L.flatten.length := by
  intro L
  induction L with
  | nil => intro _; exact Nat.le_refl _
  | cons x xs ih =>
    intro h
    rw [List.length_cons, List.flatten_cons, List.length_append, Nat.add_comm]
    exact Nat.add_le_add (List.length_pos_iff.2 (h x List.mem_cons_self)) (ih fun y hy => h y (List.mem_cons_of_mem _ hy))

theorem splitLines_count (t : Text) : (splitLines t).length ≤ t.length := by
  have h := length_le_of_ne (splitLines t) (lines_ne _ (lines_of_splitLines t))
  rwa [splitLines_join] at h

theorem tokens_count (t : Text) : (tokens t).length ≤ t.length := by
  have h := length_le_of_ne (tokens t) (tokens_ne t)
  rwa [tokens_join] at h

theorem splitLines_line_le (t : Text) : ∀ l ∈ splitLines t, l.length ≤ t.length := by
  intro l h
  have := length_le_flatten (splitLines t) l h
  rw [splitLines_join] at this
  exact this

theorem pending_gl (s : DecSt) : ∀ m ∈ s.pending, m.gl = s.genLine := by
  fun_cases DecSt.pending s
  · exact fun m h => List.mem_singleton.1 h ▸ rfl
  · exact fun m h => List.mem_singleton.1 h ▸ rfl
  · exact fun m h => List.mem_singleton.1 h ▸ rfl
  · exact nofun

/-- the five outcomes of one decoder step: invalid byte, `;`, `,`, last digit of a field, continuation digit -/
theorem decByte_elim (s : DecSt) (c : UInt8) (P : DecSt × List Mapping → Prop) (herr : P (s, []))
    (hsemi : P ({ s with dataPos := 0, genLine := s.genLine + 1, d0 := 0 }, s.pending))
    (hcomma : P ({ s with dataPos := 0 }, s.pending))
    (hlast : ∀ v, P (s.setField v, []))
    (hcont : ∀ v p, P ({ s with value := v, valuePos := p }, [])) : P (decByte s c) := by
  fun_cases decByte s c
  · exact herr
  · exact hsemi
  · exact hcomma
  · exact hlast _
  · exact hcont _ _

theorem decByte_gl (s : DecSt) (c : UInt8) : (∀ m ∈ (decByte s c).2, m.gl = s.genLine) ∧ (decByte s c).1.genLine ≤ s.genLine + 1 := by
  have hnil : ∀ m ∈ ([] : List Mapping), m.gl = s.genLine := fun _ h => nomatch h
  exact decByte_elim s c (fun r => (∀ m ∈ r.2, m.gl = s.genLine) ∧ r.1.genLine ≤ s.genLine + 1) ⟨hnil, Nat.le_succ _⟩
    ⟨pending_gl s, Nat.le_refl _⟩ ⟨pending_gl s, Nat.le_succ _⟩ (fun _ => ⟨hnil, Nat.le_succ _⟩) (fun _ _ => ⟨hnil, Nat.le_succ _⟩)

theorem decBytes_gl : ∀ (bs : Text) (s : DecSt), (∀ m ∈ (decBytes s bs).2, m.gl ≤ s.genLine + bs.length) ∧ (decBytes s bs).1.genLine ≤ s.genLine + bs.length := by
  intro bs
  induction bs with
  | nil => intro s; exact ⟨fun _ h => (nomatch h), Nat.le_refl _⟩
  | cons c cs ih =>
    intro s
    simp only [decBytes, List.length_cons]
    obtain ⟨a1, a2⟩ := decByte_gl s c
    obtain ⟨b1, b2⟩ := ih (decByte s c).1
    constructor
    · intro m h
      rcases List.mem_append.1 h with h | h
      · have := a1 m h; omega
      · have := b1 m h; omega
    · omega

theorem decode_gl (bs : Text) : ∀ m ∈ decode bs, m.gl ≤ bs.length + 1 := by
  intro m h
  unfold decode at h
  simp only [] at h
  obtain ⟨a1, a2⟩ := decBytes_gl bs decInitSt
  have h0 : decInitSt.genLine = 1 := rfl
  rcases List.mem_append.1 h with h | h
  · have := a1 m h; omega
  · have := pending_gl _ m h; omega

/-- **the four map-driven splitters cannot panic** — stated on byte lengths: text and `mappings` string below 4 GiB − 2, any map -/
theorem streamSMC_total (t : Text) (sm : SMap) (o : Opts) (ht : t.length + 2 < 2 ^ 32) (hm : sm.mappings.length + 1 < 2 ^ 32) :
    streamSMC t sm o = some (streamSM t sm o) :=
  streamSMC_eq t sm o (by have := splitLines_count t; omega)
    (fun l hl => by have := splitLines_line_le t l hl; omega)
    (fun m h => by have := decode_gl sm.mappings m h; omega)

theorem streamRawC_total (t : Text) (o : Opts) (ht : t.length + 1 < 2 ^ 32) : streamRawC t o = some (streamRaw t o) :=
  streamRawC_eq t o (by have := splitLines_count t; omega) (fun l hl => by have := splitLines_line_le t l hl; omega)

/-! `OriginalSource::stream_chunks`: the `u32` line and column counters (`line += 1`, `column += token.len() as u32`, `line - 1`) stay
below the text length plus one. -/

theorem origTokChunksC_eq (final : Bool) : ∀ (toks : List Text) (l c : Nat),
    l + toks.length < 2 ^ 32 → c + toks.flatten.length < 2 ^ 32 →
    origTokChunksC final l c toks = some (origTokChunks final l c toks) := by
  intro toks
  induction toks with
  | nil => intro l c _ _; rfl
  | cons tok toks ih =>
    intro l c hl hc
    rw [List.length_cons] at hl
    rw [List.flatten_cons, List.length_append] at hc
    rw [origTokChunksC, origTokChunks]
    by_cases he : endsWithNL tok = true
    · obtain ⟨h1, h2, h3⟩ : l + 1 < 2 ^ 32 ∧ l + 1 + toks.length < 2 ^ 32 ∧ 0 + toks.flatten.length < 2 ^ 32 := by omega
      simp only [if_pos he, add32_of_lt h1, ih (l + 1) 0 h2 h3]
    · obtain ⟨h1, h2, h3⟩ : tok.length < 2 ^ 32 ∧ c + tok.length < 2 ^ 32 ∧ c + tok.length + toks.flatten.length < 2 ^ 32 := by omega
      simp only [if_neg he, Nat.mod_eq_of_lt h1, add32_of_lt h2, ih l (c + tok.length) (Nat.lt_of_succ_lt hl) h3]

theorem origLineChunksC_eq : ∀ (ts : List Text) (l : Nat), l + ts.length < 2 ^ 32 →
    origLineChunksC l ts = some (origLineChunks l ts, l + ts.length) := by
  intro ts
  induction ts with
  | nil => intro l _; rfl
  | cons t ts ih =>
    intro l h
    rw [List.length_cons, ← Nat.add_assoc, Nat.add_right_comm] at h
    rw [origLineChunksC, origLineChunks, add32_of_lt (Nat.lt_of_le_of_lt (Nat.le_add_right _ _) h)]
    simp only [ih (l + 1) h, List.length_cons, Nat.add_assoc, Nat.add_comm 1]

/-- **`OriginalSource::stream_chunks` cannot panic**, every text below 4 GiB, all four modes -/
theorem streamOriginalC_total (t name : Text) (o : Opts) (ht : t.length + 1 < 2 ^ 32) :
    streamOriginalC t name o = some (streamOriginal t name o) := by
  unfold streamOriginalC streamOriginal
  dsimp only
  by_cases hc : o.columns = true
  · rw [if_pos hc, if_pos hc, origTokChunksC_eq o.final (tokens t) 1 0 (by have := tokens_count t; omega) (by rw [tokens_join]; omega)]
  · rw [if_neg hc, if_neg hc]
    by_cases hf : o.final = true
    · rw [if_pos hf, if_pos hf]
      split <;> rfl
    · rw [if_neg hf, if_neg hf, origLineChunksC_eq (splitLines t) 1 (by have := splitLines_count t; omega)]
      exact lineLoopC_eq (splitLines t) (fun l hl => Nat.lt_of_le_of_lt (splitLines_line_le t l hl) (Nat.lt_of_succ_lt ht)) _

end Chk
end Rs
