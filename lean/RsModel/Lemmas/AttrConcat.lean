import RsModel.Lemmas.TextComposite
import RsModel.Lemmas.HasText
import RsModel.Lemmas.DeclConcat
/-!
# C06 — a ConcatSource attributes every byte as the child it came from does (file name, content, line, column, name)

Name-level attribution: a consumer of the callbacks learns the tables (`on_source`, `on_name`) as they are announced and resolves
the indices of each chunk with the tables known at that moment.

The fold of a ConcatSource is walked once (`concatEv_attrN`, `concatEvs_attrN_wd`, `concatGo_attrN_wd`), carrying how the child's
tables sit inside the ConcatSource's (`GInv`, `CInv`).  Two readings of the delivered stream come out of it together: its
attribution, and `ProvP P` (what its mapped chunks say relative to the content of their files, used for C04).  That the delivered
stream is again well declared needs no walk: it is C11's `DeclOK`, which a ConcatSource establishes whatever its children do, plus
"each announced file was announced by a child" (`concatStream_wellDecl`, by `wellDecl_of_declOK`).
-/
namespace Rs

abbrev SrcTbl := Nat → Option (Text × Option Text)
abbrev NameTbl := Nat → Option Text

def upd {α} (f : Nat → Option α) (i : Nat) (v : α) : Nat → Option α := fun j => if j = i then some v else f j

structure RLoc where
  file : Option (Text × Option Text)
  line : Nat
  col : Nat
  name : Option (Option Text)

def resolveO (S : SrcTbl) (N : NameTbl) (o : Orig) : RLoc := ⟨S o.src, o.line, o.col, o.name.map N⟩

def attrN : SrcTbl → NameTbl → List Ev → List (Option RLoc)
  | _, _, [] => []
  | S, N, .chunk (some t) m :: es => List.replicate t.length (m.orig.map (resolveO S N)) ++ attrN S N es
  | S, N, .chunk none _ :: es => attrN S N es
  | S, N, .source i s c :: es => attrN (upd S i (s, c)) N es
  | S, N, .name i n :: es => attrN S (upd N i n) es

def tblS : SrcTbl → List Ev → SrcTbl
  | S, [] => S
  | S, .source i s c :: es => tblS (upd S i (s, c)) es
  | S, _ :: es => tblS S es

def tblN : NameTbl → List Ev → NameTbl
  | N, [] => N
  | N, .name i n :: es => tblN (upd N i n) es
  | N, _ :: es => tblN N es

theorem attrN_append : ∀ (a b : List Ev) (S : SrcTbl) (N : NameTbl), attrN S N (a ++ b) = attrN S N a ++ attrN (tblS S a) (tblN N a) b := by
  intro a
  induction a with
  | nil => intro b S N; rfl
  | cons e es ih =>
    intro b S N
    cases e with
    | chunk t m => cases t <;> simp [attrN, tblS, tblN, ih]
    | source i s c => simp [attrN, tblS, tblN, ih]
    | name i n => simp [attrN, tblS, tblN, ih]

def emptyS : SrcTbl := fun _ => none
def emptyN : NameTbl := fun _ => none

/-- the child announces every index before using it; every announcement of a file carries the content `cons` assigns to that file
name ("a shared name carries the same content everywhere") -/
def WellDecl (cons : Text → Option Text) : SrcTbl → NameTbl → List Ev → Prop
  | _, _, [] => True
  | Sc, Nc, .chunk _ m :: es =>
    (∀ o, m.orig = some o → (Sc o.src).isSome = true ∧ ∀ k, o.name = some k → (Nc k).isSome = true) ∧ WellDecl cons Sc Nc es
  | Sc, Nc, .source i s c :: es => c = cons s ∧ WellDecl cons (upd Sc i (s, c)) Nc es
  | Sc, Nc, .name i n :: es => WellDecl cons Sc (upd Nc i n) es

def ContOK (cons : Text → Option Text) (evs : List Ev) : Prop := ∀ i s c, Ev.source i s c ∈ evs → c = cons s

theorem wellDecl_contOK (cons : Text → Option Text) : ∀ (evs : List Ev) (S : SrcTbl) (N : NameTbl), WellDecl cons S N evs → ContOK cons evs := by
  intro evs
  induction evs with
  | nil => intro S N _ i s c h; simp at h
  | cons e es ih =>
    intro S N h i s c hm
    cases e with
    | chunk t m =>
      simp only [List.mem_cons, reduceCtorEq, false_or] at hm
      exact ih S N h.2 i s c hm
    | source i0 s0 c0 =>
      simp only [List.mem_cons, Ev.source.injEq] at hm
      rcases hm with ⟨_, rfl, rfl⟩ | hm
      · exact h.1
      · exact ih _ N h.2 i s c hm
    | name i0 n0 =>
      simp only [List.mem_cons, reduceCtorEq, false_or] at hm
      exact ih S _ h i s c hm

theorem upd_some {α} {f : Nat → Option α} {i j : Nat} {v x : α} (h : upd f i v j = some x) : j = i ∧ x = v ∨ j ≠ i ∧ f j = some x := by
  unfold upd at h
  split at h
  · exact Or.inl ⟨‹_›, (Option.some.inj h).symm⟩
  · exact Or.inr ⟨‹_›, h⟩

theorem upd_isSome_lt {α} {f : Nat → Option α} {i : Nat} (h : ∀ j, j < i → (f j).isSome = true) (v : α) :
    ∀ j, j < i + 1 → (upd f i v j).isSome = true := by
  intro j hj
  unfold upd
  split
  · rfl
  · next hji => exact h j (by omega)

/-- `WellDecl` is C11's `DeclOK` (announced before use, densely) plus consistent contents -/
theorem wellDecl_of_declOK (cons : Text → Option Text) : ∀ (evs : List Ev) (ns nn : Nat) (S : SrcTbl) (N : NameTbl),
    DeclOK ns nn evs → (∀ i, i < ns → (S i).isSome = true) → (∀ i, i < nn → (N i).isSome = true) → ContOK cons evs →
    WellDecl cons S N evs := by
  intro evs
  induction evs with
  | nil => intro ns nn S N _ _ _ _; trivial
  | cons e es ih =>
    intro ns nn S N hd hS hN hc
    have hc' : ContOK cons es := fun i s c hm => hc i s c (List.mem_cons_of_mem _ hm)
    cases e with
    | chunk t m =>
      exact ⟨fun o ho => ⟨hS _ (hd.1 o ho).1, fun k hk => hN _ ((hd.1 o ho).2 k hk)⟩, ih ns nn S N hd.2 hS hN hc'⟩
    | source i s c =>
      obtain ⟨rfl, hd2⟩ := hd
      exact ⟨hc _ s c (List.mem_cons_self), ih (i + 1) nn _ N hd2 (upd_isSome_lt hS _) hN hc'⟩
    | name i n =>
      obtain ⟨rfl, hd2⟩ := hd
      exact ih ns (i + 1) S _ hd2 hS (upd_isSome_lt hN _) hc'

theorem tblS_append (a b : List Ev) (S : SrcTbl) : tblS S (a ++ b) = tblS (tblS S a) b := by
  induction a generalizing S with
  | nil => rfl
  | cons e es ih => cases e <;> simp [tblS, ih]

theorem tblN_append (a b : List Ev) (N : NameTbl) : tblN N (a ++ b) = tblN (tblN N a) b := by
  induction a generalizing N with
  | nil => rfl
  | cons e es ih => cases e <;> simp [tblN, ih]

theorem attrN_cons (e : Ev) (es : List Ev) (S : SrcTbl) (N : NameTbl) : attrN S N (e :: es) = attrN S N [e] ++ attrN (tblS S [e]) (tblN N [e]) es :=
  attrN_append [e] es S N

def ProvP (P : Text → Option Text → Orig → Prop) : SrcTbl → List Ev → Prop
  | _, [] => True
  | S, .chunk t m :: es => (∀ a, m.orig = some a → ∃ name T, S a.src = some (name, some T) ∧ P T t a) ∧ ProvP P S es
  | S, .source i s c :: es => ProvP P (upd S i (s, c)) es
  | S, .name _ _ :: es => ProvP P S es

theorem provP_append (P : Text → Option Text → Orig → Prop) : ∀ (a b : List Ev) (S : SrcTbl),
    ProvP P S (a ++ b) ↔ ProvP P S a ∧ ProvP P (tblS S a) b := by
  intro a
  induction a with
  | nil => intro b S; simp [ProvP, tblS]
  | cons e es ih =>
    intro b S
    cases e with
    | chunk t m => simp only [List.cons_append, ProvP, tblS, ih, and_assoc]
    | source i s c => simp only [List.cons_append, ProvP, tblS, ih]
    | name i n => simp only [List.cons_append, ProvP, tblS, ih]

/-- `P` does not depend on the source index, and asks of the name index at most that it be absent: those two indices are all a
ConcatSource changes in a chunk -/
def Renumbers (P : Text → Option Text → Orig → Prop) : Prop :=
  ∀ T t a g n, P T t a → (a.name = none → n = none) → P T t ⟨g, a.line, a.col, n⟩

/-- How the tables of a composite sit in those a consumer of its output keeps.  `TblOf`: the index the de-duplication map `A` gives a
key holds the key's value in the consumer's table `T`.  `Thru`: what the child's table `Tc` holds at `i`, `T` holds at `im[i]`.  The
bounds say that the index the next new key gets is still free, so entering it (`upd T A.length _`) disturbs neither. -/
def TblOf {β} (val : Text → β) (A : Assoc) (T : Nat → Option β) : Prop :=
  ∀ k g, A.get? k = some g → T g = some (val k) ∧ g < A.length

def Thru {β} (im : List Nat) (Tc T : Nat → Option β) (n : Nat) : Prop :=
  ∀ i v, Tc i = some v → ∃ g, im[i]? = some g ∧ T g = some v ∧ g < n

structure GInv (cons : Text → Option Text) (st : CSt) (S : SrcTbl) (N : NameTbl) : Prop where
  srcs : TblOf (fun s => (s, cons s)) st.sourceMapping S
  names : TblOf (fun n => n) st.nameMapping N
  nc : st.needClose = false

structure CInv (st : CSt) (Sc : SrcTbl) (Nc : NameTbl) (S : SrcTbl) (N : NameTbl) : Prop where
  src : Thru st.sim Sc S st.sourceMapping.length
  name : Thru st.nim Nc N st.nameMapping.length

theorem Thru.insert {β} {im : List Nat} {Tc T : Nat → Option β} {n : Nat} (h : Thru im Tc T n) (i g : Nat) (v : β)
    (hg : T g = some v) (hn : g < n) : Thru (lmInsert 0 im i g) (upd Tc i v) T n := by
  intro j w hj
  rcases upd_some hj with ⟨rfl, rfl⟩ | ⟨hji, hj⟩
  · exact ⟨g, lmInsert_get_self 0 im _ g, hg, hn⟩
  · obtain ⟨g', a, b⟩ := h j w hj
    exact ⟨g', by rw [lmInsert_get_other 0 im i j g (List.getElem?_eq_some_iff.1 a).1 hji]; exact a, b⟩

theorem Thru.grow {β} {im : List Nat} {Tc T : Nat → Option β} {n : Nat} (h : Thru im Tc T n) (v : β) :
    Thru im Tc (upd T n v) (n + 1) := by
  intro j w hj
  obtain ⟨g, a, b, c⟩ := h j w hj
  exact ⟨g, a, by unfold upd; rw [if_neg (by omega)]; exact b, by omega⟩

theorem TblOf.insert {β} {val : Text → β} {A : Assoc} {T : Nat → Option β} (h : TblOf val A T) (k : Text) (hk : A.get? k = none) :
    TblOf val (A.insert k A.length) (upd T A.length (val k)) := by
  intro k' g hg
  rw [assoc_length_insert A k _ hk]
  by_cases hkk : k' = k
  · subst hkk
    rw [assoc_get_insert_self _ _ _ hk] at hg
    cases hg
    exact ⟨if_pos rfl, Nat.lt_succ_self _⟩
  · rw [assoc_get_insert_other _ _ _ _ hk hkk] at hg
    obtain ⟨a, b⟩ := h k' g hg
    exact ⟨by unfold upd; rw [if_neg (by omega)]; exact a, by omega⟩

/-- one registration, as `globalSource` and `globalName` do it: a key already in `A` keeps its index, a new one gets the next index
and is entered in `T`; either way the child's index `i` now leads to the key's value -/
theorem Thru.register {β} {val : Text → β} {A : Assoc} {T Tc : Nat → Option β} {im : List Nat}
    (hA : TblOf val A T) (hI : Thru im Tc T A.length) (k : Text) (i : Nat) :
    match A.get? k with
    | some g => Thru (lmInsert 0 im i g) (upd Tc i (val k)) T A.length
    | none => TblOf val (A.insert k A.length) (upd T A.length (val k))
        ∧ Thru (lmInsert 0 im i A.length) (upd Tc i (val k)) (upd T A.length (val k)) (A.insert k A.length).length := by
  split
  · rename_i g hget
    exact hI.insert i g _ (hA k g hget).1 (hA k g hget).2
  · rename_i hget
    rw [assoc_length_insert _ _ _ hget]
    exact ⟨hA.insert k hget, (hI.grow _).insert i _ _ (if_pos rfl) (Nat.lt_succ_self _)⟩

/-- where `concatEv` sends a location whose indices the child has announced: to indices that hold, in the consumer's tables, what the
child's tables hold at the location's own -/
theorem trans_resolve (st : CSt) (S Sc : SrcTbl) (N Nc : NameTbl) (hc : CInv st Sc Nc S N) (o : Orig)
    (hs : (Sc o.src).isSome = true) (hn : ∀ k, o.name = some k → (Nc k).isSome = true) :
    ∃ g n, trans st.sim st.nim (some o) = some ⟨g, o.line, o.col, n⟩ ∧ S g = Sc o.src ∧ n.map N = o.name.map Nc := by
  obtain ⟨v, hsc⟩ := Option.isSome_iff_exists.1 hs
  obtain ⟨g, g1, g2, _⟩ := hc.src o.src v hsc
  rw [trans_of_some, g1, hsc]
  cases hk : o.name with
  | none => exact ⟨g, none, rfl, g2, rfl⟩
  | some k =>
    obtain ⟨n, hnk⟩ := Option.isSome_iff_exists.1 (hn k hk)
    obtain ⟨g', n1, n2, _⟩ := hc.name k n hnk
    exact ⟨g, some g', by rw [Option.map_some, Option.bind_some, n1], g2, by rw [Option.map_some, Option.map_some, n2, hnk]⟩

/-- one callback of the child, seen from outside the ConcatSource: the tables stay related, and what is delivered reads, with the
ConcatSource's tables, as the event does with the child's — same attribution, well declared, and the same `P` of a mapped chunk -/
theorem concatEv_attrN (cons : Text → Option Text) {P : Text → Option Text → Orig → Prop} (hP : Renumbers P) (st : CSt)
    (S Sc : SrcTbl) (N Nc : NameTbl) (e : Ev) (rest : List Ev)
    (hg : GInv cons st S N) (hc : CInv st Sc Nc S N) (hd : WellDecl cons Sc Nc (e :: rest)) (hTL : e.textless = false) :
    GInv cons (concatEv false st e).1 (tblS S (concatEv false st e).2) (tblN N (concatEv false st e).2)
    ∧ CInv (concatEv false st e).1 (tblS Sc [e]) (tblN Nc [e]) (tblS S (concatEv false st e).2) (tblN N (concatEv false st e).2)
    ∧ WellDecl cons (tblS Sc [e]) (tblN Nc [e]) rest
    ∧ attrN S N (concatEv false st e).2 = attrN Sc Nc [e]
    ∧ (ProvP P Sc [e] → ProvP P S (concatEv false st e).2) := by
  cases e with
  | chunk text m =>
    cases text with
    | none => simp [Ev.textless] at hTL
    | some t =>
      obtain ⟨gl, gc, orig⟩ := m
      obtain ⟨hdm, hdr⟩ := hd
      rw [concatEv_chunk, CSt.pending_of_false hg.nc]
      refine ⟨⟨hg.srcs, hg.names, rfl⟩, ⟨hc.src, hc.name⟩, hdr, ?_⟩
      cases orig with
      | none => exact ⟨rfl, fun _ => ⟨nofun, trivial⟩⟩
      | some o =>
        obtain ⟨g, n, e, r1, r4⟩ := trans_resolve st S Sc N Nc hc o (hdm o rfl).1 (hdm o rfl).2
        rw [e]
        refine ⟨congrArg (fun x => List.replicate t.length (some x) ++ []) (by simp only [resolveO, r1, r4]),
          fun hp => ⟨fun _ h => ?_, trivial⟩⟩
        cases h
        obtain ⟨name, T, p1, p2⟩ := hp.1 o rfl
        exact ⟨name, T, r1.trans p1, hP T _ o g n p2 fun h => by rw [h] at r4; exact Option.map_eq_none_iff.1 r4⟩
  | source i s c =>
    obtain ⟨rfl, hdr⟩ := hd
    have h := Thru.register hg.srcs hc.src s i
    simp only [concatEv, globalSource]
    cases hget : st.sourceMapping.get? s <;> rw [hget] at h
    · exact ⟨⟨h.1, hg.names, hg.nc⟩, ⟨h.2, hc.name⟩, hdr, rfl, fun _ => trivial⟩
    · exact ⟨⟨hg.srcs, hg.names, hg.nc⟩, ⟨h, hc.name⟩, hdr, rfl, fun _ => trivial⟩
  | name i n =>
    have h := Thru.register hg.names hc.name n i
    simp only [concatEv, globalName]
    cases hget : st.nameMapping.get? n <;> rw [hget] at h
    · exact ⟨⟨hg.srcs, h.1, hg.nc⟩, ⟨hc.src, h.2⟩, hd, rfl, fun _ => trivial⟩
    · exact ⟨⟨hg.srcs, hg.names, hg.nc⟩, ⟨hc.src, h⟩, hd, rfl, fun _ => trivial⟩

theorem concatEvs_attrN_wd (cons : Text → Option Text) {P : Text → Option Text → Orig → Prop} (hP : Renumbers P) :
    ∀ (evs : List Ev) (st : CSt) (S Sc : SrcTbl) (N Nc : NameTbl),
    GInv cons st S N → CInv st Sc Nc S N → WellDecl cons Sc Nc evs → evsTL evs = false →
    GInv cons (concatEvs false st evs).1 (tblS S (concatEvs false st evs).2) (tblN N (concatEvs false st evs).2)
    ∧ attrN S N (concatEvs false st evs).2 = attrN Sc Nc evs
    ∧ (ProvP P Sc evs → ProvP P S (concatEvs false st evs).2) := by
  intro evs
  induction evs with
  | nil => intro st S Sc N Nc hg _ _ _; exact ⟨hg, rfl, fun _ => trivial⟩
  | cons e es ih =>
    intro st S Sc N Nc hg hc hd hTL
    simp only [evsTL_cons, Bool.or_eq_false_iff] at hTL
    obtain ⟨a1, a2, a3, a4, a6⟩ := concatEv_attrN cons hP st S Sc N Nc e es hg hc hd hTL.1
    obtain ⟨i1, i2, i4⟩ := ih _ _ _ _ _ a1 a2 a3 hTL.2
    rw [concatEvs_cons, attrN_append, a4, i2, attrN_cons e es, tblS_append, tblN_append, provP_append]
    exact ⟨i1, rfl, fun hp => ⟨a6 ((provP_append P [e] es Sc).1 hp).1, i4 ((provP_append P [e] es Sc).1 hp).2⟩⟩

theorem cinv_fresh (st : CSt) (S : SrcTbl) (N : NameTbl) : CInv { st with sim := [], nim := [], lastMappingLine := 0 } emptyS emptyN S N :=
  ⟨fun _ _ h => (nomatch h), fun _ _ h => (nomatch h)⟩

theorem concatGo_attrN_wd (cons : Text → Option Text) {P : Text → Option Text → Orig → Prop} (hP : Renumbers P) :
    ∀ (children : List SResult) (st : CSt) (S : SrcTbl) (N : NameTbl),
    GInv cons st S N → (∀ c ∈ children, WellDecl cons emptyS emptyN c.evs ∧ evsTL c.evs = false) →
    attrN S N (concatGo false st children).2 = (children.map fun c => attrN emptyS emptyN c.evs).flatten
    ∧ ((∀ c ∈ children, ProvP P emptyS c.evs) → ProvP P S (concatGo false st children).2) := by
  intro children
  induction children with
  | nil => intro st S N _ _; exact ⟨rfl, fun _ => trivial⟩
  | cons c cs ih =>
    intro st S N hg hc
    obtain ⟨hd, hTL⟩ := hc c (by simp)
    have hg0 : GInv cons { st with sim := [], nim := [], lastMappingLine := 0 } S N := ⟨hg.srcs, hg.names, hg.nc⟩
    obtain ⟨a1, a2, a4⟩ := concatEvs_attrN_wd cons hP c.evs _ S emptyS N emptyN hg0 (cinv_fresh st S N) hd hTL
    simp only [concatGo, concatChild, a1.nc, Bool.false_and, Bool.false_eq_true, if_false, List.append_nil, Bool.or_self,
      List.map_cons, List.flatten_cons]
    rw [attrN_append, a2, provP_append]
    -- the first child is done (`a2`, `a4`); what is left is the statement for the other children, from the state and with the tables
    -- the first one leaves: `ih`
    suffices h : _ ∧ (_ → _) from
      ⟨congrArg _ h.1, fun hp => ⟨a4 (hp c List.mem_cons_self), h.2 fun x hx => hp x (List.mem_cons_of_mem _ hx)⟩⟩
    exact ih _ _ _ ⟨a1.srcs, a1.names, rfl⟩ (fun x hx => hc x (List.mem_cons_of_mem _ hx))

theorem ginv_start (cons : Text → Option Text) : GInv cons {} emptyS emptyN :=
  ⟨fun s g h => by simp [Assoc.get?] at h, fun n g h => by simp [Assoc.get?] at h, rfl⟩

/-- **C06 for ConcatSource** (columns = true, normal mode): for children that announce every index before use, deliver text, and
give a shared file name the same content, every byte contributed by child `k` is attributed — file name, content, line, column and
name — exactly as child `k` attributes it on its own, whatever indices the children use and however those collide across children -/
theorem concatStream_attrN (cons : Text → Option Text) (children : List SResult)
    (h : ∀ c ∈ children, WellDecl cons emptyS emptyN c.evs ∧ evsTL c.evs = false) :
    attrN emptyS emptyN (concatStream false children).evs = (children.map fun c => attrN emptyS emptyN c.evs).flatten :=
  (concatGo_attrN_wd cons (P := fun _ _ _ => True) (fun _ _ _ _ _ _ _ => trivial) children {} emptyS emptyN (ginv_start cons) h).1

/-- every file a ConcatSource (either mode) announces was announced, with that content, by a child -/
theorem concatStream_contOK (cons : Text → Option Text) (final : Bool) (children : List SResult) (h : ∀ c ∈ children, ContOK cons c.evs) :
    ContOK cons (concatStream final children).evs :=
  fun _ s x hm => let ⟨c, hc, j, hj⟩ := concatStream_source hm; h c hc j s x hj

/-- what a ConcatSource delivers is again well declared, so the attribution law composes through nesting.  Nothing is asked of the
children's indices: a ConcatSource announces densely whatever its children do (`concatStream_declOK`) -/
theorem concatStream_wellDecl (cons : Text → Option Text) (children : List SResult)
    (h : ∀ c ∈ children, WellDecl cons emptyS emptyN c.evs ∧ evsTL c.evs = false) :
    WellDecl cons emptyS emptyN (concatStream false children).evs :=
  wellDecl_of_declOK cons _ 0 0 _ _ (concatStream_declOK false children) nofun nofun
    (concatStream_contOK cons false children fun c hc => wellDecl_contOK cons _ _ _ (h c hc).1)

end Rs
