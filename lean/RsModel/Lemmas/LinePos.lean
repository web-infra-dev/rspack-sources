import RsModel.Lemmas.Replay
/-!
# Positions and lines

The prefix of a text that reaches position `(l, c)` is "all lines before `l`, then `c` bytes of line `l`" (`prefix_pos` in Replay), so
what follows it starts with the rest of line `l`.  A token (no line break except possibly at its end) that starts there lies inside line `l`.
-/
namespace Rs

theorem take_take_le (T : Text) (a b : Nat) (h : a ≤ b) : (T.take b).take a = T.take a := by
  rw [List.take_take, Nat.min_eq_left h]

theorem prefix_pos_mono (T : Text) (a b : Nat) (h : a ≤ b) : posLe (adv startPos (T.take a)) (adv startPos (T.take b)) := by
  rw [← take_take_le T a b h, ← List.take_append_drop a (T.take b), adv_append, List.take_append_drop]
  exact adv_ge _ _

theorem prefix_pos_strict (T : Text) (a b : Nat) (hab : a < b) (hb : b ≤ T.length) : posLt (adv startPos (T.take a)) (adv startPos (T.take b)) := by
  have := charPos_lt_end' startPos (T.take b) a (by simp; omega)
  rw [take_take_le T a b (by omega)] at this
  exact this

theorem pos_decompose (T : Text) (k : Nat) (hk : k < T.length) (l c : Nat) (hpos : adv startPos (T.take k) = ⟨l, c⟩) :
    1 ≤ l ∧ l ≤ (splitLines T).length ∧ c ≤ width (lineAt (splitLines T) l)
    ∧ T.drop k = (lineAt (splitLines T) l).drop c ++ ((splitLines T).drop l).flatten := by
  obtain ⟨i, c', e, ha, hw⟩ := prefix_pos (lines_of_splitLines T) (T.take k) 1 (by rw [splitLines_join]; exact List.take_prefix _ _)
  obtain ⟨rfl, rfl⟩ := Pos.mk.inj (hpos.symm.trans ha)
  -- a byte follows the prefix, so it does not end after the last line
  have hi : i < (splitLines T).length := Nat.lt_of_not_le fun hge => by
    rw [List.take_of_length_le hge, getD_of_le _ hge, splitLines_join, List.take_nil, List.append_nil] at e
    have := congrArg List.length e
    rw [List.length_take] at this
    omega
  have hsplit := flatten_split (splitLines T) i c
  rw [splitLines_join, ← e] at hsplit
  rw [lineAt, Nat.add_sub_cancel_left, Nat.add_comm 1 i]
  exact ⟨Nat.le_add_left _ _, hi, hw hi, List.append_cancel_left ((List.take_append_drop k T).trans hsplit)⟩

theorem tok_prefix_line (x v R : Text) (hx : TokOK x) (h : x <+: v ++ [NL] ++ R) : x <+: v ++ [NL] := by
  obtain ⟨s, hs, hcase⟩ := hx
  -- `s` is free of line breaks, so it ends before the line break of the line
  have hslen : s.length ≤ v.length := by
    apply Nat.le_of_not_lt
    intro g
    have hsx : s <+: x := by rcases hcase with rfl | rfl; exact List.prefix_refl _; exact List.prefix_append _ _
    obtain ⟨u, hu⟩ := hsx.trans h
    have := congrArg (fun l => l[v.length]?) hu
    simp only [List.append_assoc] at this
    rw [List.getElem?_append_left g, List.getElem?_append_right (Nat.le_refl _), Nat.sub_self] at this
    have h0 : ([NL] ++ R)[0]? = some NL := rfl
    rw [h0] at this
    exact hs _ (List.mem_of_getElem? this) rfl
  refine List.prefix_of_prefix_length_le h (List.prefix_append _ R) ?_
  rcases hcase with rfl | rfl
  · simp only [List.length_append, List.length_singleton]; omega
  · simp only [List.length_append, List.length_singleton]; omega

theorem token_in_line (T : Text) (k : Nat) (hk : k < T.length) (l c : Nat)
    (hpos : adv startPos (T.take k) = ⟨l, c⟩) (x : Text) (hx : TokOK x) (hxp : x <+: T.drop k) :
    1 ≤ l ∧ l ≤ (splitLines T).length ∧ x <+: (lineAt (splitLines T) l).drop c := by
  obtain ⟨h1, h2, h3, h4⟩ := pos_decompose T k hk l c hpos
  refine ⟨h1, h2, ?_⟩
  rw [h4] at hxp
  obtain ⟨⟨s, hs, hcase⟩, _⟩ := lines_get (splitLines T) (lines_of_splitLines T) (l - 1) (by omega)
  rcases hcase with hc | ⟨hlast, hc⟩
  · -- the line ends with a line break
    rw [lineAt, hc] at hxp h3 ⊢
    have hw : width (s ++ [NL]) = s.length := by simp [width, endsWithNL]
    rw [hw] at h3
    have hd : (s ++ [NL]).drop c = s.drop c ++ [NL] := by rw [List.drop_append_of_le_length h3]
    rw [hd] at hxp ⊢
    exact tok_prefix_line x (s.drop c) _ hx hxp
  · -- the last line, without line break: nothing follows it
    have : (splitLines T).drop l = [] := List.drop_eq_nil_of_le (by omega)
    rw [this] at hxp
    simpa using hxp

end Rs
