import RsModel.Lemmas.RopeObs
/-!
# `Rope::starts_with` is `isPrefixOf` on the flat strings (all four representation pairs)

`startsWith_spec` is the theorem; `swLightFull_spec`, `swFullLight_spec` and `swFullFull_spec` are the loops of the pairs that have one,
the last by induction on the fuel, for which the pieces and bytes left on the rope's side are enough.
-/
namespace Rs
namespace Rope

theorem isPrefixOf_append (x y r : Text) : (x ++ y).isPrefixOf r = (x.isPrefixOf r && y.isPrefixOf (r.drop x.length)) := by
  induction x generalizing r with
  | nil => simp
  | cons a x ih =>
    cases r with
    | nil => simp [List.isPrefixOf]
    | cons b r => simp [List.isPrefixOf, ih, Bool.and_assoc]

theorem isPrefixOf_nil_right (x : Text) : x.isPrefixOf [] = x.isEmpty := by cases x <;> rfl

theorem swLightFull_spec : ∀ (os : List (Text × Nat)) (rem : Text), swLightFull rem os = (flat os).isPrefixOf rem := by
  intro os
  induction os with
  | nil => intro rem; simp [swLightFull, flat]
  | cons p rest ih =>
    intro rem
    obtain ⟨c, o⟩ := p
    rw [flat_cons, isPrefixOf_append]
    unfold swLightFull
    by_cases h : c.isPrefixOf rem = true
    · simp [h, ih]
    · simp [h]

theorem prefix_cases (ro c rest : Text) :
    ro.isPrefixOf (c ++ rest) = (ro.isPrefixOf c || (c.isPrefixOf ro && (ro.drop c.length).isPrefixOf rest)) := by
  induction c generalizing ro with
  | nil => cases ro <;> simp [List.isPrefixOf]
  | cons a c ih =>
    cases ro with
    | nil => simp [List.isPrefixOf]
    | cons b ro =>
      simp only [List.cons_append, List.isPrefixOf, List.length_cons, List.drop_succ_cons, ih]
      by_cases hab : b = a
      · subst hab; simp
      · have h1 : (b == a) = false := by simpa using hab
        have h2 : (a == b) = false := by simpa using fun e : a = b => hab e.symm
        simp [h1, h2]

theorem swFullLight_spec : ∀ (ps : List (Text × Nat)) (ro : Text), swFullLight ps ro = ro.isPrefixOf (flat ps) := by
  intro ps
  induction ps with
  | nil => intro ro; simp [swFullLight, flat, isPrefixOf_nil_right]
  | cons p rest ih =>
    intro ro
    obtain ⟨c, o⟩ := p
    rw [flat_cons, prefix_cases]
    unfold swFullLight
    by_cases h0 : ro.isEmpty = true
    · have : ro = [] := by simpa using h0
      subst this; simp
    · simp only [h0, Bool.false_eq_true, if_false]
      by_cases h1 : ro.isPrefixOf c = true
      · simp [h1]
      · simp only [h1, Bool.false_eq_true, if_false, Bool.false_or]
        by_cases h2 : c.isPrefixOf ro = true
        · simp [h2, ih]
        · simp [h2]

theorem nextNonEmpty_spec (os : List (Text × Nat)) :
    (nextNonEmpty os = none ∧ flat os = []) ∨ ∃ c os', nextNonEmpty os = some (c, os') ∧ c ≠ [] ∧ flat os = c ++ flat os' := by
  induction os with
  | nil => exact .inl ⟨rfl, rfl⟩
  | cons p rest ih =>
    obtain ⟨d, o⟩ := p
    rw [nextNonEmpty]
    by_cases hd : d = []
    · subst hd; exact ih
    · rw [if_neg (by simpa using hd)]
      exact .inr ⟨d, rest, rfl, hd, flat_cons _ _ _⟩

theorem isPrefixOf_append_same (u v x y : Text) (h : u.length = v.length) :
    (u ++ x).isPrefixOf (v ++ y) = (u == v && x.isPrefixOf y) := by
  induction u generalizing v with
  | nil =>
    cases v with
    | nil => simp
    | cons _ _ => cases h
  | cons a u ih =>
    cases v with
    | nil => cases h
    | cons b v => simp [List.isPrefixOf, ih v (Nat.succ.inj h), Bool.and_assoc]

theorem isPrefixOf_take_drop (ro rs O S : Text) {n : Nat} (hs : n ≤ rs.length) (ho : n ≤ ro.length) :
    (ro ++ O).isPrefixOf (rs ++ S) = (rs.take n == ro.take n && (ro.drop n ++ O).isPrefixOf (rs.drop n ++ S)) := by
  rw [append_take_drop ro O n, append_take_drop rs S n,
    isPrefixOf_append_same _ _ _ _ ((List.length_take_of_le ho).trans (List.length_take_of_le hs).symm), Bool.beq_comm]

def bytesOf (ps : List (Text × Nat)) : Nat := total ps

/-- the `while remaining_other.is_empty()` refill, with the current piece `ro` of the argument -/
theorem refill_spec (ro : Text) (os : List (Text × Nat)) :
    ((if ro.isEmpty then nextNonEmpty os else some (ro, os)) = none ∧ ro ++ flat os = [])
    ∨ ∃ ro' os', (if ro.isEmpty then nextNonEmpty os else some (ro, os)) = some (ro', os') ∧ ro' ≠ [] ∧ ro ++ flat os = ro' ++ flat os' := by
  by_cases he : ro = []
  · subst he; exact nextNonEmpty_spec os
  · rw [if_neg (by simpa using he)]
    exact .inr ⟨ro, os, rfl, he, rfl⟩

theorem ite_bne_false (u v : Text) (x : Bool) : (if u != v then false else x) = (u == v && x) := by
  cases h : u == v <;> simp [bne, h]

theorem length_drop_append (u v : Text) {n : Nat} (h : n ≤ u.length) : n + (u.drop n ++ v).length = (u ++ v).length := by
  rw [List.length_append, List.length_append, List.length_drop, ← Nat.add_assoc, Nat.add_sub_cancel' h]

/-- `k` pieces and `y` bytes are left, `n` bytes are consumed, leaving `x`: the fuel lasts if it exceeds what was left, or
covers it and a byte has gone -/
theorem fuel_dec {k x y n fuel : Nat} (hL : n + x = y) (h : k + y < fuel ∨ 1 ≤ n ∧ k + y ≤ fuel) : k + x < fuel := by omega

/-- The rope side alone bounds the number of rounds: a round fetches a piece of the rope or, the current pieces of both
sides being non-empty, consumes a byte of it. -/
theorem swFullFull_spec : ∀ (fuel : Nat) (rs ro : Text) (ss os : List (Text × Nat)),
    ss.length + (rs ++ flat ss).length < fuel →
    swFullFull fuel rs ro ss os = (ro ++ flat os).isPrefixOf (rs ++ flat ss) := by
  intro fuel
  induction fuel with
  | zero => intro rs ro ss os h; exact absurd h (Nat.not_lt_zero _)
  | succ fuel ih =>
    intro rs ro ss os hf
    unfold swFullFull
    rcases refill_spec ro os with ⟨hO, e⟩ | ⟨ro', os', hO, o1, o2⟩
    · rw [hO, e]; rfl
    · rw [hO, o2]
      simp only
      -- the comparison of the common part, for whatever piece `rs'` of the rope is current
      have step : ∀ (rs' : Text) (ss' : List (Text × Nat)),
          (ss'.length + (rs' ++ flat ss').length < fuel ∨ rs' ≠ [] ∧ ss'.length + (rs' ++ flat ss').length ≤ fuel) →
          (if rs'.take (min rs'.length ro'.length) != ro'.take (min rs'.length ro'.length) then false
            else swFullFull fuel (rs'.drop (min rs'.length ro'.length)) (ro'.drop (min rs'.length ro'.length)) ss' os')
            = (ro' ++ flat os').isPrefixOf (rs' ++ flat ss') := by
        intro rs' ss' hm
        have hs := Nat.min_le_left rs'.length ro'.length
        have hn : rs' ≠ [] → 1 ≤ min rs'.length ro'.length := fun h =>
          Nat.le_min.2 ⟨List.length_pos_iff.mpr h, List.length_pos_iff.mpr o1⟩
        rw [isPrefixOf_take_drop ro' rs' (flat os') (flat ss') hs (Nat.min_le_right _ _), ite_bne_false,
          ih _ _ _ _ (fuel_dec (length_drop_append rs' (flat ss') hs) (hm.imp_right (And.imp_left hn)))]
      by_cases hrs : rs = []
      · subst hrs
        cases ss with
        | nil =>
          -- the rope is used up, the argument is not
          cases ro' with
          | nil => exact absurd rfl o1
          | cons b t => rfl
        | cons p ss' =>
          obtain ⟨c, o⟩ := p
          simp only [List.nil_append, flat_cons, List.length_cons] at hf
          simp only [List.isEmpty_nil, if_true, List.nil_append, flat_cons]
          exact step c ss' (.inl (by omega))
      · simp only [List.isEmpty_iff, hrs, if_false]
        exact step rs ss (.inr ⟨hrs, Nat.le_of_lt_succ hf⟩)

theorem startsWith_spec (r v : Rope) : r.startsWith v = v.render.isPrefixOf r.render := by
  cases r with
  | light s =>
    cases v with
    | light o => rfl
    | full os => exact swLightFull_spec os s
  | full ps =>
    cases v with
    | light o => exact swFullLight_spec ps o
    | full os =>
      simp only [startsWith, render_full]
      rw [swFullFull_spec _ [] [] ps os (by rw [List.nil_append, flat_length, total]; omega)]
      simp

end Rope
end Rs
