import RsModel.Lemmas.StrictIn
/-!
# The strictly increasing case in its own words (C11, map clause)

`Inc T lo hi evs`: the chunks of `evs`, in delivery order, stand at the positions of characters `k₁ < k₂ < …` of `T`, all in
`[lo, hi)` — `IncS 1` of StrictIn.lean (`incS_one`).  It is kept by the encoder's selection (a sublist); so the segments `map()`
writes for a tree whose attached maps are strictly sorted are strictly increasing, each before the end of `source()`.
-/
namespace Rs

def IncP (T : Text) : Nat → Nat → List (Nat × Nat) → Prop
  | _, _, [] => True
  | lo, hi, p :: ps => ∃ k, lo ≤ k ∧ k < hi ∧ adv startPos (T.take k) = ⟨p.1, p.2⟩ ∧ IncP T (k + 1) hi ps

def Inc (T : Text) (lo hi : Nat) (evs : List Ev) : Prop := IncP T lo hi (posOf evs)

theorem incS_one (T : Text) : ∀ (ps : List (Nat × Nat)) (lo hi : Nat), IncS 1 T lo hi ps ↔ IncP T lo hi ps := by
  intro ps
  induction ps with
  | nil => intro _ _; exact Iff.rfl
  | cons p ps ih =>
    intro lo hi
    exact exists_congr fun k => and_congr_right fun _ => and_congr_right fun _ => and_congr_right fun _ => ih _ _

theorem incP_sublist (T : Text) : ∀ (ps qs : List (Nat × Nat)), qs.Sublist ps → ∀ (lo hi : Nat), IncP T lo hi ps → IncP T lo hi qs :=
  fun ps qs h lo hi hp => (incS_one T qs lo hi).1 (incS_sublist 1 T ps qs h lo hi ((incS_one T ps lo hi).2 hp))

theorem incP_lower (T : Text) (ps : List (Nat × Nat)) (lo hi : Nat) (hp : IncP T lo hi ps) :
    ∀ p ∈ ps, ∃ k, lo ≤ k ∧ k < hi ∧ adv startPos (T.take k) = ⟨p.1, p.2⟩ :=
  incS_lower 1 T ps lo hi ((incS_one T ps lo hi).2 hp)

instance : DecidableRel mlt := fun a b => by unfold mlt; infer_instance

theorem incP_pairwise (T : Text) : ∀ (ps : List (Nat × Nat)) (lo hi : Nat), hi ≤ T.length → IncP T lo hi ps → ps.Pairwise plt := by
  intro ps
  induction ps with
  | nil => intro _ _ _ _; exact List.Pairwise.nil
  | cons q qs ih =>
    intro lo hi hh h
    obtain ⟨k, a1, a2, a3, a4⟩ := h
    refine List.Pairwise.cons ?_ (ih _ _ hh a4)
    intro p hp
    obtain ⟨k', b1, b2, b3⟩ := incP_lower T qs _ _ a4 p hp
    have := prefix_pos_strict T k k' (by omega) (by omega)
    rw [a3, b3] at this
    exact this

theorem inc_noChunk (T : Text) (lo hi : Nat) (evs : List Ev) (h : ∀ e ∈ evs, e.isChunk = false) : Inc T lo hi evs := by
  unfold Inc posOf; rw [chunkMs_noChunk evs h]; trivial

inductive IncAll : List SResult → List Text → Prop where
  | nil : IncAll [] []
  | cons (r : SResult) (T : Text) (rs : List SResult) (Ts : List Text) : FinOK T r → IncP T 0 T.length (posOf r.evs) → IncAll rs Ts → IncAll (r :: rs) (T :: Ts)

theorem IncAllS.incAll {cs : List SResult} {Ts : List Text} (h : IncAllS 1 cs Ts) : IncAll cs Ts := by
  induction h with
  | nil => exact .nil
  | cons r T rs Ts hf hi _ ih => exact .cons r T rs Ts hf ((incS_one _ _ _ _).1 hi) ih

theorem Src.incC : ∀ (s : Src), s.ModeHypC → s.StrictMaps → s.ids.Nodup → ∀ (σ : Store), Cold σ s.ids →
    Inc s.src 0 s.src.length (s.stream ⟨true, true⟩ σ).1.evs :=
  fun s h hs hn σ hc => (incS_one _ _ _ _).1 (Src.incSC 1 s h (fun _ => hs) hn σ hc)

theorem SrcList.incsC : ∀ (l : SrcList), l.ModeHypsC → l.StrictMapsL → l.idsL.Nodup → ∀ (σ : Store), Cold σ l.idsL →
    IncAll (l.streams ⟨true, true⟩ σ).1 l.srcList :=
  fun l h hs hn σ hc => (SrcList.incsSC 1 l h (fun _ => hs) hn σ hc).incAll

end Rs
