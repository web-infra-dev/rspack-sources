import RsModel.Lemmas.WarmTree
import RsModel.Spec.RootCalls
import RsModel.Lemmas.ReplayMap
/-!
# Call histories on a CachedSource wrapper itself: `map()` and `stream_chunks` share one cache entry (C10)

An outside caller can call `map(columns)` and `stream_chunks(columns)` (always `final_source = false`) on the wrapper and on its
clones; both use the entry keyed `(columns, false)`.  Whichever call comes first fills it: `map()` stores the wrapped source's own
map, `stream_chunks` stores the map re-encoded from the streamed chunks.  Later `map()` calls return the entry, later
`stream_chunks` calls replay the text through it.  For columns = true and a cache-free wrapped tree: in every history, of any
length, every stream attributes every byte exactly as the wrapped source's stream does, and every `map()` returns one of the two
maps, each of which resolves every position exactly as that stream does.

First what a call leaves in the entry (`Src.cached_map_fills`) and what the entry then replays: the attribution of the stream it
was built from, if that stream stands for the wrapped source's normal-mode stream (`M3.replay_attr`); a fill by streaming and a
fill by `map()` are its two instances, for any store (`Src.replay_stream_attr`, `Src.replay_map_attr`: the two-call theorems of
C10 are these).  Then one call on the wrapper with the column setting, the two fills and the property wanted of a stream answer
as variables (`rootCall2_entry`), and the induction over a history with the run function as a variable (`run_answers`): the
histories of RootHistoryL and RootNested are instances too.
-/
namespace Rs

/-- the wrapped source's own map (what `map()` stores) and the map re-encoded from its normal-mode stream (what streaming stores) -/
def mapFill (inner : Src) : Option SMap := (getMap inner ⟨true, false⟩ []).1
def streamFill (inner : Src) : Option SMap := mapOfEvs true (inner.stream ⟨true, false⟩ []).1.evs

def RootInv (id : Nat) (inner : Src) (σ : Store) : Prop :=
  σ.get? (rootKey id) = none ∨ σ.get? (rootKey id) = some (mapFill inner) ∨ σ.get? (rootKey id) = some (streamFill inner)

structure RootHyp (inner : Src) : Prop where
  nc : inner.NoCached
  mode : inner.ModeHypC
  ascii : IsAscii inner.src
  len : inner.src.length ≤ USIZE_MAX
  smallF : ∀ m ∈ chunkMs (inner.stream ⟨true, true⟩ []).1.evs, m.small
  smallN : ∀ m ∈ chunkMs (inner.stream ⟨true, false⟩ []).1.evs, m.small
  /-- the wrapped source's `map()` is `get_map` (OriginalSource, ConcatSource, ReplaceSource with replacements, combined SourceMapSource) -/
  isGetMap : ∀ σ, inner.map ⟨true, false⟩ σ = getMap inner ⟨true, false⟩ σ

theorem Src.cached_map_fills (id : Nat) (inner : Src) (o : Opts) (σ : Store) (h : σ.get? (id, o) = none) (hf : id ∉ inner.ids)
    (hg : inner.map o σ = getMap inner o σ) :
    ((Src.cached id inner).map o σ).1 = (getMap inner o σ).1
    ∧ ((Src.cached id inner).map o σ).2.get? (id, o) = some (getMap inner o σ).1 := by
  rw [Src.cached_map_cold id inner o σ h, hg]
  exact ⟨rfl, insertNew_self _ _ _ (by rw [getMap, Src.stream_store_other inner _ σ _ hf]; exact h)⟩

/-- **the entry replays the attribution of the stream it stands for** (columns = true).  The entry is the map of a stream `F` that
meets the two text-less contracts and stands for the normal-mode stream `N` of the text as T3 says (`M3`); a call that finds it
replays the text through it.  C08 (the splitter attributes like a lookup) ∘ C12 (`decode ∘ encode` keeps what lookup sees) on
`F` (`M3.map_attr`); when nothing was mapped the raw replay maps nothing either. -/
theorem M3.replay_attr {F N : SResult} {T : Text} (m : M3 F N T) (hp : PosOK N) (hT : ChunksTok N.evs) (hTL : evsTL N.evs = false)
    (hx : evsText N.evs = T) (hf : FinOK T F) (hst : StrictK T F.evs) (ha : IsAscii T) (hl : T.length ≤ USIZE_MAX)
    (hsmall : ∀ m ∈ chunkMs F.evs, m.small) :
    attrOf (match mapOfEvs true F.evs with
      | some m => streamSM T m ⟨true, false⟩
      | none => streamRaw T ⟨true, false⟩).evs = attrOf N.evs := by
  cases hm : mapOfEvs true F.evs with
  | some sm =>
    obtain ⟨s1, s2⟩ := stored_domain T _ m.sorted hsmall (final_segOK T F hf hst) sm (mapOfEvs_mappings _ sm hm)
    exact (streamSMFull_attr T sm ha hl s1 s2).trans ((m.map_attr hp hT hTL hx hsmall).1 sm hm)
  | none => exact (attrOf_streamRaw T true).trans ((m.map_attr hp hT hTL hx hsmall).2 hm).symm

/-- the entry a stream leaves, for any store on which the stream reports true positions: a normal-mode stream meets the text-less
contracts and stands for itself -/
theorem Src.replay_stream_attr (s : Src) (σ : Store) (hw : s.WF) (hp : PosOK (s.stream ⟨true, false⟩ σ).1) (ha : IsAscii s.src)
    (hl : s.src.length ≤ USIZE_MAX) (hsmall : ∀ m ∈ chunkMs (s.stream ⟨true, false⟩ σ).1.evs, m.small) :
    attrOf (match mapOfEvs true (s.stream ⟨true, false⟩ σ).1.evs with
      | some m => streamSM s.src m ⟨true, false⟩
      | none => streamRaw s.src ⟨true, false⟩).evs = attrOf (s.stream ⟨true, false⟩ σ).1.evs := by
  have htl := Src.stream_tl s true σ
  rw [← Src.stream_text s true σ hw] at ha hl ⊢
  exact (M3.same _ hp htl).replay_attr hp (Src.stream_tok s true σ) htl rfl (finOK_of_posOK _ hp htl)
    (strictK_normal _ hp htl (Src.stream_mappedNE' s true σ)) ha hl hsmall

/-- the entry `map()` leaves — `get_map`'s result, built from the text-less stream — for a tree of the domain of C03 on cold
caches: T3 (`Src.m3c`) says that stream stands for the normal-mode one, C11 (`Src.strictC`) that its mapped chunks sit on characters -/
theorem Src.replay_map_attr (s : Src) (h : s.ModeHypC) (hn : s.ids.Nodup) (σF σN : Store) (hcF : Cold σF s.ids) (hcN : Cold σN s.ids)
    (ha : IsAscii s.src) (hl : s.src.length ≤ USIZE_MAX) (hsmall : ∀ m ∈ chunkMs (s.stream ⟨true, true⟩ σF).1.evs, m.small) :
    attrOf (match (getMap s ⟨true, false⟩ σF).1 with
      | some m => streamSM s.src m ⟨true, false⟩
      | none => streamRaw s.src ⟨true, false⟩).evs = attrOf (s.stream ⟨true, false⟩ σN).1.evs := by
  have b := Src.base_factsC s h hn σF σN hcF hcN
  simp only [getMap]
  exact (Src.m3c s h hn σF σN hcF hcN).replay_attr b.pos b.tok b.tl b.text b.fin (Src.strictC s h hn σF hcF) ha hl hsmall

theorem replay_fill_attr (inner : Src) (h : RootHyp inner) (e : Option SMap) (he : e = mapFill inner ∨ e = streamFill inner) :
    attrOf (match e with
      | some m => streamSM inner.src m ⟨true, false⟩
      | none => streamRaw inner.src ⟨true, false⟩).evs = attrOf (inner.stream ⟨true, false⟩ []).1.evs := by
  have hn := Src.nc_nodup inner h.nc
  have hcold : Cold [] inner.ids := cold_nil _
  rcases he with rfl | rfl
  · exact Src.replay_map_attr inner h.mode hn [] [] hcold hcold h.ascii h.len h.smallF
  · exact Src.replay_stream_attr inner [] (Src.modeHypC_base inner h.mode).1 (Src.base_factsC inner h.mode hn [] [] hcold hcold).pos
      h.ascii h.len h.smallN

/-- one call with column setting `c` on the wrapper.  While the entry is absent a stream of the wrapped tree delivers `R` and its
`get_map` returns `mF` (the caller's invariant says why); afterwards the entry holds `mF` or the map built from `R`.  `map()`
answers with one of the two; a stream with `R` or the replay of one of the two, so with something that satisfies `G` whenever
those three do -/
theorem rootCall2_entry (id : Nat) (inner : Src) (c : Bool) (hf : id ∉ inner.ids)
    (hg : ∀ σ, inner.map ⟨c, false⟩ σ = getMap inner ⟨c, false⟩ σ) (σ : Store) (k : RCall) (R : SResult) (mF : Option SMap)
    (hi : (σ.get? (id, ⟨c, false⟩) = none ∧ (inner.stream ⟨c, false⟩ σ).1 = R ∧ (getMap inner ⟨c, false⟩ σ).1 = mF)
      ∨ σ.get? (id, ⟨c, false⟩) = some mF ∨ σ.get? (id, ⟨c, false⟩) = some (mapOfEvs c R.evs))
    (G : SResult → Prop) (hR : G R)
    (hG : ∀ e, e = mF ∨ e = mapOfEvs c R.evs → G (match e with
      | some m => streamSM inner.src m ⟨c, false⟩
      | none => streamRaw inner.src ⟨c, false⟩)) :
    ((rootCall2 id inner (c, k) σ).2.get? (id, ⟨c, false⟩) = some mF
      ∨ (rootCall2 id inner (c, k) σ).2.get? (id, ⟨c, false⟩) = some (mapOfEvs c R.evs))
    ∧ (match (rootCall2 id inner (c, k) σ).1 with
       | .stream r => G r
       | .map m => m = mF ∨ m = mapOfEvs c R.evs) := by
  cases k with
  | stream =>
    simp only [rootCall2]
    rcases hi with ⟨h0, hR', _⟩ | h1 | h2
    · refine ⟨Or.inr ?_, ?_⟩
      · rw [Src.cached_stream_fills id inner _ σ h0 hf, hR']
      · rw [Src.cached_stream_cold id inner _ σ h0, hR']; exact hR
    · rw [Src.cached_stream_hit id inner _ σ _ h1]
      exact ⟨Or.inl h1, hG _ (Or.inl rfl)⟩
    · rw [Src.cached_stream_hit id inner _ σ _ h2]
      exact ⟨Or.inr h2, hG _ (Or.inr rfl)⟩
  | map =>
    simp only [rootCall2]
    rcases hi with ⟨h0, _, hM⟩ | h1 | h2
    · obtain ⟨a1, a2⟩ := Src.cached_map_fills id inner _ σ h0 hf (hg σ)
      rw [a1, a2, hM]
      exact ⟨Or.inl rfl, Or.inl rfl⟩
    · rw [Src.cached_map_hit id inner _ σ _ h1]
      exact ⟨Or.inl h1, Or.inl rfl⟩
    · rw [Src.cached_map_hit id inner _ σ _ h2]
      exact ⟨Or.inr h2, Or.inr rfl⟩

theorem rootInv_step (id : Nat) (inner : Src) (h : RootHyp inner) (σ : Store) (hi : RootInv id inner σ) (c : RCall) :
    RootInv id inner (rootCall id inner c σ).2
    ∧ (match (rootCall id inner c σ).1 with
       | .stream r => attrOf r.evs = attrOf (inner.stream ⟨true, false⟩ []).1.evs
       | .map m => m = mapFill inner ∨ m = streamFill inner) := by
  have e : rootCall id inner c σ = rootCall2 id inner (true, c) σ := by cases c <;> rfl
  have hf : id ∉ inner.ids := Src.nc_ids inner h.nc ▸ List.not_mem_nil
  rw [e]
  exact (rootCall2_entry id inner true hf h.isGetMap σ c (inner.stream ⟨true, false⟩ []).1 (mapFill inner)
    (hi.imp_left fun h0 => ⟨h0, (Src.stream_nc inner _ σ h.nc).2, by rw [getMap_nc inner h.nc]; rfl⟩)
    (fun r => attrOf r.evs = attrOf (inner.stream ⟨true, false⟩ []).1.evs) rfl (replay_fill_attr inner h)).imp_left Or.inr

/-- a history of calls threading the store: what a step keeps (`Inv`) and what it makes true of its answer (`P`) hold along
every history.  `run` is any of `runRoot`, `runRootL`, `runRoot2`, `runRoot3`, given by its two equations. -/
theorem run_answers {C A : Type} (run : List C → Store → List A × Store) (ans : C → Store → A) (next : C → Store → Store)
    (hnil : ∀ σ, (run [] σ).1 = []) (hcons : ∀ c cs σ, (run (c :: cs) σ).1 = ans c σ :: (run cs (next c σ)).1)
    (Inv : Store → Prop) (P : A → Prop) (hstep : ∀ c σ, Inv σ → Inv (next c σ) ∧ P (ans c σ)) :
    ∀ (calls : List C) (σ : Store), Inv σ → ∀ a ∈ (run calls σ).1, P a := by
  intro calls
  induction calls with
  | nil => intro σ _ a ha; rw [hnil] at ha; cases ha
  | cons c cs ih =>
    intro σ hi a ha
    obtain ⟨s1, s2⟩ := hstep c σ hi
    rw [hcons, List.mem_cons] at ha
    rcases ha with rfl | ha
    · exact s2
    · exact ih _ s1 a ha

theorem runRoot_answers (id : Nat) (inner : Src) (h : RootHyp inner) : ∀ (calls : List RCall) (σ : Store), RootInv id inner σ →
    ∀ a ∈ (runRoot id inner calls σ).1,
      (match a with
       | .stream r => attrOf r.evs = attrOf (inner.stream ⟨true, false⟩ []).1.evs
       | .map m => m = mapFill inner ∨ m = streamFill inner) :=
  run_answers (runRoot id inner) (fun c σ => (rootCall id inner c σ).1) (fun c σ => (rootCall id inner c σ).2)
    (fun _ => rfl) (fun _ _ _ => rfl) (RootInv id inner) _ (fun c σ hi => rootInv_step id inner h σ hi c)

theorem fills_resolve (inner : Src) (h : RootHyp inner) (m : Option SMap) (hm : m = mapFill inner ∨ m = streamFill inner) :
    (∀ sm, m = some sm → attrFrom (decode sm.mappings) startPos inner.src = attrOf (inner.stream ⟨true, false⟩ []).1.evs)
    ∧ (m = none → attrOf (inner.stream ⟨true, false⟩ []).1.evs = List.replicate inner.src.length none) := by
  have hn := Src.nc_nodup inner h.nc
  have hcold : Cold [] inner.ids := cold_nil _
  rcases hm with rfl | rfl
  · exact getMap_attrC inner h.mode hn [] [] hcold hcold false h.smallF
  · have b := Src.base_factsC inner h.mode hn [] [] hcold hcold
    exact b.text ▸ (M3.same _ b.pos b.tl).map_attr b.pos b.tok b.tl rfl h.smallN

end Rs
