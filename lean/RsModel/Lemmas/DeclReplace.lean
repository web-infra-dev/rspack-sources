import RsModel.Lemmas.DeclConcat
import RsModel.Lemmas.ReplaceWalk
/-! # DeclOK for ReplaceSource: sources pass through, names are renumbered densely -/
namespace Rs

/-- `DInv` for ReplaceSource, which renumbers names only: its name-keyed table is dense at the `nn` names announced, and the translation
of the inner stream's name indices points at announced ones -/
structure RD (st : RSt) (nn : Nat) : Prop where
  nmap : Dense st.nameMapping nn
  nim : ∀ g ∈ st.nim, g < nn

def SrcLt (ns : Nat) (o : Option Orig) : Prop := ∀ x, o = some x → x.src < ns

/-- the invariant of the walk: what has been delivered for this inner chunk announces no source and is well announced, and the
name-keyed table is dense at the name count it has reached -/
structure NStep (ns nn : Nat) (evs : List Ev) (nm : Assoc) : Prop where
  decl : DeclOK ns nn evs
  noS : cntS evs = 0
  dense : Dense nm (nn + cntN evs)

theorem NStep.append {ns nn : Nat} {a b : List Ev} {nm1 nm2 : Assoc} (h1 : NStep ns nn a nm1) (h2 : NStep ns (nn + cntN a) b nm2) :
    NStep ns nn (a ++ b) nm2 :=
  ⟨(declOK_append a b ns nn).2 ⟨h1.decl, h1.noS.symm ▸ h2.decl⟩, by rw [cntS_append, h1.noS, h2.noS],
    by rw [cntN_append, ← Nat.add_assoc]; exact h2.dense⟩

theorem NStep.chunk {ns nn : Nat} {acc : List Ev} {nm : Assoc} (h : NStep ns nn acc nm) {t : Option Text} {mm : Mapping}
    (hm : ∀ o, mm.orig = some o → IdxLt ns (nn + cntN acc) o) : NStep ns nn (acc ++ [.chunk t mm]) nm :=
  h.append ⟨⟨hm, trivial⟩, rfl, h.dense⟩

theorem nim_lookup {nim : List Nat} {nn : Nat} (hr : ∀ g ∈ nim, g < nn) {n : Option Nat} {k : Nat}
    (hk : (n.bind fun n => nim[n]?) = some k) : k < nn := by
  cases n with
  | none => cases hk
  | some n0 => exact hr k (List.mem_of_getElem? hk)

/-- a chunk delivered under the walker's location with another name index points into an announced source, since the inner chunk does -/
theorem decl_walkOK {ns nn : Nat} {st0 : RSt} {chunk : Text} {m : Mapping} (hm : SrcLt ns m.orig) (hnim : ∀ g ∈ st0.nim, g < nn) :
    WalkOK st0 chunk m (NStep ns nn) where
  slice := fun _ _ _ _ _ _ _ _ _ hw h => h.chunk fun y hy => by
    obtain ⟨o, rfl, rfl⟩ := Option.map_eq_some_iff.1 hy
    exact ⟨hw.of_orig (fun _ _ h => h) hm o rfl, fun k hk => Nat.lt_add_right _ (nim_lookup hnim hk)⟩
  name := fun _ nm n h =>
    have ⟨a, b, c, _⟩ := globalName_dense nm n ns _ h.dense
    h.append ⟨a, b, c⟩
  line := fun _ _ _ _ _ _ _ _ _ _ _ _ hw hidx h => h.chunk fun y hy => by
    obtain ⟨o, rfl, rfl⟩ := Option.map_eq_some_iff.1 hy
    refine ⟨hw.of_orig (fun _ _ h => h) hm o rfl, fun k hk => ?_⟩
    rcases hidx k hk with hk | ⟨n, _, hk⟩
    · exact Nat.lt_add_right _ (nim_lookup hnim hk)
    · exact h.dense.val n k hk

theorem rOnChunk_decl (ns nn : Nat) (st : RSt) (chunk : Text) (m : Mapping) (hr : RD st nn) (hm : SrcLt ns m.orig) :
    DeclOK ns nn (rOnChunk st chunk m).2 ∧ cntS (rOnChunk st chunk m).2 = 0 ∧ RD (rOnChunk st chunk m).1 (nn + cntN (rOnChunk st chunk m).2) := by
  obtain ⟨a, _, hn⟩ := rOnChunk_walk st chunk m (decl_walkOK hm hr.nim) ⟨trivial, rfl, hr.nmap⟩
  exact ⟨a.decl, a.noS, a.dense, hn ▸ bound_mono hr.nim _⟩

theorem rEvs_decl : ∀ (evs : List Ev) (ns nni nn : Nat) (st : RSt), DeclOK ns nni evs → RD st nn →
    DeclOK ns nn (rEvs st evs).2 ∧ cntS (rEvs st evs).2 = cntS evs ∧ RD (rEvs st evs).1 (nn + cntN (rEvs st evs).2) := by
  intro evs
  induction evs with
  | nil => intro ns nni nn st _ hr; exact ⟨trivial, rfl, hr⟩
  | cons e es ih =>
    intro ns nni nn st hd hr
    rw [rEvs, declOK_append, cntS_append, cntN_append, ← Nat.add_assoc]
    cases e with
    | chunk text m =>
      obtain ⟨a, b, c⟩ := rOnChunk_decl ns nn st (text.getD []) m hr (fun x hx => (hd.1 x hx).1)
      obtain ⟨i1, i2, i3⟩ := ih ns nni _ _ hd.2 c
      exact ⟨⟨a, b.symm ▸ i1⟩, by rw [rEv, b, i2]; exact Nat.zero_add _, i3⟩
    | source i s c =>
      obtain ⟨i1, i2, i3⟩ := ih (ns + 1) nni nn { st with contents := lmInsert none st.contents i c } hd.2 ⟨hr.nmap, hr.nim⟩
      exact ⟨⟨⟨hd.1, trivial⟩, i1⟩, (congrArg (cntS [Ev.source i s c] + ·) i2).trans (Nat.add_comm _ _), i3⟩
    | name i n =>
      obtain ⟨g1, g2, g3, g5⟩ := globalName_dense st.nameMapping n ns nn hr.nmap
      obtain ⟨i1, i2, i3⟩ := ih ns (nni + 1) _ { st with nameMapping := (globalName st.nameMapping n).1, nim := lmInsert 0 st.nim i (globalName st.nameMapping n).2.2 }
        hd.2 ⟨g3, lmInsert_bound _ _ _ _ (bound_mono hr.nim _) g5⟩
      exact ⟨⟨g1, g2.symm ▸ i1⟩, by rw [rEv, g2, i2]; exact Nat.zero_add _, i3⟩

theorem rRemainder_origs (P : Orig → Prop) (gcInfo : Nat) (cls : List Text) (st : RSt) (line : Int) :
    ChunkOrigs P (rRemainder gcInfo cls st line).2.1 := by
  intro e he
  obtain ⟨_, _, _, _, rfl⟩ := rRemainder_evs _ _ _ _ e he
  exact ⟨_, _, rfl, nofun⟩

theorem replaceStream_declOK (sorted : List Repl) (inner : SResult) (h : DeclOK 0 0 inner.evs) : DeclOK 0 0 (replaceStream sorted inner).evs :=
  replaceStream_ind sorted inner fun _ _ _ _ => (declOK_append ..).2
    ⟨(rEvs_decl inner.evs 0 0 0 { rest := sorted } h ⟨Dense.nil, fun _ hg => nomatch hg⟩).1, declOK_chunks _ _ _ (rRemainder_origs _ _ _ _ _)⟩

end Rs
