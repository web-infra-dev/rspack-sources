import RsModel.Spec.Attr
/-! # What holds of the three lookups (`lookupGo`, `lookupCols`, `lookupLines`) and of `sortedFrom` on any list of mappings -/
namespace Rs

theorem lookupGo_append (l c : Nat) (acc : Option (Option Orig)) (a b : List Mapping) :
    lookupGo l c acc (a ++ b) = lookupGo l c (lookupGo l c acc a) b := by
  induction a generalizing acc with
  | nil => rfl
  | cons m ms ih => simp only [List.cons_append, lookupGo, ih]

theorem lookupGo_skip (l c : Nat) : ∀ (ms : List Mapping) (acc : Option (Option Orig)), (∀ m ∈ ms, ¬ (m.gl = l ∧ m.gc ≤ c)) → lookupGo l c acc ms = acc := by
  intro ms
  induction ms with
  | nil => intro acc _; rfl
  | cons m ms ih =>
    intro acc h
    simp only [lookupGo, h m (by simp), if_false]
    exact ih acc (fun x hx => h x (by simp [hx]))

theorem lookupGo_filter (l c : Nat) (p : Mapping → Bool) (ms : List Mapping) : ∀ (acc : Option (Option Orig)),
    (∀ m ∈ ms, m.gl = l ∧ m.gc ≤ c → p m = true) → lookupGo l c acc (ms.filter p) = lookupGo l c acc ms := by
  induction ms with
  | nil => intro _ _; rfl
  | cons m ms ih =>
    intro acc h
    have ih := fun acc => ih acc fun x hx => h x (List.mem_cons_of_mem _ hx)
    by_cases hp : p m = true
    · rw [List.filter_cons_of_pos hp, lookupGo, lookupGo, ih]
    · rw [List.filter_cons_of_neg hp, lookupGo, if_neg (fun hm => hp (h m List.mem_cons_self hm)), ih]

theorem lookupGo_const (l c0 c : Nat) (hc : c0 ≤ c) : ∀ (ms : List Mapping) (acc : Option (Option Orig)), (∀ m ∈ ms, m.gl = l → m.gc ≤ c0) →
    lookupGo l c acc ms = lookupGo l c0 acc ms := by
  intro ms
  induction ms with
  | nil => intro acc _; rfl
  | cons m ms ih =>
    intro acc h
    simp only [lookupGo]
    have : (m.gl = l ∧ m.gc ≤ c) ↔ (m.gl = l ∧ m.gc ≤ c0) := by
      constructor
      · rintro ⟨h1, _⟩; exact ⟨h1, h m (by simp) h1⟩
      · rintro ⟨h1, h2⟩; exact ⟨h1, by omega⟩
    simp only [this]
    exact ih _ (fun x hx => h x (by simp [hx]))

theorem lookupGo_unmapped (l c : Nat) : ∀ (ms : List Mapping) (acc : Option (Option Orig)), (∀ m ∈ ms, m.orig = none) → acc.join = none →
    (lookupGo l c acc ms).join = none := by
  intro ms
  induction ms with
  | nil => intro acc _ h; exact h
  | cons m ms ih =>
    intro acc h ha
    simp only [lookupGo]
    apply ih _ (fun x hx => h x (by simp [hx]))
    split
    · simp [h m (by simp)]
    · exact ha

theorem lookupGo_acc (l c : Nat) : ∀ (ms : List Mapping) (acc : Option (Option Orig)),
    lookupGo l c acc ms = match lookupGo l c none ms with | some x => some x | none => acc := by
  intro ms
  induction ms with
  | nil => intro acc; rfl
  | cons m ms ih =>
    intro acc
    simp only [lookupGo]
    by_cases hm : m.gl = l ∧ m.gc ≤ c
    · rw [if_pos hm, if_pos hm, ih (some m.orig)]
      cases lookupGo l c none ms <;> rfl
    · rw [if_neg hm, if_neg hm]
      exact ih acc

theorem lookupGo_some_of_match (l c : Nat) (ms : List Mapping) (acc : Option (Option Orig)) :
    (∃ m ∈ ms, m.gl = l ∧ m.gc ≤ c) → lookupGo l c acc ms ≠ none := by
  intro ⟨m, hm, hmatch⟩
  obtain ⟨A, B, rfl⟩ := List.append_of_mem hm
  rw [lookupGo_append, lookupGo, if_pos hmatch, lookupGo_acc]
  cases lookupGo l c none B <;> simp

theorem lookupGo_map (l c : Nat) (f : Option Orig → Option Orig) : ∀ (ms : List Mapping) (acc : Option (Option Orig)),
    lookupGo l c (acc.map f) (ms.map fun m => ⟨m.gl, m.gc, f m.orig⟩) = (lookupGo l c acc ms).map f := by
  intro ms
  induction ms with
  | nil => intro acc; rfl
  | cons m ms ih =>
    intro acc
    simp only [List.map_cons, lookupGo]
    rw [← ih]
    congr 1
    split <;> rfl

theorem lookupGo_split (L C : Nat) : ∀ (ms : List Mapping) (k : Nat) (acc : Option (Option Orig)), (∀ m ∈ ms, m.gl = L) → k ≤ ms.length →
    (∀ i, i < k → (ms.getD i default).gc ≤ C) → (∀ i, k ≤ i → i < ms.length → C < (ms.getD i default).gc) →
    lookupGo L C acc ms = if k = 0 then acc else some (ms.getD (k - 1) default).orig
  | ms, 0, acc, _, _, _, hhi => lookupGo_skip L C ms acc fun m hm hq => by
    obtain ⟨i, hi, rfl⟩ := List.getElem_of_mem hm
    have := hhi i (Nat.zero_le _) hi
    rw [List.getD_eq_getElem?_getD, List.getElem?_eq_getElem hi] at this
    exact absurd hq.2 (Nat.not_le.2 this)
  | [], k + 1, _, _, hk, _, _ => absurd hk (Nat.not_succ_le_zero k)
  | m :: ms, k + 1, acc, hl, hk, hlo, hhi => by
    -- `(m :: ms).getD (i + 1)` is `ms.getD i` by definition: the two bounds pass to the tail as they stand
    rw [lookupGo, if_pos ⟨hl m List.mem_cons_self, hlo 0 (Nat.succ_pos k)⟩,
      lookupGo_split L C ms k _ (fun x hx => hl x (List.mem_cons_of_mem _ hx)) (Nat.le_of_succ_le_succ hk)
        (fun i hi => hlo (i + 1) (Nat.succ_lt_succ hi)) (fun i h1 hi => hhi (i + 1) (Nat.succ_le_succ h1) (Nat.succ_lt_succ hi))]
    cases k <;> rfl

theorem lookupLines_cons (m : Mapping) (ms : List Mapping) (L : Nat) :
    lookupLines (m :: ms) L = if m.gl = L ∧ m.orig.isSome = true then m.orig.map (fun o => (o.src, o.line)) else lookupLines ms L := by
  unfold lookupLines
  simp only [List.find?_cons]
  by_cases h : m.gl = L ∧ m.orig.isSome = true
  · simp [h]
  · have : (m.gl == L && m.orig.isSome) = false := by simpa using h
    simp [this, h]

theorem lookupLines_nil (L : Nat) : lookupLines [] L = none := rfl

theorem lookupLines_none (L : Nat) (a : List Mapping) (h : ∀ m ∈ a, ¬ (m.gl = L ∧ m.orig.isSome = true)) : lookupLines a L = none := by
  unfold lookupLines
  rw [List.find?_eq_none.2 fun m hm => by simpa using h m hm]

theorem lookupLines_some (ms : List Mapping) (L si ol : Nat) (h : lookupLines ms L = some (si, ol)) :
    ∃ m a, m ∈ ms ∧ m.gl = L ∧ m.orig = some a ∧ a.src = si ∧ a.line = ol := by
  unfold lookupLines at h
  cases hf : ms.find? (fun m => m.gl == L && m.orig.isSome) with
  | none => rw [hf] at h; cases h
  | some m =>
    rw [hf] at h
    obtain ⟨a, ho, e⟩ := Option.map_eq_some_iff.1 h
    cases e
    have hp := List.find?_some hf
    simp only [Bool.and_eq_true, beq_iff_eq] at hp
    exact ⟨m, a, List.mem_of_find?_eq_some hf, hp.1, ho, rfl, rfl⟩

theorem lookupLines_append (L : Nat) (a b : List Mapping) :
    lookupLines (a ++ b) L = match lookupLines a L with | some x => some x | none => lookupLines b L := by
  unfold lookupLines
  rw [List.find?_append]
  cases h : a.find? fun m => m.gl == L && m.orig.isSome with
  | none => rfl
  | some m =>
    have hm := List.find?_some h
    obtain ⟨o, ho⟩ := Option.isSome_iff_exists.1 (Bool.and_eq_true_iff.1 hm).2
    simp only [Option.some_or, ho, Option.map_some]

theorem lookupLines_skip (L : Nat) (a b : List Mapping) (h : ∀ m ∈ a, ¬ (m.gl = L ∧ m.orig.isSome = true)) :
    lookupLines (a ++ b) L = lookupLines b L := by
  rw [lookupLines_append, lookupLines_none L a h]

theorem lookupLines_append_none (L : Nat) (a b : List Mapping) (h : ∀ m ∈ b, ¬ (m.gl = L ∧ m.orig.isSome = true)) :
    lookupLines (a ++ b) L = lookupLines a L := by
  rw [lookupLines_append, lookupLines_none L b h]
  cases lookupLines a L <;> rfl

theorem lookupLines_cons_of_ne (m : Mapping) (ms : List Mapping) (l : Nat) (h : m.gl ≠ l ∨ m.orig = none) :
    lookupLines (m :: ms) l = lookupLines ms l := by
  rw [lookupLines_cons, if_neg]
  rcases h with h | h <;> simp [h]

/-- renumbering the lines and the sources of the mappings renumbers the answer -/
theorem lookupLines_map (f : Mapping → Mapping) (g : Nat × Nat → Nat × Nat) (L L' : Nat) : ∀ (ms : List Mapping),
    (∀ m ∈ ms, ((f m).gl = L ↔ m.gl = L') ∧ (f m).orig.map (fun o => (o.src, o.line)) = (m.orig.map fun o => (o.src, o.line)).map g) →
    lookupLines (ms.map f) L = (lookupLines ms L').map g
  | [], _ => rfl
  | m :: ms, h => by
    obtain ⟨h1, h2⟩ := h m List.mem_cons_self
    have h3 : (f m).orig.isSome = m.orig.isSome := by simpa using congrArg Option.isSome h2
    rw [List.map_cons, lookupLines_cons, lookupLines_cons, lookupLines_map f g L L' ms fun x hx => h x (List.mem_cons_of_mem _ hx), h2, h3,
      apply_ite (Option.map g)]
    simp only [h1]

theorem sortedFrom_of_le (l c l' c' : Nat) (h : l < l' ∨ (l = l' ∧ c ≤ c')) : ∀ (ms : List Mapping), sortedFrom l' c' ms → sortedFrom l c ms
  | [], _ => trivial
  | m :: _, ⟨h1, h2⟩ => ⟨by omega, h2⟩

theorem sortedFrom_all : ∀ (ms : List Mapping) (l c : Nat), sortedFrom l c ms → ∀ x ∈ ms, l < x.gl ∨ (l = x.gl ∧ c ≤ x.gc)
  | m :: ms, l, c, ⟨h1, h2⟩, x, hx => by
    rcases List.mem_cons.1 hx with rfl | hx
    · exact h1
    · exact sortedFrom_all ms l c (sortedFrom_of_le l c m.gl m.gc h1 ms h2) x hx

theorem sortedFrom_snoc (x : Mapping) : ∀ (ms : List Mapping) (l c : Nat), sortedFrom l c ms →
    (∀ m ∈ ms, m.gl < x.gl ∨ (m.gl = x.gl ∧ m.gc ≤ x.gc)) → (l < x.gl ∨ (l = x.gl ∧ c ≤ x.gc)) → sortedFrom l c (ms ++ [x])
  | [], _, _, _, _, h => ⟨h, trivial⟩
  | m :: ms, _, _, ⟨h1, h2⟩, hm, _ =>
    ⟨h1, sortedFrom_snoc x ms m.gl m.gc h2 (fun y hy => hm y (List.mem_cons_of_mem _ hy)) (hm m List.mem_cons_self)⟩

end Rs
