import RsModel.Lemmas.RopePos
/-!
# Rope: the binary searches of `get_byte` / `get_byte_slice_impl` find the piece an offset lies in

`bsLoop` is std's branch-free `binary_search_by`.  For a comparison that is monotone over the list (never `gt`
before a position where it is not `gt`) it returns the LAST index whose comparison is not `gt` (or 0).  On the
recorded offsets of a rope that is a position of the searched offset (`startChunk_spec`, `endChunk_spec`).
-/
namespace Rs
namespace Rope

theorem half_facts {size fuel : Nat} (hs : size > 1) (hf : size ≤ fuel + 1) :
    1 ≤ size - size / 2 ∧ size - size / 2 ≤ fuel ∧ size / 2 ≤ size - size / 2 ∧ size / 2 + (size - size / 2) = size := by
  omega

theorem bsLoop_spec {α} (f : α → Ordering) (xs : List α) (d : α)
    (hmono : ∀ i j, i ≤ j → j < xs.length → f (xs.getD j d) ≠ .gt → f (xs.getD i d) ≠ .gt) :
    ∀ (fuel base size : Nat), 1 ≤ size → base + size ≤ xs.length → size ≤ fuel →
      (base = 0 ∨ f (xs.getD base d) ≠ .gt) →
      (∀ j, base + size ≤ j → j < xs.length → f (xs.getD j d) = .gt) →
      bsLoop f xs d fuel base size < xs.length
      ∧ (bsLoop f xs d fuel base size = 0 ∨ f (xs.getD (bsLoop f xs d fuel base size) d) ≠ .gt)
      ∧ (∀ j, bsLoop f xs d fuel base size < j → j < xs.length → f (xs.getD j d) = .gt) := by
  intro fuel base size
  fun_induction bsLoop f xs d fuel base size with
  | case1 => intro h1 _ h3; exact absurd (Nat.le_trans h1 h3) (Nat.not_succ_le_zero 0)
  | case2 fuel base size hs half mid base' ih =>
    intro _ h2 h3 hb hgt
    obtain ⟨p1, p2, p3, p4⟩ := half_facts hs h3
    by_cases hc : f (xs.getD mid d) = .gt
    · -- the middle compares `gt`, and so does everything after it
      rw [show base' = base from if_pos (beq_iff_eq.2 hc)] at ih ⊢
      refine ih p1 (Nat.le_trans (Nat.add_le_add_left (Nat.sub_le _ _) _) h2) p2 hb fun j hj hjl => ?_
      exact Decidable.byContradiction fun hne =>
        hmono _ j (Nat.le_trans (Nat.add_le_add_left p3 base) hj) hjl hne hc
    · rw [show base' = mid from if_neg (mt beq_iff_eq.1 hc)] at ih ⊢
      have e : mid + (size - half) = base + size := by rw [Nat.add_assoc, p4]
      exact ih p1 (e ▸ h2) p2 (Or.inr hc) fun j hj hjl => hgt j (e ▸ hj) hjl
  | case3 fuel base size hs =>
    intro h1 h2 _ hb hgt
    obtain rfl : size = 1 := Nat.le_antisymm (Nat.le_of_not_lt hs) h1
    exact ⟨h2, hb, hgt⟩

/-- Where `binary_search_by(|x| key(x).cmp(&i))` lands on a non-empty list whose `k`-th key is `g k`, for a monotone `g`:
with `r` the last index whose key is `≤ i`, it is `Ok r` when that key is `i` and `Err (r + 1)` otherwise; when every key
exceeds `i` it is `Err 0`. -/
theorem binSearch_key {α} [Inhabited α] (key : α → Nat) (g : Nat → Nat) (xs : List α) (i : Nat) (hne : xs ≠ [])
    (hkey : ∀ k, k < xs.length → key (xs.getD k default) = g k) (hg : ∀ a b, a ≤ b → b < xs.length → g a ≤ g b) :
    ∃ r, r < xs.length ∧ (∀ j, r < j → j < xs.length → i < g j)
      ∧ (g r = i ∧ binSearch (fun p => compare (key p) i) xs = .inl r
        ∨ g r < i ∧ binSearch (fun p => compare (key p) i) xs = .inr (r + 1)
        ∨ i < g r ∧ r = 0 ∧ binSearch (fun p => compare (key p) i) xs = .inr 0) := by
  have hlen : 0 < xs.length := List.length_pos_iff.mpr hne
  have hm : ∀ a b, a ≤ b → b < xs.length → compare (key (xs.getD b default)) i ≠ .gt →
      compare (key (xs.getD a default)) i ≠ .gt := by
    intro a b hab hb
    rw [hkey a (Nat.lt_of_le_of_lt hab hb), hkey b hb, Nat.compare_ne_gt, Nat.compare_ne_gt]
    exact Nat.le_trans (hg a b hab hb)
  obtain ⟨r1, r2, r3⟩ := bsLoop_spec (fun p => compare (key p) i) xs default hm xs.length 0 xs.length hlen
    (Nat.le_of_eq (Nat.zero_add _)) (Nat.le_refl _) (Or.inl rfl) fun j hj hjl => absurd hjl (Nat.not_lt.2 (Nat.zero_add xs.length ▸ hj))
  simp only [binSearch, if_neg (Nat.ne_of_gt hlen)]
  generalize bsLoop (fun p => compare (key p) i) xs default xs.length 0 xs.length = r at *
  refine ⟨r, r1, fun j hj hjl => hkey j hjl ▸ Nat.compare_eq_gt.1 (r3 j hj hjl), ?_⟩
  simp only [hkey r r1] at r2 ⊢
  cases hc : compare (g r) i with
  | lt => exact .inr (.inl ⟨Nat.compare_eq_lt.1 hc, rfl⟩)
  | eq => exact .inl ⟨Nat.compare_eq_eq.1 hc, rfl⟩
  | gt =>
    obtain rfl : r = 0 := r2.resolve_right fun hn => hn hc
    exact .inr (.inr ⟨Nat.compare_eq_gt.1 hc, rfl, rfl⟩)

theorem end_eq (ps : List (Text × Nat)) (h : OffsOK 0 ps) (k : Nat) (hk : k < ps.length) :
    (ps.getD k default).2 + (ps.getD k default).1.length = total (ps.take (k + 1)) := by
  rw [start_eq ps h k hk, total_take_succ ps k hk]

/-- `start_chunk_index`: `i` lies in the piece found, the LAST one that begins at or before `i`; so `i` is not at its end
unless it is the end of the text. -/
theorem startChunk_spec (ps : List (Text × Nat)) (h : OffsOK 0 ps) (hne : ps ≠ []) (i : Nat) (hi : i ≤ total ps) :
    ∃ j, At ps (startChunk ps i) j i ∧ (i < total ps → j < (ps.getD (startChunk ps i) default).1.length) := by
  obtain ⟨r, hr, hgt, hcase⟩ := binSearch_key (fun p => p.2) (fun k => total (ps.take k)) ps i hne (start_eq ps h)
    fun a b hab _ => total_take_le ps a b hab
  have hk : startChunk ps i = r ∧ total (ps.take r) ≤ i := by
    rcases hcase with ⟨e, hs⟩ | ⟨e, hs⟩ | ⟨e, r0, _⟩
    · exact ⟨by simp only [startChunk, hs], Nat.le_of_eq e⟩
    · exact ⟨by simp only [startChunk, hs, Nat.add_sub_cancel], Nat.le_of_lt e⟩
    · -- the first piece starts at 0
      subst r0; exact absurd e (Nat.not_lt_zero i)
  -- the next piece, if there is one, begins after `i`
  have hnext : i ≤ total (ps.take (r + 1)) ∧ (i < total ps → i < total (ps.take (r + 1))) := by
    by_cases hl : r + 1 < ps.length
    · have := hgt (r + 1) (Nat.lt_succ_self r) hl
      exact ⟨Nat.le_of_lt this, fun _ => this⟩
    · rw [total_take_all ps _ (Nat.le_of_not_lt hl)]; exact ⟨hi, id⟩
  rw [hk.1]
  exact ⟨_, At.of_bounds hr hk.2 hnext.1, fun hlt => Nat.sub_lt_left_of_lt_add hk.2 (total_take_succ ps r hr ▸ hnext.2 hlt)⟩

/-- `end_chunk_index`: `b` lies in the piece found, the first one that ends at or after `b` -/
theorem endChunk_spec (ps : List (Text × Nat)) (h : OffsOK 0 ps) (hne : ps ≠ []) (b : Nat) (hb : b ≤ total ps) :
    ∃ j, At ps (endChunk ps b) j b := by
  obtain ⟨r, hr, hgt, hcase⟩ := binSearch_key (fun p => p.2 + p.1.length) (fun k => total (ps.take (k + 1))) ps b hne
    (end_eq ps h) fun a b hab _ => total_take_le ps _ _ (Nat.succ_le_succ hab)
  rcases hcase with ⟨e, hs⟩ | ⟨e, hs⟩ | ⟨e, r0, hs⟩
  · simp only [endChunk, hs]
    exact ⟨_, At.of_bounds hr (e ▸ total_take_le ps r (r + 1) (Nat.le_succ r)) (Nat.le_of_eq e.symm)⟩
  · simp only [endChunk, hs]
    -- `r` is not the last piece, whose end is the total length
    have hr' : r + 1 < ps.length := Nat.lt_of_not_le fun hn =>
      Nat.lt_irrefl b (Nat.lt_of_le_of_lt hb (total_take_all ps (r + 1) hn ▸ e))
    exact ⟨_, At.of_bounds hr' (Nat.le_of_lt e) (Nat.le_of_lt (hgt (r + 1) (Nat.lt_succ_self r) hr'))⟩
  · subst r0
    simp only [endChunk, hs]
    exact ⟨_, At.of_bounds hr (Nat.zero_le b) (Nat.le_of_lt e)⟩

/-- **`get_byte(i)` is the `i`-th byte of the flat string** (never panics under the invariant) -/
theorem getByte_spec (r : Rope) (hinv : r.Inv) (i : Nat) : getByte r i = .ok (r.render[i]?) := by
  have hlen := len_eq_render r hinv
  unfold getByte
  by_cases hi : i ≥ r.len
  · rw [if_pos hi, List.getElem?_eq_none (by omega)]
  · rw [if_neg hi]
    cases r with
    | light s =>
      have : i < s.length := Nat.lt_of_not_le hi
      simp only [render, List.getElem?_eq_getElem this]
    | full ps =>
      have hne : ps ≠ [] := by rintro rfl; exact hi (Nat.zero_le _)
      have hi' : i < total ps := by rw [← endOf_total ps hinv]; exact Nat.lt_of_not_le hi
      obtain ⟨j, hat, hj⟩ := startChunk_spec ps hinv hne i (Nat.le_of_lt hi')
      simp only [hat.get hinv, if_neg (Nat.not_lt.2 (hat.off ▸ Nat.le_add_right _ _)), hat.sub]
      rw [render_full, hat.getElem? (hj hi'), List.getElem?_eq_getElem (hj hi')]

end Rope
end Rs
