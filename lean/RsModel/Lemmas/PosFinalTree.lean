import RsModel.Lemmas.PosFinalLeaves
import RsModel.Lemmas.PosTree
/-!
# final-mode contract: ConcatSource and whole trees

`FinOK T r` (PosFinal) is the contract.  `FinAll rs Ts`: the streams `rs` meet it, one by one, for the texts `Ts`; then ConcatSource
meets it for `Ts.flatten` in either mode (`concatStream_finOK`, `concatNode_finOK`).  `SrcList.srcList` lists the texts of the children
of a node, `StoreHypB` is `StoreHyp` of PosTree for entries of either mode, and `Src.stream_finOK` is the theorem for trees.
-/
namespace Rs

theorem isPos_mono (A B : Text) (p : Pos) (h : IsPos A p) : IsPos (A ++ B) p := by
  obtain ⟨k, hk, he⟩ := h
  exact ⟨k, by simp; omega, by rw [List.take_append_of_le_length hk]; exact he⟩

theorem isPos_shift (gpre Tc : Text) (P : Pos) (hP : adv startPos gpre = P) (l c : Nat) (h : IsPos Tc ⟨l, c⟩) :
    IsPos (gpre ++ Tc) ⟨l + P.line - 1, if l = 1 then c + P.col else c⟩ := by
  obtain ⟨k, hk, he⟩ := h
  refine ⟨gpre.length + k, by simp; omega, ?_⟩
  rw [List.take_length_add_append, adv_append, hP, adv_shift _ P, he]

theorem isPos_keys_append {G : Text} {a b : List Ev} (ha : ∀ k ∈ evsKeys a, IsPos G ⟨k.2.1, k.2.2⟩) (hb : ∀ k ∈ evsKeys b, IsPos G ⟨k.2.1, k.2.2⟩) :
    ∀ k ∈ evsKeys (a ++ b), IsPos G ⟨k.2.1, k.2.2⟩ := fun k hk => by
  rw [evsKeys_append, List.mem_append] at hk
  exact hk.elim (ha k) (hb k)

theorem isPos_pending {st : CSt} {gpre : Text} (hr : FRel st (adv startPos gpre)) (Tc : Text) (off : Bool) :
    ∀ k ∈ evsKeys (st.pending off), IsPos (gpre ++ Tc) ⟨k.2.1, k.2.2⟩ := by
  intro k hk
  unfold CSt.pending at hk
  split at hk
  · rw [List.mem_singleton.1 hk, hr.1, hr.2]; exact isPos_prefix gpre Tc
  · cases hk

theorem concatEv_fin (final : Bool) (st : CSt) (gpre Tc : Text) (hr : FRel st (adv startPos gpre)) (e : Ev)
    (hpos : ∀ k ∈ evsKeys [e], IsPos Tc ⟨k.2.1, k.2.2⟩) : ∀ k ∈ evsKeys (concatEv final st e).2, IsPos (gpre ++ Tc) ⟨k.2.1, k.2.2⟩ := by
  cases e with
  | chunk text m =>
    rw [concatEv_chunk]
    refine isPos_keys_append (isPos_pending hr Tc _) fun k hk => ?_
    have := isPos_shift gpre Tc _ rfl m.gl m.gc (hpos (text, m.gl, m.gc) List.mem_cons_self)
    rw [← hr.1, ← hr.2, Nat.add_succ_sub_one] at this
    rw [List.mem_singleton.1 hk]
    simpa only [beq_iff_eq] using this
  | source i s c => intro k hk; rw [concatEv_source, evsKeys_noChunk (globalSource_anns _ _ _)] at hk; cases hk
  | name i n => intro k hk; rw [concatEv_name, evsKeys_noChunk (globalName_anns _ _)] at hk; cases hk

theorem concatEvs_fin (final : Bool) (gpre Tc : Text) : ∀ (evs : List Ev) (st : CSt), FRel st (adv startPos gpre) →
    (∀ k ∈ evsKeys evs, IsPos Tc ⟨k.2.1, k.2.2⟩) → ∀ k ∈ evsKeys (concatEvs final st evs).2, IsPos (gpre ++ Tc) ⟨k.2.1, k.2.2⟩
  | [], _, _, _ => nofun
  | e :: es, st, hr, hpos => by
    rw [← List.singleton_append, evsKeys_append] at hpos
    rw [concatEvs_cons]
    exact isPos_keys_append (concatEv_fin final st gpre Tc hr e fun k hk => hpos k (List.mem_append_left _ hk))
      (concatEvs_fin final gpre Tc es _ (hr.concatEv final e) fun k hk => hpos k (List.mem_append_right _ hk))

theorem concatChild_fin (final : Bool) (st : CSt) (gpre Tc : Text) (child : SResult) (hr : FRel st (adv startPos gpre)) (hc : FinOK Tc child) :
    (∀ k ∈ evsKeys (concatChild final st child).2, IsPos (gpre ++ Tc) ⟨k.2.1, k.2.2⟩)
    ∧ FRel (concatChild final st child).1 (adv startPos (gpre ++ Tc)) := by
  have hr0 : FRel (childStart st) (adv startPos gpre) := hr
  refine ⟨?_, hr.concatChild final hc.2⟩
  rw [concatChild_eq]
  exact isPos_keys_append (concatEvs_fin final gpre Tc child.evs _ hr0 hc.1) (isPos_pending (hr0.concatEvs final _) Tc _)

/-- the streams meet the final-mode contract for the texts, one by one -/
inductive FinAll : List SResult → List Text → Prop where
  | nil : FinAll [] []
  | cons (r : SResult) (T : Text) (rs : List SResult) (Ts : List Text) : FinOK T r → FinAll rs Ts → FinAll (r :: rs) (T :: Ts)

theorem concatGo_fin (final : Bool) : ∀ (children : List SResult) (Ts : List Text), FinAll children Ts → ∀ (st : CSt) (gpre : Text),
    FRel st (adv startPos gpre) →
    (∀ k ∈ evsKeys (concatGo final st children).2, IsPos (gpre ++ Ts.flatten) ⟨k.2.1, k.2.2⟩)
    ∧ FRel (concatGo final st children).1 (adv startPos (gpre ++ Ts.flatten)) := by
  intro children Ts h
  induction h with
  | nil => intro st gpre hr; exact ⟨fun k hk => by simp [concatGo, evsKeys] at hk, by simpa [concatGo] using hr⟩
  | cons r T rs Ts hr hrs ih =>
    intro st gpre hrel
    obtain ⟨a, b⟩ := concatChild_fin final st gpre T r hrel hr
    obtain ⟨i1, i2⟩ := ih (concatChild final st r).1 (gpre ++ T) b
    simp only [concatGo, List.flatten_cons]
    rw [← List.append_assoc]
    exact ⟨isPos_keys_append (fun k hk => isPos_mono _ _ _ (a k hk)) i1, i2⟩

/-- **ConcatSource, either mode**: every reported position is a position of the concatenated text, and the end
information is its end -/
theorem concatStream_finOK (final : Bool) (children : List SResult) (Ts : List Text) (h : FinAll children Ts) :
    FinOK Ts.flatten (concatStream final children) := by
  obtain ⟨a, b1, b2⟩ := concatGo_fin final children Ts h {} [] ⟨rfl, rfl⟩
  simp only [List.nil_append] at a b1 b2
  refine ⟨a, ?_⟩
  simp only [concatStream]
  rw [b1, b2]

theorem concatNode_finOK (final : Bool) : ∀ {rs : List SResult} {Ts : List Text}, FinAll rs Ts → FinOK Ts.flatten (concatNode final rs)
  | _, _, .cons r T _ _ hr .nil => by rw [List.flatten_cons, List.flatten_nil, List.append_nil]; exact hr
  | _, _, .nil => concatStream_finOK final _ _ .nil
  | _, _, .cons _ _ _ _ hr (.cons _ _ _ _ hr2 hrs) => concatStream_finOK final _ _ (.cons _ _ _ _ hr (.cons _ _ _ _ hr2 hrs))


/-- as `StoreHyp`, for cache entries of either mode -/
def StoreHypB (c : Bool) (σ : Store) (nodes : List (Nat × Src)) : Prop :=
  ∀ p ∈ nodes, ∀ f m, σ.get? (p.1, ⟨c, f⟩) = some (some m) → c = true → MapInside p.2.src m

theorem storeHypB_normal (c : Bool) (σ : Store) (nodes : List (Nat × Src)) (h : StoreHypB c σ nodes) : StoreHyp c σ nodes :=
  fun p hp m hm hc => h p hp false m hm hc

theorem StoreHypB.after {c : Bool} {σ : Store} {nodes : List (Nat × Src)} (h : StoreHypB c σ nodes) (s : Src) (o : Opts)
    (hd : ∀ a ∈ s.ids, ∀ b ∈ nodes.map (·.1), a ≠ b) : StoreHypB c (s.stream o σ).2 nodes := by
  intro p hp f m hm
  rw [Src.stream_store_other s o σ _ (fun hmem => hd p.1 hmem p.1 (List.mem_map_of_mem hp) rfl)] at hm
  exact h p hp f m hm

def SrcList.srcList : SrcList → List Text
  | .nil => []
  | .cons s r => s.src :: r.srcList

theorem SrcList.srcList_flatten : ∀ (l : SrcList), l.srcList.flatten = l.srcs
  | .nil => rfl
  | .cons s r => by simp [SrcList.srcList, SrcList.srcs, SrcList.srcList_flatten r]

mutual
/-- **C02 for every tree, text-less mode**: every reported position is a position of `source()`, and the returned
generated info is the position after its last character (the same the normal mode returns) -/
theorem Src.stream_finOK : ∀ (s : Src) (c : Bool) (σ : Store), s.WF → s.PosHyp c → s.ids.Nodup → StoreHypB c σ s.cachedNodes →
    FinOK s.src (s.stream ⟨c, true⟩ σ).1
  | .raw _ _ lossy | .rawBuf _ lossy => fun c _ _ _ _ _ => streamRaw_finOK lossy c
  | .rawStr t => fun c _ _ _ _ _ => streamRaw_finOK t c
  | .orig t name => fun c _ _ _ _ _ => streamOriginal_finOK t name c
  | .sms t name map origSrc inner remove => fun c _ _ hp _ _ => by
    have hsm := streamSM_finOK t map c hp.1 hp.2.1 hp.2.2
    cases inner with
    | none => exact hsm
    | some im => exact streamCombined_finOK t map name origSrc im remove c hsm
  | .concat cs => fun c σ hw hp hn hs => by
    have := concatNode_finOK true (SrcList.streams_finOK cs c σ hw hp hn hs)
    rw [SrcList.srcList_flatten] at this
    rw [Src.concat_stream]
    exact this
  | .replace inner rs => fun c σ hw hp hn hs => by
    -- a ReplaceSource streams the same way in both modes (its child is always streamed with text)
    have := finOK_of_posOK _ (Src.stream_posOK (.replace inner rs) c σ hw hp hn (storeHypB_normal c σ _ hs))
      (Src.stream_tl (.replace inner rs) c σ)
    rw [Src.stream_text (.replace inner rs) c σ hw] at this
    exact this
  | .cached id inner => fun c σ hw hp hn hs => by
    cases hg : Store.get? σ (id, ⟨c, true⟩) with
    | none =>
      rw [Src.cached_stream_cold id inner _ σ hg]
      exact Src.stream_finOK inner c σ hw.1 hp.1 (List.nodup_cons.1 hn).2 (fun p hpm => hs p (List.mem_cons_of_mem _ hpm))
    | some v =>
      rw [Src.cached_stream_hit id inner _ σ v hg]
      cases v with
      | none => exact streamRaw_finOK inner.src c
      | some m => exact streamSM_finOK inner.src m c hp.2.1 hp.2.2 (fun hc => hs (id, inner) List.mem_cons_self true m hg hc)
theorem SrcList.streams_finOK : ∀ (l : SrcList) (c : Bool) (σ : Store), l.WFs → l.PosHyps c → l.idsL.Nodup → StoreHypB c σ l.cachedNodesL →
    FinAll (l.streams ⟨c, true⟩ σ).1 l.srcList
  | .nil => fun _ _ _ _ _ _ => FinAll.nil
  | .cons s rest => fun c σ hw hp hn hs => by
    simp only [SrcList.idsL, SrcList.cachedNodesL, List.map_append] at hn hs
    obtain ⟨hn1, hn2, hdisj⟩ := List.nodup_append.1 hn
    exact FinAll.cons _ _ _ _ (Src.stream_finOK s c σ hw.1 hp.1 hn1 (fun p hp => hs p (List.mem_append_left _ hp)))
      (SrcList.streams_finOK rest c _ hw.2 hp.2 hn2 (StoreHypB.after (fun p hp => hs p (List.mem_append_right _ hp)) s _ hdisj))
end

end Rs
