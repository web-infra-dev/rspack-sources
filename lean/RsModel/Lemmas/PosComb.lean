import RsModel.Lemmas.PosSM
import RsModel.Lemmas.TextComposite
/-! # C02 for a SourceMapSource with inner map: chunk positions are passed through unchanged -/
namespace Rs

/-- what `posOKT` looks at -/
def Ev.key : Ev → Option (Option Text × Nat × Nat)
  | .chunk t m => some (t, m.gl, m.gc)
  | _ => none

def evsKeys (evs : List Ev) : List (Option Text × Nat × Nat) := evs.filterMap Ev.key

theorem evsKeys_append (a b : List Ev) : evsKeys (a ++ b) = evsKeys a ++ evsKeys b := by simp [evsKeys]
theorem evsKeys_nil : evsKeys [] = [] := rfl
theorem evsKeys_chunk (t : Option Text) (m : Mapping) : evsKeys [Ev.chunk t m] = [(t, m.gl, m.gc)] := rfl

theorem mem_keys (evs : List Ev) (t : Option Text) (m : Mapping) (h : Ev.chunk t m ∈ evs) : (t, m.gl, m.gc) ∈ evsKeys evs := by
  unfold evsKeys
  exact List.mem_filterMap.2 ⟨_, h, rfl⟩

theorem evsKeys_noChunk {evs : List Ev} (h : ∀ e ∈ evs, e.isChunk = false) : evsKeys evs = [] := by
  refine List.filterMap_eq_nil_iff.2 fun e he => ?_
  cases e with
  | chunk t m => exact absurd (h _ he) (by simp [Ev.isChunk])
  | source i s c => rfl
  | name i n => rfl

/-- the position contract looks at the texts and places of the chunks only: the events may be rebuilt from their keys -/
theorem posOKT_ofKeys : ∀ (a : List Ev) (pre : Text),
    posOKT pre a ↔ posOKT pre ((evsKeys a).map fun k => .chunk k.1 ⟨k.2.1, k.2.2, none⟩)
  | [], _ => Iff.rfl
  | .chunk (some t) _ :: es, pre => and_congr_right fun _ => posOKT_ofKeys es (pre ++ t)
  | .chunk none _ :: es, pre | .source .. :: es, pre | .name .. :: es, pre => posOKT_ofKeys es pre

theorem Anns.keys {P : Text → Option Text → Prop} {a : List Ev} (h : Anns P a) : evsKeys a = [] := evsKeys_noChunk h.isChunk

theorem combSrcResolve_keys (st : CombSt) (isi : Nat) : evsKeys (combSrcResolve st isi).2.1 = [] :=
  (combSrcResolve_walk st isi).2.keys

theorem combNameResolve_keys (st : CombSt) (isi : Nat) (seg : InnerSeg) (a b c : Int) :
    evsKeys (combNameResolve st isi seg a b c).2.1 = [] :=
  (combNameResolve_walk st isi seg a b c).2.keys

theorem combOnChunk_keys (cfg : CombCfg) (st : CombSt) (chunk : Option Text) (m : Mapping) :
    evsKeys (combOnChunk cfg st chunk m).2 = [(chunk, m.gl, m.gc)] := by
  obtain ⟨_, anns, o, e, _, ha, _⟩ := combOnChunk_walk cfg st m
  rw [e chunk, evsKeys_append, ha.keys]
  rfl

theorem combStep_keys (cfg : CombCfg) (st : CombSt) (e : Ev) : evsKeys (combStep cfg st e).2 = evsKeys [e] := by
  cases e with
  | chunk t m => exact combOnChunk_keys cfg st t m
  | source i s c => exact (combStep_anns cfg st rfl).keys
  | name i n => rfl

theorem combFold_keys (cfg : CombCfg) : ∀ (evs : List Ev) (st : CombSt), evsKeys (combFold cfg st evs) = evsKeys evs :=
  combFold_hom evsKeys (· ++ ·) evsKeys_append cfg (combStep_keys cfg)

/-- **SourceMapSource with an inner map**: same chunk texts at the same positions as the outer map-driven stream -/
theorem streamCombined_posOK (t : Text) (sm : SMap) (n : Text) (os : Option Text) (im : SMap) (rm : Bool) (c : Bool)
    (h : PosOK (streamSM t sm ⟨c, false⟩)) : PosOK (streamCombined t sm n os im rm ⟨c, false⟩) := by
  obtain ⟨h1, h2⟩ := h
  refine ⟨?_, ?_⟩
  · simp only [streamCombined]
    rwa [posOKT_ofKeys, combFold_keys, ← posOKT_ofKeys]
  · rw [streamCombined_text]
    simpa [streamCombined] using h2

end Rs
