import RsModel.Model.Composite
import RsModel.Lemmas.Tables
import RsModel.Lemmas.Text
/-!
# ReplaceSource: walking the streaming loop once

The callback `rOnChunk` and one iteration of its loop as equations (`rOnChunk_eq`, `rIter_eq`), both through `rSettle`, the step that
settles a pending skip mark, which the model computes on entry and after each replacement by different arithmetic.  On top of them,
three ways to prove something of what the callback delivers, from the most general to the handiest:

- What depends on the order of what is delivered and on the states as the model builds them, line and column bookkeeping included
  (PosReplace: the reported positions): choose `Inv acc st l`, about the events delivered so far for this inner chunk, the state and the
  walker, and `Fin acc st'`, wanted when the callback returns in `st'`; prove `StepsOK`; `rOnChunk_steps` does the induction over the
  replacements and the case analysis of the callback.  `rOnChunk_restSub` is the instance that only looks at `Place`.
- An invariant that looks at nothing in the state but the tables (announced before use: DeclReplace, ReplaceNames) is `Inv acc nm`, of
  the events delivered and the name-keyed table; it owes `WalkOK`, none of whose fields mentions a loop function or the walker's place,
  and `rOnChunk_walk` concludes.  The walk hands over that the location is the inner chunk's, moved (`Moved`; `Moved.of_orig`,
  `Moved.name` for what does not depend on the column), and where the name index of a line comes from (`LineIdx`).  An invariant whose
  parameters grow with the output (the table of announced names) uses `acc` for that (`names_walkOK`, ReplaceNames).
- A fact about every single chunk delivered is read off `rOnChunk_delivered` by cases (`Delivered`).  `rOnChunk_text` (ReplaceAdvance)
  does that for the text; ReplaceKeeps and `rOnChunk_adv`, which speak of the location, take the chunk apart first (`Delivered.parts`).
  `replaceStream_chunk` takes such a fact to the whole stream, and `replaceStream_piece` is what the two say of a chunk's text
  (MappedNE, ChunksTok, HasText).
-/
namespace Rs

/-- the two states agree in everything but `lineOff`/`colOff`/`colOffLine`, which is what `colShift`, `skipWhole` and `emitContent`
change (`skipWhole` sets `pos` as well): `pos`, `rest`, `re`, the recorded contents and the two name tables, in this order -/
def RSt.Sim (a b : RSt) : Prop :=
  a.pos = b.pos ∧ a.rest = b.rest ∧ a.re = b.re ∧ a.contents = b.contents ∧ a.nameMapping = b.nameMapping ∧ a.nim = b.nim

theorem skipWhole_sim (st : RSt) (chunk : Text) (gl gc remain endPos : Nat) :
    (skipWhole st chunk gl gc remain endPos).Sim { st with pos := endPos } := by
  unfold skipWhole
  dsimp only
  split
  · split <;> exact ⟨rfl, rfl, rfl, rfl, rfl, rfl⟩
  · split <;> exact ⟨rfl, rfl, rfl, rfl, rfl, rfl⟩

@[simp] theorem skipWhole_rest (st : RSt) (chunk : Text) (gl gc remain endPos : Nat) : (skipWhole st chunk gl gc remain endPos).rest = st.rest :=
  (skipWhole_sim ..).2.1

theorem colShift_sim (st : RSt) (line by_ : Int) : (colShift st line by_).Sim st := by
  unfold colShift
  split <;> exact ⟨rfl, rfl, rfl, rfl, rfl, rfl⟩

@[simp] theorem colShift_rest (st : RSt) (line by_ : Int) : (colShift st line by_).rest = st.rest :=
  (colShift_sim ..).2.1

theorem emitContent_sim (gc : Nat) (orig : Option Orig) (cls : List Text) (n : Option Nat) (st : RSt) (line : Int) :
    (emitContent gc orig cls n st line).1.Sim st := by
  induction cls generalizing n st line with
  | nil => exact ⟨rfl, rfl, rfl, rfl, rfl, rfl⟩
  | cons cl cls ih =>
    -- the state the rest of the lines starts in is `st` with other offsets
    simp only [emitContent]
    split
    · split <;> exact ih ..
    · exact ih ..

@[simp] theorem emitContent_rest (gc : Nat) (orig : Option Orig) : ∀ (cls : List Text) (n : Option Nat) (st : RSt) (line : Int),
    (emitContent gc orig cls n st line).1.rest = st.rest :=
  fun cls n st line => (emitContent_sim gc orig cls n st line).2.1

theorem emitContent_evs (gc : Nat) (orig : Option Orig) : ∀ (cls : List Text) (n : Option Nat) (st : RSt) (line : Int),
    ∀ e ∈ (emitContent gc orig cls n st line).2.1, ∃ cl ∈ cls, ∃ gl gc' idx, (idx = n ∨ idx = none)
      ∧ e = .chunk (some cl) ⟨gl, gc', orig.map fun o => { o with name := idx }⟩ := by
  intro cls
  induction cls with
  | nil => intro n st line e he; cases he
  | cons cl cls ih =>
    intro n st line e he
    simp only [emitContent, List.mem_cons] at he
    rcases he with rfl | he
    · exact ⟨cl, List.mem_cons_self, _, _, n, Or.inl rfl, rfl⟩
    · obtain ⟨cl', h1, gl, gc', idx, _, h3⟩ := ih none _ _ e he
      exact ⟨cl', List.mem_cons_of_mem _ h1, gl, gc', none, Or.inr rfl, by
        rcases ‹idx = none ∨ idx = none› with rfl | rfl <;> exact h3⟩

theorem rName_st (r : Repl) (st : RSt) (l : LSt) : ∃ nm, (rName r st l).1 = { st with nameMapping := nm } := by
  unfold rName
  split <;> exact ⟨_, rfl⟩

/-- the walker passes `k` more bytes of the chunk without delivering them -/
def rSkip (chunk : Text) (gl : Nat) (st : RSt) (l : LSt) (k : Nat) : RSt × LSt :=
  (colShift { st with pos := st.pos + k } ((gl : Int) + st.lineOff) k,
   ⟨l.chunkPos + k, l.gc + k, advOrig st.contents l.orig (bsub chunk l.chunkPos (l.chunkPos + k)) k⟩)

/-- a pending skip mark is settled: nothing to do if the walker has reached it; if it lies at or beyond the end of the chunk, the rest
of the chunk is skipped and the callback returns; otherwise the walker passes the bytes up to it.  The callback does this on entry,
and after each replacement it has handled. -/
def rSettle (chunk : Text) (gl endPos : Nat) (st : RSt) (l : LSt) : RNext :=
  if st.pos < reOf st then
    if endPos ≤ reOf st then .done (skipWhole st chunk gl l.gc (chunk.length - l.chunkPos) endPos)
    else .cont (rSkip chunk gl st l (reOf st - st.pos)).1 (rSkip chunk gl st l (reOf st - st.pos)).2
  else .cont st l

theorem rOnChunk_eq (st : RSt) (chunk : Text) (m : Mapping) :
    rOnChunk st chunk m =
      match rSettle chunk m.gl (st.pos + chunk.length) st ⟨0, m.gc, m.orig⟩ with
      | .done st' => (st', [])
      | .cont st1 l1 =>
        match rLoop chunk m.gl (st.pos + chunk.length) st.rest st1 l1 with
        | (st2, evs, none) => (st2, evs)
        | (st2, evs, some l2) =>
          ({ st2 with pos := st.pos + chunk.length },
            evs ++ if l2.chunkPos < chunk.length then
              [.chunk (some (chunk.drop l2.chunkPos)) ⟨u32 ((m.gl : Int) + st2.lineOff), gcolOf st2 ((m.gl : Int) + st2.lineOff) l2.gc, mapName st2.nim l2.orig⟩]
            else []) := by
  unfold rOnChunk rSettle rSkip reOf
  cases st.re with
  | none => simp only [Option.getD_none, Nat.not_lt_zero, if_false]; rfl
  | some e =>
    simp only [Option.getD_some]
    by_cases h1 : st.pos < e
    · by_cases h2 : st.pos + chunk.length ≤ e
      · simp only [h1, h2, if_true, Nat.sub_zero]
      · simp only [h1, h2, if_true, if_false, colShift_rest, Nat.zero_add]; rfl
    · simp only [h1, if_false]; rfl

/-- where the walker stands in the inner chunk `(chunk, m)` that the callback entered in state `st0`: `chunkPos` bytes into it, and
inside it unless the chunk is empty; the pending replacements are among those pending at the start -/
structure Place (st0 : RSt) (chunk : Text) (m : Mapping) (st : RSt) (l : LSt) : Prop where
  pos : st.pos = st0.pos + l.chunkPos
  gc : l.gc = m.gc + l.chunkPos
  inb : l.chunkPos < chunk.length ∨ chunk = [] ∧ l.chunkPos = 0
  rest : ∀ r ∈ st.rest, r ∈ st0.rest

/-- The callback is: settle a pending skip mark; for each replacement that starts inside the chunk, deliver the inner text before it
(`before`), announce its name and deliver its content, set the skip mark (`content`), settle the skip mark; deliver the rest of the
chunk (`tail`).  Settling a skip mark beyond the walker (`rSettle`) means passing the bytes up to it (`skip`), or, if it lies beyond the
chunk, returning at once (`whole`).  `StepsOK` lists what an invariant `Inv` of the walk owes for each of these, with `Fin` wanted when
the callback returns.  The invariant sees the states as the model builds them, line and column bookkeeping included. -/
structure StepsOK (st0 : RSt) (chunk : Text) (m : Mapping) (Inv : List Ev → RSt → LSt → Prop) (Fin : List Ev → RSt → Prop) : Prop where
  before : ∀ acc st l r, Place st0 chunk m st l → r.start < st0.pos + chunk.length → Inv acc st l →
    Inv (acc ++ (rBefore chunk ((m.gl : Int) + st.lineOff) r st l).2.2) (rBefore chunk ((m.gl : Int) + st.lineOff) r st l).1
      (rBefore chunk ((m.gl : Int) + st.lineOff) r st l).2.1
  content : ∀ acc st l r rs, Place st0 chunk m st l → st.rest = r :: rs → Inv acc st l →
    Inv (acc ++ (rName r st l).2.1 ++ (emitContent l.gc l.orig (splitLines r.content) (rName r st l).2.2 (rName r st l).1 ((m.gl : Int) + st.lineOff)).2.1)
      { (emitContent l.gc l.orig (splitLines r.content) (rName r st l).2.2 (rName r st l).1 ((m.gl : Int) + st.lineOff)).1 with
        re := some (max (reOf st) r.stop), rest := rs } l
  skip : ∀ acc st l, Place st0 chunk m st l → st.pos < reOf st → reOf st < st0.pos + chunk.length → Inv acc st l →
    Inv acc (rSkip chunk m.gl st l (reOf st - st.pos)).1 (rSkip chunk m.gl st l (reOf st - st.pos)).2
  whole : ∀ acc st l, Place st0 chunk m st l → Inv acc st l →
    Fin acc (skipWhole st chunk m.gl l.gc (chunk.length - l.chunkPos) (st0.pos + chunk.length))
  tail : ∀ acc st l, Place st0 chunk m st l → Inv acc st l →
    Fin (acc ++ if l.chunkPos < chunk.length then
        [.chunk (some (chunk.drop l.chunkPos)) ⟨u32 ((m.gl : Int) + st.lineOff), gcolOf st ((m.gl : Int) + st.lineOff) l.gc, mapName st.nim l.orig⟩]
      else []) { st with pos := st0.pos + chunk.length }

section steps
variable {st0 : RSt} {chunk : Text} {m : Mapping}

theorem Place.lt {st : RSt} {l : LSt} (h : Place st0 chunk m st l) {x : Nat} (h1 : st.pos < x) (h2 : x < st0.pos + chunk.length) :
    l.chunkPos + (x - st.pos) < chunk.length := by
  have := h.pos
  omega

theorem Place.skip {st : RSt} {l : LSt} (h : Place st0 chunk m st l) (k : Nat) (hk : l.chunkPos + k < chunk.length) :
    Place st0 chunk m (rSkip chunk m.gl st l k).1 (rSkip chunk m.gl st l k).2 :=
  ⟨by rw [rSkip, (colShift_sim _ _ _).1]; simp only [h.pos, Nat.add_assoc], by simp only [rSkip, h.gc, Nat.add_assoc], Or.inl hk,
    by rw [rSkip, colShift_rest]; exact h.rest⟩

theorem Place.before {st : RSt} {l : LSt} (h : Place st0 chunk m st l) (line : Int) (r : Repl) (hlt : r.start < st0.pos + chunk.length) :
    Place st0 chunk m (rBefore chunk line r st l).1 (rBefore chunk line r st l).2.1
    ∧ (rBefore chunk line r st l).1.rest = st.rest ∧ (rBefore chunk line r st l).1.lineOff = st.lineOff := by
  unfold rBefore
  split
  · exact ⟨⟨by simp only; rw [← Nat.add_assoc, ← h.pos, Nat.add_sub_of_le (Nat.le_of_lt ‹_›)], by simp only [h.gc, Nat.add_assoc], Or.inl (h.lt ‹_› hlt), h.rest⟩,
      rfl, rfl⟩
  · exact ⟨h, rfl, rfl⟩

/-- `rName` and `emitContent` leave alone what `Place` and the skip mark speak of -/
theorem rContent_frame (gc : Nat) (orig : Option Orig) (cls : List Text) (r : Repl) (st : RSt) (l : LSt) (line : Int) :
    (emitContent gc orig cls (rName r st l).2.2 (rName r st l).1 line).1.pos = st.pos
    ∧ (emitContent gc orig cls (rName r st l).2.2 (rName r st l).1 line).1.re = st.re := by
  obtain ⟨nm, hn⟩ := rName_st r st l
  obtain ⟨hp, _, hr, _⟩ := emitContent_sim gc orig cls (rName r st l).2.2 (rName r st l).1 line
  rw [hp, hr, hn]
  exact ⟨rfl, rfl⟩

theorem RSt.set_rest (st : RSt) (rs : List Repl) (h : st.rest = rs) : { st with rest := rs } = st := by subst h; rfl

theorem rBefore_pos {chunk : Text} {line : Int} {r : Repl} {st : RSt} {l : LSt} {cs : Nat} (h : st.pos = cs + l.chunkPos) :
    (rBefore chunk line r st l).1.pos = cs + (rBefore chunk line r st l).2.1.chunkPos := by
  unfold rBefore
  split
  · simp only; omega
  · exact h

theorem rIter_eq {chunk : Text} {gl cs : Nat} {r : Repl} {rs : List Repl} {st : RSt} {l : LSt} (hpos : st.pos = cs + l.chunkPos) :
    rIter chunk gl (cs + chunk.length) r rs st l =
      (let b := rBefore chunk ((gl : Int) + st.lineOff) r st l
       let n := rName r b.1 b.2.1
       let c := emitContent b.2.1.gc b.2.1.orig (splitLines r.content) n.2.2 n.1 ((gl : Int) + st.lineOff)
       (b.2.2 ++ n.2.1 ++ c.2.1,
        rSettle chunk gl (cs + chunk.length) { c.1 with re := some (max (reOf b.1) r.stop), rest := rs } b.2.1)) := by
  simp only [rIter]
  generalize hb : rBefore chunk ((gl : Int) + st.lineOff) r st l = b
  have hp : b.1.pos = cs + b.2.1.chunkPos := hb ▸ rBefore_pos hpos
  obtain ⟨cp, cr⟩ := rContent_frame b.2.1.gc b.2.1.orig (splitLines r.content) r b.1 b.2.1 ((gl : Int) + st.lineOff)
  generalize emitContent b.2.1.gc b.2.1.orig (splitLines r.content) (rName r b.1 b.2.1).2.2 (rName r b.1 b.2.1).1 ((gl : Int) + st.lineOff) = c
    at cp cr ⊢
  have hre : reOf c.1 = reOf b.1 := by rw [reOf, cr]; rfl
  generalize he : max (reOf b.1) r.stop = e
  -- `offset` of the model is how far the skip mark `e` lies beyond the walker
  have hoff : (chunk.length : Int) - ((cs + chunk.length : Nat) : Int) + (e : Nat) - (b.2.1.chunkPos : Int) = (e : Int) - (c.1.pos : Int) := by
    rw [cp, hp]; push_cast; omega
  rw [hre, he, hoff]
  by_cases h1 : c.1.pos < e
  · rw [if_pos (Int.sub_pos_of_lt (Int.ofNat_lt.2 h1)), rSettle, if_pos (show _ < reOf _ from h1)]
    by_cases h2 : cs + chunk.length ≤ e
    · rw [if_pos h2, if_pos (show _ ≤ reOf _ from h2)]
    · rw [if_neg h2, if_neg (show ¬ _ ≤ reOf _ from h2), ← Int.ofNat_sub (Nat.le_of_lt h1), Int.toNat_natCast]; rfl
  · rw [if_neg (fun h => h1 (Int.ofNat_lt.1 (Int.lt_of_sub_pos h))), rSettle, if_neg (show ¬ _ < reOf _ from h1)]

variable {Inv : List Ev → RSt → LSt → Prop} {Fin : List Ev → RSt → Prop}

def RNext.Ends (F : RSt → Prop) (I : RSt → LSt → Prop) : RNext → Prop
  | .done st => F st
  | .cont st l => I st l

theorem rSettle_steps (h : StepsOK st0 chunk m Inv Fin) {acc : List Ev} {st : RSt} {l : LSt}
    (hP : Place st0 chunk m st l) (hI : Inv acc st l) {nx : RNext} (he : rSettle chunk m.gl (st0.pos + chunk.length) st l = nx) :
    nx.Ends (Fin acc) fun st' l' => Place st0 chunk m st' l' ∧ st'.rest = st.rest ∧ Inv acc st' l' := by
  subst he
  unfold rSettle
  split
  · rename_i hlt
    split
    · exact h.whole _ _ _ hP hI
    · rename_i hend
      exact ⟨hP.skip _ (hP.lt hlt (Nat.lt_of_not_le hend)), colShift_rest _ _ _, h.skip _ _ _ hP hlt (Nat.lt_of_not_le hend) hI⟩
  · exact ⟨hP, rfl, hI⟩

theorem rIter_steps (h : StepsOK st0 chunk m Inv Fin) {r : Repl} {rs : List Repl} {acc : List Ev} {st : RSt} {l : LSt}
    (hP : Place st0 chunk m st l) (hr : st.rest = r :: rs) (hlt : r.start < st0.pos + chunk.length) (hI : Inv acc st l)
    {evs : List Ev} {nx : RNext} (he : rIter chunk m.gl (st0.pos + chunk.length) r rs st l = (evs, nx)) :
    nx.Ends (Fin (acc ++ evs)) fun st' l' => Place st0 chunk m st' l' ∧ st'.rest = rs ∧ Inv (acc ++ evs) st' l' := by
  have hb := h.before acc st l r hP hlt hI
  obtain ⟨pb, b1, b2⟩ := hP.before ((m.gl : Int) + st.lineOff) r hlt
  have hc := h.content _ _ _ r rs pb (b1.trans hr) hb
  rw [b2, List.append_assoc acc, List.append_assoc acc] at hc
  rw [rIter_eq hP.pos] at he
  cases he
  -- the state with the skip mark set stands where the walker stood after the text before the replacement
  refine rSettle_steps h ?_ hc rfl
  exact ⟨(rContent_frame ..).1.trans pb.pos, pb.gc, pb.inb, fun x hx => pb.rest x (by rw [b1, hr]; exact List.mem_cons_of_mem _ hx)⟩

theorem rLoop_steps (h : StepsOK st0 chunk m Inv Fin) (rs : List Repl) (acc : List Ev) (st : RSt) (l : LSt)
    (hP : Place st0 chunk m st l) (hr : st.rest = rs) (hI : Inv acc st l)
    {st' : RSt} {evs : List Ev} {ol : Option LSt} (he : rLoop chunk m.gl (st0.pos + chunk.length) rs st l = (st', evs, ol)) :
    ol.elim (Fin (acc ++ evs) st') fun l' => Place st0 chunk m st' l' ∧ Inv (acc ++ evs) st' l' := by
  fun_induction rLoop chunk m.gl (st0.pos + chunk.length) rs st l generalizing acc evs with
  | case1 st l | case4 r rs st l hlt => cases he; rw [List.append_nil, st.set_rest _ hr]; exact ⟨hP, hI⟩
  | case2 r rs st l hlt evs1 st1 heq => cases he; exact rIter_steps h hP hr hlt hI heq
  | case3 r rs st l hlt evs1 st1 l1 heq _ ih =>
    cases he
    have a := rIter_steps h hP hr hlt hI heq
    rw [← List.append_assoc]
    exact ih _ a.1 a.2.1 a.2.2 rfl

theorem rOnChunk_steps (st : RSt) (chunk : Text) (m : Mapping) (h : StepsOK st chunk m Inv Fin)
    (hI : Inv [] st ⟨0, m.gc, m.orig⟩) : Fin (rOnChunk st chunk m).2 (rOnChunk st chunk m).1 := by
  have p0 : Place st chunk m st ⟨0, m.gc, m.orig⟩ :=
    ⟨rfl, rfl, (by cases chunk with | nil => exact Or.inr ⟨rfl, rfl⟩ | cons _ _ => exact Or.inl (Nat.zero_lt_succ _)), fun _ hr => hr⟩
  rw [rOnChunk_eq]
  split
  · rename_i st' heq
    exact rSettle_steps h p0 hI heq
  · rename_i st1 l1 heq
    have a := rSettle_steps h p0 hI heq
    split
    · rename_i st2 evs heq
      exact rLoop_steps h st.rest [] st1 l1 a.1 a.2.1 a.2.2 heq
    · rename_i st2 evs l2 heq
      have b := rLoop_steps h st.rest [] st1 l1 a.1 a.2.1 a.2.2 heq
      exact h.tail _ st2 l2 b.1 b.2

theorem rOnChunk_restSub (st : RSt) (chunk : Text) (m : Mapping) : ∀ r ∈ (rOnChunk st chunk m).1.rest, r ∈ st.rest :=
  rOnChunk_steps (Inv := fun _ _ _ => True) (Fin := fun _ st' => ∀ r ∈ st'.rest, r ∈ st.rest) st chunk m
    ⟨fun _ _ _ _ _ _ _ => trivial, fun _ _ _ _ _ _ _ _ => trivial, fun _ _ _ _ _ _ _ => trivial,
      fun _ _ _ p _ => by rw [skipWhole_rest]; exact p.rest, fun _ _ _ p _ => p.rest⟩ trivial

end steps

/-- `check_original_content` succeeds wherever it is asked while `chunk`, mapped to `a`, is processed: the recorded content, read from
`a`, spells out the chunk -/
def FM (contents : List (Option Text)) (a : Orig) (chunk : Text) : Prop :=
  ∀ p q, p ≤ q → q ≤ chunk.length → checkContent contents { a with col := a.col + p } (bsub chunk p q) = true

theorem checkContent_recorded {contents : List (Option Text)} {o : Orig} {s : Text} (h : checkContent contents o s = true) :
    ∃ c, contents[o.src]? = some (some c) := by
  unfold checkContent at h
  split at h
  · exact ⟨_, ‹_›⟩
  · cases h

/-- what the walker's original location `w` can be `p` bytes into an inner chunk mapped to `a`: `a` moved `k` columns to the right.
`advOrig` moves it only where `check_original_content` succeeds: nowhere if no content is recorded for `a`'s source, over every byte
if the recorded content spells out the chunk. -/
def Moved (contents : List (Option Text)) (chunk : Text) (a : Option Orig) (p : Nat) (w : Option Orig) : Prop :=
  ∃ k, w = a.map (fun o => { o with col := o.col + k })
    ∧ ∀ o, a = some o → ((∀ c, contents[o.src]? ≠ some (some c)) → k = 0) ∧ (FM contents o chunk → k = p)

theorem Moved.start (contents : List (Option Text)) (chunk : Text) (a : Option Orig) : Moved contents chunk a 0 a :=
  ⟨0, by cases a <;> rfl, fun _ _ => ⟨fun _ => rfl, fun _ => rfl⟩⟩

theorem Moved.adv {contents : List (Option Text)} {chunk : Text} {a w : Option Orig} {p : Nat} (h : Moved contents chunk a p w) (d : Nat)
    (hd : p + d ≤ chunk.length) : Moved contents chunk a (p + d) (advOrig contents w (bsub chunk p (p + d)) d) := by
  obtain ⟨k, rfl, hk⟩ := h
  cases a with
  | none => exact ⟨0, rfl, nofun⟩
  | some o =>
    obtain ⟨h0, hfm⟩ := hk o rfl
    simp only [Option.map_some, advOrig]
    split
    · rename_i hc
      refine ⟨k + d, by simp only [Option.map_some, Nat.add_assoc], fun o' e => ?_⟩
      cases e
      exact ⟨fun hno => let ⟨c, h⟩ := checkContent_recorded hc; absurd h (hno c), fun hf => by rw [hfm hf]⟩
    · rename_i hc
      refine ⟨k, rfl, fun o' e => ?_⟩
      cases e
      exact ⟨h0, fun hf => absurd (hfm hf ▸ hf p (p + d) (Nat.le_add_right _ _) hd) hc⟩

theorem Moved.exact {contents : List (Option Text)} {chunk : Text} {a : Orig} {w : Option Orig} {p : Nat}
    (h : Moved contents chunk (some a) p w) (hfm : FM contents a chunk) : w = some { a with col := a.col + p } := by
  obtain ⟨k, rfl, hk⟩ := h
  rw [((hk a rfl).2 hfm)]; rfl

theorem Moved.of_orig {contents : List (Option Text)} {chunk : Text} {a w : Option Orig} {p : Nat} {P : Orig → Prop}
    (h : Moved contents chunk a p w) (hP : ∀ o k, P o → P { o with col := o.col + k }) (ha : ∀ o, a = some o → P o) : ∀ x, w = some x → P x := by
  obtain ⟨k, rfl, _⟩ := h
  intro x hx
  cases a with
  | none => cases hx
  | some o => cases hx; exact hP o k (ha o rfl)

theorem Moved.name {contents : List (Option Text)} {chunk : Text} {a w : Option Orig} {p : Nat} (h : Moved contents chunk a p w) :
    w.bind (·.name) = a.bind (·.name) := by
  obtain ⟨k, rfl, _⟩ := h
  cases a <;> rfl

theorem invariant_append {α} {I : List α → Prop} : ∀ (xs acc : List α), (∀ acc x, x ∈ xs → I acc → I (acc ++ [x])) → I acc → I (acc ++ xs)
  | [], acc, _, h => (List.append_nil acc).symm ▸ h
  | x :: xs, acc, step, h => by
    rw [List.append_cons]
    exact invariant_append xs _ (fun acc y hy => step acc y (List.mem_cons_of_mem _ hy)) (step acc x List.mem_cons_self h)

/-- where the name index `k` of a line of the content of the replacement `r` comes from: it is the walker's name, renumbered, or the
index of `r`'s name in the name-keyed table `nm` -/
def LineIdx (nim : List Nat) (nm : Assoc) (r : Repl) (w : Option Orig) (k : Nat) : Prop :=
  ((w.bind (·.name)).bind fun n => nim[n]?) = some k ∨ ∃ n, r.name = some n ∧ nm.get? n = some k

section walk
variable {Inv : List Ev → Assoc → Prop}

/-- The callback reads the recorded contents and `name_index_mapping` and changes neither; of the tables it changes the name-keyed
one only, by registering the name of a replacement.  So an invariant `Inv acc nm` of the events delivered so far for the inner chunk
`(chunk, m)` and of that table owes three things, one for each kind of event the callback delivers: a piece of the chunk under the
walker's location, its name renumbered (`slice`); the registration of a name, whichever it is (`name`); a line of the
content of a pending replacement under the walker's location, with no name or with one as `LineIdx` says (`line`).  That the
walker's location is the inner chunk's, moved, is the walk's business. -/
structure WalkOK (st0 : RSt) (chunk : Text) (m : Mapping) (Inv : List Ev → Assoc → Prop) : Prop where
  slice : ∀ acc nm p q w gl gc, p < q → q ≤ chunk.length → Moved st0.contents chunk m.orig p w → Inv acc nm →
    Inv (acc ++ [.chunk (some (bsub chunk p q)) ⟨gl, gc, mapName st0.nim w⟩]) nm
  name : ∀ acc nm n, Inv acc nm → Inv (acc ++ (globalName nm n).2.1) (globalName nm n).1
  line : ∀ acc nm r cl p w gl gc idx, r ∈ st0.rest → cl ∈ splitLines r.content → (p < chunk.length ∨ chunk = []) →
    Moved st0.contents chunk m.orig p w → (∀ k, idx = some k → LineIdx st0.nim nm r w k) → Inv acc nm →
    Inv (acc ++ [.chunk (some cl) ⟨gl, gc, w.map fun o => { o with name := idx }⟩]) nm

def WalkOK.At (Inv : List Ev → Assoc → Prop) (st0 : RSt) (acc : List Ev) (st : RSt) : Prop :=
  Inv acc st.nameMapping ∧ st.contents = st0.contents ∧ st.nim = st0.nim

variable {st0 : RSt} {chunk : Text} {m : Mapping}

theorem WalkOK.At.sim {st st' : RSt} {acc : List Ev} (h : WalkOK.At Inv st0 acc st) (hs : st'.Sim st) : WalkOK.At Inv st0 acc st' :=
  ⟨hs.2.2.2.2.1 ▸ h.1, hs.2.2.2.1.trans h.2.1, hs.2.2.2.2.2.trans h.2.2⟩

theorem WalkOK.nameIdx (h : WalkOK st0 chunk m Inv) (r : Repl) {acc : List Ev} {st : RSt} (l : LSt)
    (hT : WalkOK.At Inv st0 acc st) :
    WalkOK.At Inv st0 (acc ++ (rName r st l).2.1) (rName r st l).1
    ∧ ∀ k, (rName r st l).2.2 = some k → LineIdx st0.nim (rName r st l).1.nameMapping r l.orig k := by
  unfold rName
  split
  · exact ⟨⟨h.name acc _ _ hT.1, hT.2⟩, fun k hk => .inr ⟨_, ‹_›, Option.some.inj hk ▸ globalName_get _ _⟩⟩
  · rw [List.append_nil]
    exact ⟨hT, fun k hk => .inl (hT.2.2 ▸ hk)⟩

theorem WalkOK.lines (h : WalkOK st0 chunk m Inv) {r : Repl} (hr : r ∈ st0.rest) {p : Nat} {w : Option Orig}
    (hp : p < chunk.length ∨ chunk = []) (hw : Moved st0.contents chunk m.orig p w) {acc : List Ev} {st : RSt} {n : Option Nat}
    (hn : ∀ k, n = some k → LineIdx st0.nim st.nameMapping r w k) (hT : WalkOK.At Inv st0 acc st) (gc : Nat) (line : Int) :
    WalkOK.At Inv st0 (acc ++ (emitContent gc w (splitLines r.content) n st line).2.1) (emitContent gc w (splitLines r.content) n st line).1 :=
  .sim ⟨invariant_append (I := fun acc => Inv acc st.nameMapping) _ acc (fun acc e he hI => by
      obtain ⟨cl, hcl, gl, gc', idx, hidx, rfl⟩ := emitContent_evs _ _ _ _ _ _ e he
      exact h.line acc _ r cl p w gl gc' idx hr hcl hp hw (fun k hk => hn k (hidx.elim (· ▸ hk) (fun e => nomatch e ▸ hk))) hI) hT.1,
    hT.2⟩ (emitContent_sim ..)

theorem WalkOK.stepsOK (h : WalkOK st0 chunk m Inv) :
    StepsOK st0 chunk m (fun acc st l => WalkOK.At Inv st0 acc st ∧ Moved st0.contents chunk m.orig l.chunkPos l.orig)
      (WalkOK.At Inv st0) where
  before := fun acc st l r p hlt ⟨⟨hI, hc, hn⟩, hw⟩ => by
    unfold rBefore
    split
    · have hend := Nat.le_of_lt (p.lt ‹_› hlt)
      refine ⟨⟨hn ▸ h.slice acc _ _ _ _ _ _ (Nat.lt_add_of_pos_right (Nat.sub_pos_of_lt ‹_›)) hend hw hI, hc, hn⟩, ?_⟩
      simp only
      rw [bsub_length chunk _ _ hend, Nat.add_sub_cancel_left, hc]
      exact hw.adv _ hend
    · rw [List.append_nil]; exact ⟨⟨hI, hc, hn⟩, hw⟩
  content := fun acc st l r rs p hr ⟨hT, hw⟩ => by
    have hr' : r ∈ st0.rest := p.rest r (hr ▸ List.mem_cons_self)
    obtain ⟨a, hk⟩ := h.nameIdx r l hT
    -- setting the skip mark and dropping `r` from the pending replacements touches no table
    exact ⟨h.lines hr' (p.inb.imp_right And.left) hw hk a _ _, hw⟩
  skip := fun acc st l p h1 h2 ⟨hT, hw⟩ =>
    ⟨WalkOK.At.sim (st := { st with pos := st.pos + (reOf st - st.pos) }) hT (colShift_sim ..), hT.2.1 ▸ hw.adv _ (Nat.le_of_lt (p.lt h1 h2))⟩
  whole := fun acc st l _ ⟨hT, _⟩ => WalkOK.At.sim (st := { st with pos := st0.pos + chunk.length }) hT (skipWhole_sim ..)
  tail := fun acc st l _ ⟨⟨hI, hc, hn⟩, hw⟩ => by
    refine ⟨?_, hc, hn⟩
    split
    · rw [← bsub_to_end, hn]; exact h.slice acc _ _ _ _ _ _ ‹_› (Nat.le_refl _) hw hI
    · rw [List.append_nil]; exact hI

theorem rOnChunk_walk (st : RSt) (chunk : Text) (m : Mapping) (h : WalkOK st chunk m Inv) (hI : Inv [] st.nameMapping) :
    Inv (rOnChunk st chunk m).2 (rOnChunk st chunk m).1.nameMapping
    ∧ (rOnChunk st chunk m).1.contents = st.contents ∧ (rOnChunk st chunk m).1.nim = st.nim :=
  rOnChunk_steps st chunk m h.stepsOK ⟨⟨hI, rfl, rfl⟩, .start ..⟩

end walk

/-- what the callback delivers for the inner chunk `(chunk, m)` in state `st`: a non-empty piece `chunk[p..q)` under the walker's
location at `p` (its name renumbered), a line of the content of a pending replacement spliced in at `p` under that location (with
the name index chosen for it), or the announcement of a name -/
inductive Delivered (st : RSt) (chunk : Text) (m : Mapping) : Ev → Prop
  | slice {p q : Nat} {w : Option Orig} (gl gc : Nat) : p < q → q ≤ chunk.length → Moved st.contents chunk m.orig p w →
      Delivered st chunk m (.chunk (some (bsub chunk p q)) ⟨gl, gc, mapName st.nim w⟩)
  | line {r : Repl} {cl : Text} {p : Nat} {w : Option Orig} (gl gc : Nat) (idx : Option Nat) : r ∈ st.rest → cl ∈ splitLines r.content →
      (p < chunk.length ∨ chunk = []) → Moved st.contents chunk m.orig p w →
      Delivered st chunk m (.chunk (some cl) ⟨gl, gc, w.map fun o => { o with name := idx }⟩)
  | name (i : Nat) (n : Text) : Delivered st chunk m (.name i n)

/-- a delivered chunk with its location and its text taken apart, for what is said of the location whichever the text is -/
theorem Delivered.parts {st : RSt} {chunk : Text} {m : Mapping} {t : Option Text} {mm : Mapping} (h : Delivered st chunk m (.chunk t mm)) :
    ∃ p w, (p < chunk.length ∨ chunk = []) ∧ Moved st.contents chunk m.orig p w
      ∧ (∃ f : Orig → Option Nat, mm.orig = w.map fun o => { o with name := f o })
      ∧ ((∃ q, p < q ∧ q ≤ chunk.length ∧ t = some (bsub chunk p q)) ∨ ∃ r ∈ st.rest, ∃ cl ∈ splitLines r.content, t = some cl) := by
  cases h with
  | @slice p q w _ _ hpq hq hw => exact ⟨p, w, Or.inl (Nat.lt_of_lt_of_le hpq hq), hw, ⟨_, rfl⟩, Or.inl ⟨q, hpq, hq, rfl⟩⟩
  | @line r cl p w _ _ idx hr hcl hp hw => exact ⟨p, w, hp, hw, ⟨fun _ => idx, rfl⟩, Or.inr ⟨r, hr, cl, hcl, rfl⟩⟩

theorem rName_noChunk (r : Repl) (st : RSt) (l : LSt) : ∀ e ∈ (rName r st l).2.1, e.isChunk = false := by
  intro e he
  unfold rName at he
  split at he
  · exact globalName_anns _ _ e he
  · cases he

theorem delivered_walkOK (st0 : RSt) (chunk : Text) (m : Mapping) :
    WalkOK st0 chunk m fun acc _ => ∀ e ∈ acc, Delivered st0 chunk m e where
  slice := fun _ _ _ _ _ gl gc hpq hq hw h =>
    List.forall_mem_append.2 ⟨h, fun _ he => List.mem_singleton.1 he ▸ .slice gl gc hpq hq hw⟩
  name := fun _ nm n h => List.forall_mem_append.2 ⟨h, fun e he =>
    match e, globalName_annOf (fun _ _ => False) nm n e he with
    | .name i n, _ => .name i n⟩
  line := fun _ _ _ _ _ _ gl gc idx hr hcl hin hw _ h =>
    List.forall_mem_append.2 ⟨h, fun _ he => List.mem_singleton.1 he ▸ .line gl gc idx hr hcl hin hw⟩

theorem rOnChunk_delivered (st : RSt) (chunk : Text) (m : Mapping) :
    (∀ e ∈ (rOnChunk st chunk m).2, Delivered st chunk m e)
    ∧ (rOnChunk st chunk m).1.contents = st.contents ∧ (rOnChunk st chunk m).1.nim = st.nim :=
  rOnChunk_walk st chunk m (delivered_walkOK st chunk m) fun _ h => nomatch h

theorem rEvs_mem : ∀ (evs : List Ev) (st : RSt), ∀ e' ∈ (rEvs st evs).2, ∃ st' e, e ∈ evs ∧ e' ∈ (rEv st' e).2 := by
  intro evs
  induction evs with
  | nil => intro st e' he'; cases he'
  | cons e es ih =>
    intro st e' he'
    simp only [rEvs, List.mem_append] at he'
    rcases he' with he' | he'
    · exact ⟨st, e, List.mem_cons_self, he'⟩
    · obtain ⟨st', e0, h1, h3⟩ := ih _ e' he'
      exact ⟨st', e0, List.mem_cons_of_mem _ h1, h3⟩

theorem rRemainder_eq (gcInfo : Nat) : ∀ (cls : List Text) (n : Option Nat) (st : RSt) (line : Int),
    rRemainder gcInfo cls st line = emitContent gcInfo none cls n st line := by
  intro cls
  induction cls with
  | nil => intro n st line; rfl
  | cons cl cls ih =>
    intro n st line
    simp only [rRemainder, emitContent, Option.map_none]
    split <;> simp only [ih none]

theorem rRemainder_evs (gcInfo : Nat) (cls : List Text) (st : RSt) (line : Int) :
    ∀ e ∈ (rRemainder gcInfo cls st line).2.1, ∃ cl ∈ cls, ∃ gl gc, e = .chunk (some cl) ⟨gl, gc, none⟩ := by
  intro e he
  rw [rRemainder_eq gcInfo cls none] at he
  obtain ⟨cl, hcl, gl, gc, _, _, rfl⟩ := emitContent_evs _ _ _ _ _ _ e he
  exact ⟨cl, hcl, gl, gc, rfl⟩

theorem replaceStream_evs (sorted : List Repl) (inner : SResult) :
    ∃ gc T st line, (replaceStream sorted inner).evs = (rEvs { rest := sorted } inner.evs).2 ++ (rRemainder gc (splitLines T) st line).2.1 :=
  ⟨_, _, _, _, rfl⟩

/-- `replaceStream_evs` for a goal that recurses over the events (`DeclOK`): each tactic step on such a goal would evaluate `replaceStream` as
far as it goes -/
theorem replaceStream_ind {P : List Ev → Prop} (sorted : List Repl) (inner : SResult)
    (h : ∀ gc T st line, P ((rEvs { rest := sorted } inner.evs).2 ++ (rRemainder gc (splitLines T) st line).2.1)) :
    P (replaceStream sorted inner).evs :=
  let ⟨_, _, _, _, e⟩ := replaceStream_evs sorted inner
  e ▸ h _ _ _ _

theorem replaceStream_chunk (sorted : List Repl) (inner : SResult) {t' : Option Text} {mm : Mapping}
    (h : Ev.chunk t' mm ∈ (replaceStream sorted inner).evs) :
    (∃ st t m, Ev.chunk t m ∈ inner.evs ∧ Ev.chunk t' mm ∈ (rOnChunk st (t.getD []) m).2)
    ∨ mm.orig = none ∧ ∃ T, ∃ cl ∈ splitLines T, t' = some cl := by
  obtain ⟨_, _, _, _, e⟩ := replaceStream_evs sorted inner
  rcases List.mem_append.1 (e ▸ h) with h | h
  · obtain ⟨st, e, he, h'⟩ := rEvs_mem inner.evs _ _ h
    cases e with
    | chunk t m => exact Or.inl ⟨st, t, m, he, h'⟩
    | source i s c => cases List.mem_singleton.1 h'
    | name i n => cases globalName_anns _ _ _ h'
  · obtain ⟨cl, hcl, _, _, e⟩ := rRemainder_evs _ _ _ _ _ h
    cases e
    exact Or.inr ⟨rfl, _, cl, hcl, rfl⟩

theorem replaceStream_piece {sorted : List Repl} {inner : SResult} {t' : Option Text} {mm : Mapping}
    (h : Ev.chunk t' mm ∈ (replaceStream sorted inner).evs) :
    (∃ t m p q, Ev.chunk (some t) m ∈ inner.evs ∧ p < q ∧ q ≤ t.length ∧ t' = some (bsub t p q))
    ∨ ∃ T, ∃ cl ∈ splitLines T, t' = some cl := by
  rcases replaceStream_chunk sorted inner h with ⟨st, t, m, he, h'⟩ | ⟨_, T, cl, hcl, e⟩
  · generalize hs : Ev.chunk t' mm = e at h'
    cases (rOnChunk_delivered st _ m).1 _ h' with
    | slice _ _ hpq hq =>
      cases hs
      cases t with
      | none => exact absurd (Nat.lt_of_lt_of_le hpq hq) (Nat.not_lt_zero _)
      | some t => exact .inl ⟨t, m, _, _, he, hpq, hq, rfl⟩
    | line _ _ _ _ hcl => cases hs; exact .inr ⟨_, _, hcl, rfl⟩
    | name => cases hs
  · exact .inr ⟨T, cl, hcl, e⟩

end Rs
