import RsModel.Model.Combined
import RsModel.Lemmas.Decl
/-!
# The name-keyed tables of the composites and the lists of announcements they stand for

ConcatSource, ReplaceSource and the combinator re-number the sources and names of their inner streams: a de-duplication map keyed by
name (`Assoc`, filled by `globalSource` / `globalName`) gives every new name the next index and announces it, and index tables
(Rust `LinearMap`, here `lmInsert`) translate local indices.  This file holds what is true of these tables whoever uses them; the
`_spec` lemmas are stated with `DeclOK` (Decl).

What a de-duplication map means is said by one equation, `A = G.zipIdx`: its keys are the names announced so far, `G`, each with its
place in the order of announcement; a lookup that fails means the key is new, and then `insert` appends (`assoc_insert_of_get_none`,
`assoc_insert_new`).  `annS evs` / `annN evs` read the announced file names / names off a stream (`annSC`: the files with their
contents), so the tables after delivering `evs` stand for `S ++ annS evs`, `N ++ annN evs` (`globalSource_spec`, `globalName_spec`).
What `globalSource` / `globalName` deliver is nothing or the one announcement (`globalSource_cases`, `globalName_cases`); `Anns P evs`
says of any list that it consists of announcements, those of files satisfying `P`.
-/
namespace Rs

theorem assoc_insert_of_get_none (m : Assoc) (k : Text) (v : Nat) (h : m.get? k = none) : m.insert k v = m ++ [(k, v)] := by
  unfold Assoc.get? at h
  unfold Assoc.insert
  rw [if_neg]
  simp only [Option.map_eq_none_iff, List.find?_eq_none] at h
  simp only [List.any_eq_true, not_exists, not_and]
  exact h

theorem assoc_get_insert_self (m : Assoc) (k : Text) (v : Nat) (h : m.get? k = none) : (m.insert k v).get? k = some v := by
  rw [assoc_insert_of_get_none m k v h]
  unfold Assoc.get? at h ⊢
  rw [List.find?_append, Option.map_eq_none_iff.1 h]
  simp

theorem assoc_get_insert_other (m : Assoc) (k k' : Text) (v : Nat) (h : m.get? k = none) (hne : k' ≠ k) : (m.insert k v).get? k' = m.get? k' := by
  rw [assoc_insert_of_get_none m k v h]
  unfold Assoc.get?
  rw [List.find?_append, List.find?_singleton, if_neg (by simpa using fun e : k = k' => hne e.symm), Option.or_none]

theorem assoc_length_insert (m : Assoc) (k : Text) (v : Nat) (h : m.get? k = none) : (m.insert k v).length = m.length + 1 := by
  rw [assoc_insert_of_get_none m k v h, List.length_append, List.length_singleton]

theorem assoc_get_zipIdx (ks : List Text) (k : Text) (g : Nat) (h : Assoc.get? ks.zipIdx k = some g) : ks[g]? = some k := by
  obtain ⟨⟨kk, i⟩, he, rfl⟩ := Option.map_eq_some_iff.1 h
  obtain ⟨_, h2, h3⟩ := List.mem_zipIdx (List.mem_of_find?_eq_some he)
  have hp := List.find?_some he
  have hk : kk = k := eq_of_beq hp
  rw [Nat.zero_add] at h2
  show ks[i]? = some k
  rw [← hk, h3, List.getElem?_eq_getElem h2]
  rfl

theorem assoc_zipIdx_none {ks : List Text} {k : Text} (h : Assoc.get? ks.zipIdx k = none) : k ∉ ks := fun hk => by
  obtain ⟨i, hi, rfl⟩ := List.getElem_of_mem hk
  exact List.find?_eq_none.1 (Option.map_eq_none_iff.1 h) (ks[i], i) (List.mem_zipIdx_iff_getElem?.2 (List.getElem?_eq_getElem hi))
    (beq_self_eq_true _)

theorem assoc_insert_new (ks : List Text) (k : Text) (h : Assoc.get? ks.zipIdx k = none) :
    Assoc.insert ks.zipIdx k ks.length = (ks ++ [k]).zipIdx := by
  rw [assoc_insert_of_get_none _ _ _ h, List.zipIdx_append, Nat.zero_add]
  rfl

theorem lmInsert_length {α} (d : α) (m : List α) (k : Nat) (v : α) : (lmInsert d m k v).length = max m.length (k + 1) := by
  unfold lmInsert
  split
  · rename_i h
    rw [List.length_set, Nat.max_eq_left h]
  · rename_i h
    rw [List.length_append, List.length_append, List.length_replicate, List.length_singleton, Nat.add_sub_cancel' (Nat.le_of_not_lt h),
      Nat.max_eq_right (Nat.le_succ_of_le (Nat.le_of_not_lt h))]

theorem lmInsert_length_le {α} (d : α) (m : List α) (k : Nat) (v : α) : m.length ≤ (lmInsert d m k v).length := by
  rw [lmInsert_length]; exact Nat.le_max_left _ _

theorem lmInsert_at_length {α} (d : α) (m : List α) (v : α) : lmInsert d m m.length v = m ++ [v] := by
  unfold lmInsert
  simp

theorem lmInsert_get_self {α} (d : α) (m : List α) (k : Nat) (v : α) : (lmInsert d m k v)[k]? = some v := by
  unfold lmInsert
  split
  · rename_i h; simp [h]
  · rename_i h
    have : (m ++ List.replicate (k - m.length) d).length = k := by simp; omega
    rw [List.getElem?_append_right (by omega)]
    simp [this]

theorem lmInsert_get_other {α} (d : α) (m : List α) (k j : Nat) (v : α) (hj : j < m.length) (hne : j ≠ k) : (lmInsert d m k v)[j]? = m[j]? := by
  unfold lmInsert
  split
  · simp [hne.symm]
  · rw [List.append_assoc, List.getElem?_append_left hj]

theorem lmInsert_get {α} (d : α) (m : List α) (k : Nat) (v : α) (hk : k ≤ m.length) (j : Nat) :
    (lmInsert d m k v)[j]? = if j = k then some v else m[j]? := by
  by_cases hj : j = k
  · rw [if_pos hj, hj]; exact lmInsert_get_self d m k v
  · rw [if_neg hj]
    rcases Nat.lt_or_ge j m.length with h | h
    · exact lmInsert_get_other d m k j v h hj
    · rw [List.getElem?_eq_none h, List.getElem?_eq_none (by rw [lmInsert_length]; omega)]

theorem lmInsert_map {α β} (f : α → β) (d : α) (m : List α) (k : Nat) (v : α) : (lmInsert d m k v).map f = lmInsert (f d) (m.map f) k (f v) := by
  unfold lmInsert
  simp only [List.length_map]
  split
  · exact List.map_set
  · simp

theorem lmInsert_bound (m : List Nat) (k v B : Nat) (hm : ∀ g ∈ m, g < B) (hv : v < B) : ∀ g ∈ lmInsert 0 m k v, g < B := by
  intro g hg
  unfold lmInsert at hg
  split at hg
  · rcases List.mem_or_eq_of_mem_set hg with h | h
    · exact hm g h
    · rw [h]; exact hv
  · simp only [List.mem_append, List.mem_replicate, List.mem_singleton] at hg
    rcases hg with (h | h) | h
    · exact hm g h
    · rw [h.2]; exact Nat.lt_of_le_of_lt (Nat.zero_le v) hv
    · rw [h]; exact hv

def annS : List Ev → List Text
  | [] => []
  | .source _ s _ :: es => s :: annS es
  | _ :: es => annS es

def annN : List Ev → List Text
  | [] => []
  | .name _ n :: es => n :: annN es
  | _ :: es => annN es

def annSC : List Ev → List (Text × Option Text)
  | [] => []
  | .source _ s c :: es => (s, c) :: annSC es
  | _ :: es => annSC es

theorem annS_append (a b : List Ev) : annS (a ++ b) = annS a ++ annS b := by
  induction a with
  | nil => rfl
  | cons e es ih => cases e <;> simp [annS, ih]

theorem annN_append (a b : List Ev) : annN (a ++ b) = annN a ++ annN b := by
  induction a with
  | nil => rfl
  | cons e es ih => cases e <;> simp [annN, ih]

theorem annS_length (a : List Ev) : (annS a).length = cntS a := by
  induction a with
  | nil => rfl
  | cons e es ih => cases e <;> simp [annS, cntS, ih]

theorem annN_length (a : List Ev) : (annN a).length = cntN a := by
  induction a with
  | nil => rfl
  | cons e es ih => cases e <;> simp [annN, cntN, ih]

theorem annS_snoc_chunk (a : List Ev) (t : Option Text) (m : Mapping) : annS (a ++ [Ev.chunk t m]) = annS a := by
  rw [annS_append]; exact List.append_nil _

theorem annN_snoc_chunk (a : List Ev) (t : Option Text) (m : Mapping) : annN (a ++ [Ev.chunk t m]) = annN a := by
  rw [annN_append]; exact List.append_nil _

theorem annSC_fst (a : List Ev) : (annSC a).map (·.1) = annS a := by
  induction a with
  | nil => rfl
  | cons e es ih => cases e <;> simp [annSC, annS, ih]

theorem annSC_mem (evs : List Ev) (s : Text) (c : Option Text) (h : (s, c) ∈ annSC evs) : ∃ i, Ev.source i s c ∈ evs := by
  induction evs with
  | nil => cases h
  | cons e es ih =>
    have hcons : (s, c) ∈ annSC es → ∃ i, Ev.source i s c ∈ e :: es := fun h => (ih h).imp fun _ => List.mem_cons_of_mem _
    cases e with
    | chunk t m => exact hcons h
    | name i n => exact hcons h
    | source i s0 c0 =>
      rcases List.mem_cons.1 h with h | h
      · cases h; exact ⟨i, List.mem_cons_self⟩
      · exact hcons h

theorem annS_mem (evs : List Ev) (x : Text) (h : x ∈ annS evs) : ∃ i c, Ev.source i x c ∈ evs := by
  rw [← annSC_fst] at h
  obtain ⟨⟨s, c⟩, hsc, rfl⟩ := List.mem_map.1 h
  exact (annSC_mem evs s c hsc).imp fun i hi => ⟨c, hi⟩

def NoSrc (evs : List Ev) : Prop := ∀ i s c, Ev.source i s c ∉ evs

theorem annS_noSrc (l : List Ev) (h : NoSrc l) : annS l = [] :=
  List.eq_nil_iff_forall_not_mem.2 fun x hx => let ⟨i, c, hm⟩ := annS_mem l x hx; h i x c hm

theorem annS_chunks (evs : List Ev) (h : ∀ e ∈ evs, e.isChunk = true) : annS evs = [] :=
  annS_noSrc evs fun _ _ _ hm => nomatch h _ hm

theorem annN_chunks (evs : List Ev) (h : ∀ e ∈ evs, e.isChunk = true) : annN evs = [] := by
  induction evs with
  | nil => rfl
  | cons e es ih =>
    cases e with
    | chunk t m => exact ih fun x hx => h x (List.mem_cons_of_mem _ hx)
    | source i s c => cases h _ List.mem_cons_self
    | name i n => cases h _ List.mem_cons_self

def Ev.AnnOf (P : Text → Option Text → Prop) : Ev → Prop
  | .chunk _ _ => False
  | .source _ s c => P s c
  | .name _ _ => True

def Anns (P : Text → Option Text → Prop) (evs : List Ev) : Prop := ∀ e ∈ evs, e.AnnOf P

theorem Anns.nil {P : Text → Option Text → Prop} : Anns P [] := fun _ h => nomatch h

theorem Anns.append {P : Text → Option Text → Prop} {a b : List Ev} (ha : Anns P a) (hb : Anns P b) : Anns P (a ++ b) :=
  fun e he => (List.mem_append.1 he).elim (ha e) (hb e)

theorem Anns.cons {P : Text → Option Text → Prop} {e : Ev} {a : List Ev} (he : e.AnnOf P) (ha : Anns P a) : Anns P (e :: a) :=
  fun x hx => (List.mem_cons.1 hx).elim (fun h => h ▸ he) (ha x)

theorem Anns.mono {P Q : Text → Option Text → Prop} {a : List Ev} (h : Anns P a) (hpq : ∀ s c, P s c → Q s c) : Anns Q a := by
  intro e he
  have := h e he
  cases e with
  | chunk t m => exact this
  | source i s c => exact hpq s c this
  | name i n => trivial

theorem Anns.noChunk {P : Text → Option Text → Prop} {a : List Ev} (h : Anns P a) (t : Option Text) (m : Mapping) : Ev.chunk t m ∉ a :=
  fun hm => h _ hm

theorem Anns.isChunk {P : Text → Option Text → Prop} {a : List Ev} (h : Anns P a) : ∀ e ∈ a, e.isChunk = false := by
  intro e he
  have := h e he
  cases e with
  | chunk t m => exact this.elim
  | source i s c => rfl
  | name i n => rfl

theorem Anns.source {P : Text → Option Text → Prop} {a : List Ev} (h : Anns P a) {i : Nat} {s : Text} {c : Option Text}
    (hm : Ev.source i s c ∈ a) : P s c := h _ hm

theorem Anns.source_snoc {P : Text → Option Text → Prop} {a : List Ev} (h : Anns P a) {i : Nat} {s : Text} {c t : Option Text} {m : Mapping}
    (hm : Ev.source i s c ∈ a ++ [Ev.chunk t m]) : P s c :=
  (List.mem_append.1 hm).elim h.source fun hx => nomatch List.mem_singleton.1 hx

theorem globalSource_cases (sm : Assoc) (s : Text) (c : Option Text) :
    (∃ g, sm.get? s = some g ∧ globalSource sm s c = (sm, [], g))
    ∨ (sm.get? s = none ∧ globalSource sm s c = (sm.insert s sm.length, [.source sm.length s c], sm.length)) := by
  unfold globalSource
  cases sm.get? s with
  | some g => exact Or.inl ⟨g, rfl, rfl⟩
  | none => exact Or.inr ⟨rfl, rfl⟩

theorem globalName_cases (nm : Assoc) (n : Text) :
    (∃ g, nm.get? n = some g ∧ globalName nm n = (nm, [], g))
    ∨ (nm.get? n = none ∧ globalName nm n = (nm.insert n nm.length, [.name nm.length n], nm.length)) := by
  unfold globalName
  cases nm.get? n with
  | some g => exact Or.inl ⟨g, rfl, rfl⟩
  | none => exact Or.inr ⟨rfl, rfl⟩

theorem globalName_annOf (P : Text → Option Text → Prop) (nm : Assoc) (n : Text) : Anns P (globalName nm n).2.1 := by
  unfold globalName
  split
  · exact .nil
  · exact .cons trivial .nil

theorem globalSource_annOf {P : Text → Option Text → Prop} (sm : Assoc) (s : Text) (c : Option Text) (h : P s c) :
    Anns P (globalSource sm s c).2.1 := by
  unfold globalSource
  split
  · exact .nil
  · exact .cons h .nil

theorem globalName_noSrc (nm : Assoc) (n : Text) : NoSrc (globalName nm n).2.1 :=
  fun _ _ _ hm => (globalName_annOf (fun _ _ => False) nm n).source hm

theorem globalSource_anns (sm : Assoc) (s : Text) (c : Option Text) : ∀ e ∈ (globalSource sm s c).2.1, e.isChunk = false :=
  (globalSource_annOf (P := fun _ _ => True) sm s c trivial).isChunk

theorem globalName_anns (nm : Assoc) (n : Text) : ∀ e ∈ (globalName nm n).2.1, e.isChunk = false :=
  (globalName_annOf (fun _ _ => True) nm n).isChunk

theorem globalSource_spec (S : List Text) (source : Text) (content : Option Text) (nn : Nat) :
    (globalSource S.zipIdx source content).1 = (S ++ annS (globalSource S.zipIdx source content).2.1).zipIdx
    ∧ DeclOK S.length nn (globalSource S.zipIdx source content).2.1
    ∧ annN (globalSource S.zipIdx source content).2.1 = []
    ∧ (S ++ annS (globalSource S.zipIdx source content).2.1)[(globalSource S.zipIdx source content).2.2]? = some source := by
  unfold globalSource
  split
  · rename_i g hg
    simp only [annS, List.append_nil]
    exact ⟨trivial, trivial, rfl, assoc_get_zipIdx S source g hg⟩
  · rename_i hg
    simp only [List.length_zipIdx, annS, annN]
    refine ⟨assoc_insert_new S source hg, ⟨rfl, trivial⟩, trivial, ?_⟩
    simp

theorem globalName_spec (N : List Text) (name : Text) (ns : Nat) :
    (globalName N.zipIdx name).1 = (N ++ annN (globalName N.zipIdx name).2.1).zipIdx
    ∧ DeclOK ns N.length (globalName N.zipIdx name).2.1
    ∧ annS (globalName N.zipIdx name).2.1 = []
    ∧ (N ++ annN (globalName N.zipIdx name).2.1)[(globalName N.zipIdx name).2.2]? = some name := by
  unfold globalName
  split
  · rename_i g hg
    simp only [annN, List.append_nil]
    exact ⟨trivial, trivial, rfl, assoc_get_zipIdx N name g hg⟩
  · rename_i hg
    simp only [List.length_zipIdx, annS, annN]
    refine ⟨assoc_insert_new N name hg, ⟨rfl, trivial⟩, trivial, ?_⟩
    simp

theorem globalName_get (nm : Assoc) (n : Text) : (globalName nm n).1.get? n = some (globalName nm n).2.2 := by
  rcases globalName_cases nm n with ⟨g, hg, e⟩ | ⟨hg, e⟩
  · rw [e]; exact hg
  · rw [e]; exact assoc_get_insert_self nm n _ hg

theorem prefix_get {α} (a b : List α) (h : a <+: b) (i : Nat) (x : α) (hx : a[i]? = some x) : b[i]? = some x := by
  obtain ⟨r, rfl⟩ := h
  rw [List.getElem?_append_left (List.getElem?_eq_some_iff.1 hx).1]; exact hx

theorem prefix_get_eq {α} {a b c : List α} (h : a <+: b) {i j : Nat} (hj : j < c.length) (hx : a[i]? = c[j]?) : b[i]? = c[j]? := by
  rw [List.getElem?_eq_getElem hj] at hx ⊢
  exact prefix_get a b h i _ hx

end Rs
