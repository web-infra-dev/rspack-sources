import RsModel.Lemmas.Pos
import RsModel.Lemmas.SMText
/-! # C02 for the map-driven splitters (SourceMapSource leaf, CachedSource replay): with columns for an ASCII text and segments
inside the text, without columns for any text and any map

With columns the text is ASCII, so that the char columns of the splitter are the byte columns of `adv` (`cpos_ascii`).  Then the
text before a cursor `(l, c)` with `c` within the `width` of line `l` (its length without the closing line break) ends at `(l, c)`
(`valid_pos`); the walker's column stays within that width (`ColOK`, third part of `PosInv`) because every mapping it is moved
to lies `Inside` the text.

Also here: `streamSMFull_eq` with `end_of_lines` (the whole stream as announcements and a walk closed by the sentinel at the end
of the text), which C08 reads too. -/
namespace Rs

theorem forall_u8 {P : UInt8 → Prop} (h : ∀ n, n < 256 → P (UInt8.ofNat n)) (c : UInt8) : P c := by
  have := h c.toNat c.toNat_lt
  simpa using this

theorem ascii_not_cont : ∀ b : UInt8, b.toNat < 128 → isCont b = false := by
  apply forall_u8; decide +kernel

theorem charStartsFrom_ascii : ∀ (t : Text) (i : Nat), IsAscii t → charStartsFrom i t = List.range' i t.length := by
  intro t
  induction t with
  | nil => intro i _; rfl
  | cons b bs ih =>
    intro i h
    have hb := ascii_not_cont b (h b (by simp))
    simp only [charStartsFrom, hb, Bool.false_eq_true, if_false, List.length_cons, List.range'_succ]
    rw [ih (i + 1) (fun x hx => h x (by simp [hx]))]

theorem cpos_ascii (ln : Text) (h : IsAscii ln) (c : Nat) (hc : c ≤ ln.length) : cpos ln c = c := by
  unfold cpos charStarts
  rw [charStartsFrom_ascii ln 0 h]
  by_cases hlt : c < ln.length
  · simp [List.getD_eq_getElem?_getD, hlt]
  · have : c = ln.length := by omega
    subst this
    simp [List.getD_eq_getElem?_getD]

theorem cpos_ascii_min (ln : Text) (h : IsAscii ln) (c : Nat) : cpos ln c = min c ln.length := by
  rcases Nat.le_total c ln.length with hc | hc
  · rw [cpos_ascii ln h c hc, Nat.min_eq_left hc]
  · rw [cpos_big ln c hc, Nat.min_eq_right hc]

theorem csub_length_ascii (ln : Text) (h : IsAscii ln) (a b : Nat) : (csub ln a b).length = min b ln.length - min a ln.length := by
  by_cases hab : a ≤ b
  · rw [csub_eq ln a b hab, List.length_drop, List.length_take, cpos_ascii_min ln h a, cpos_ascii_min ln h b, Nat.min_assoc, Nat.min_self]
  · rw [csub, if_pos (by omega)]
    exact (Nat.sub_eq_zero_of_le (by omega)).symm

def width (ln : Text) : Nat := if endsWithNL ln then ln.length - 1 else ln.length

theorem width_cases (s : Text) (hs : ∀ x ∈ s, x ≠ NL) : width (s ++ [NL]) = s.length ∧ width s = s.length := by
  unfold width
  rw [endsWithNL_snoc, endsWithNL_noNL s hs]
  simp

theorem width_le (ln : Text) : width ln ≤ ln.length := by
  unfold width
  split
  · exact Nat.sub_le _ _
  · exact Nat.le_refl _

theorem ascii_lineAt (lines : List Text) (hA : ∀ ln ∈ lines, IsAscii ln) (l : Nat) : IsAscii (lineAt lines l) :=
  forall_getD nofun hA _

theorem valid_pos (lines : List Text) (hL : Lines lines) (hA : ∀ ln ∈ lines, IsAscii ln) (l c : Nat) (h1 : 1 ≤ l) (hl : l ≤ lines.length)
    (hc : c ≤ width (lineAt lines l)) : adv startPos (emitted lines l c) = ⟨l, c⟩ := by
  obtain ⟨⟨s, hs, hcase⟩, hadv⟩ := lines_get lines hL (l - 1) (by omega)
  -- up to its width, the line is `s`, which has no line break
  have hcl : c ≤ s.length ∧ (lineAt lines l).take c = s.take c := by
    rcases hcase with h | ⟨_, h⟩ <;> rw [lineAt, h] at hc ⊢
    · rw [(width_cases s hs).1] at hc; exact ⟨hc, List.take_append_of_le_length hc⟩
    · rw [(width_cases s hs).2] at hc; exact ⟨hc, rfl⟩
  rw [emitted, cpos_ascii (lineAt lines l) (ascii_lineAt lines hA _) c (Nat.le_trans hc (width_le _)), adv_append, startPos, hadv, hcl.2,
    adv_noNL (s.take c) _ (fun x hx => hs x (List.mem_of_mem_take hx))]
  simp only [List.length_take, Pos.mk.injEq]
  omega

structure Env (lines : List Text) : Prop where
  ls : Lines lines
  ascii : ∀ ln ∈ lines, IsAscii ln
  wf : WFLines lines

def Inside (lines : List Text) (m : Mapping) : Prop := 1 ≤ m.gl ∧ (m.gl ≤ lines.length → m.gc ≤ width (lineAt lines m.gl))

def ColOK (lines : List Text) (s : FullSt) : Prop := s.line ≤ lines.length → s.col ≤ width (lineAt lines s.line)

def PosInv (lines : List Text) (pre : Text) (acc : List Ev) (s : FullSt) : Prop :=
  TextInv lines pre acc s ∧ posOKT pre acc ∧ ColOK lines s

theorem posMoves (lines : List Text) (E : Env lines) (pre : Text) (fl fc : Nat) (m : Mapping) (hi : Inside lines m) :
    MoveOK (PosInv lines pre) (PosInv lines pre) lines fl fc m where
  move := fun _ s _ s' h hv => by
    obtain ⟨b, hd, _, he⟩ := hv.stretch E.wf
    refine ⟨(textMoves lines E.wf pre fl fc m).move _ _ _ _ h.1 hv, ?_, fun hn => ?_⟩
    · rw [posOKT_append, h.1.1]
      refine ⟨h.2.1, ?_⟩
      rcases he with ⟨rfl, _⟩ | ⟨hn, rfl⟩
      · trivial
      · exact ⟨(valid_pos lines E.ls E.ascii s.line s.col h.1.2 hn (h.2.2 hn)).symm, trivial⟩
    · rcases hd with ⟨_, _, _, hc⟩ | ⟨he, _, hb, hl, hc⟩
      · rw [hc]; exact Nat.zero_le _
      · rw [hc, hb, hl, he]; exact hi.2 (by rw [← he, ← hl]; exact hn)
  activate := fun acc s h hq hl hc => by
    obtain ⟨e1, e2⟩ := smStep5_pos fl fc s m
    exact ⟨(textMoves lines E.wf pre fl fc m).activate acc s h.1 hq hl hc, h.2.1, fun hn => by rw [e1] at hn; rw [e1, e2]; exact h.2.2 hn⟩

theorem smFullGo_pos (lines : List Text) (E : Env lines) (fl fc : Nat) (ms : List Mapping) (s : FullSt) (h1 : 1 ≤ s.line) (hc : ColOK lines s)
    (hi : ∀ m ∈ ms, Inside lines m) : posOKT (emitted lines s.line s.col) (smFullGo lines fl fc s ms) := by
  have := smFullGo_walk lines fl fc ms
    (fun m hm acc s' h hb => smFullStep_walk (posMoves lines E (emitted lines s.line s.col) fl fc m (hi m hm)) acc s' h hb)
    [] s ⟨⟨by rw [evsText_nil, List.append_nil], h1⟩, trivial, hc⟩
  rw [List.nil_append] at this
  exact this.2.1


theorem mem_splitLines_sub (t : Text) : ∀ ln ∈ splitLines t, ∀ b ∈ ln, b ∈ t := by
  intro ln hln b hb
  have := splitLines_join t
  rw [← this]
  exact List.mem_flatten.2 ⟨ln, hln, hb⟩

theorem textOK_of_ascii (t : Text) (ha : IsAscii t) (hl : t.length ≤ USIZE_MAX) : TextOK t := by
  refine ⟨?_, hl⟩
  intro ln hln b rest he
  subst he
  exact ascii_not_cont b (ha b (mem_splitLines_sub t _ hln b (by simp)))

theorem env_of_ascii (t : Text) (ha : IsAscii t) (hl : t.length ≤ USIZE_MAX) : Env (splitLines t) :=
  ⟨lines_of_splitLines t, fun ln hln b hb => ha b (mem_splitLines_sub t ln hln b hb), wfLines_of_textOK t (textOK_of_ascii t ha hl)⟩

theorem end_of_lines (ls : List Text) (hne : ls ≠ []) (fl fc : Nat) (hend : lineLoopInfo ls = ⟨fl, fc⟩) :
    1 ≤ fl ∧ fl ≤ ls.length + 1 ∧ (fl = ls.length + 1 → fc = 0) ∧ (fl ≤ ls.length → fc ≤ width (lineAt ls fl)) := by
  have hlen : 0 < ls.length := List.length_pos_iff.mpr hne
  have hlast : ls.getLast? = some (lineAt ls ls.length) := by
    unfold lineAt
    rw [List.getLast?_eq_getElem?, List.getD_eq_getElem?_getD, List.getElem?_eq_getElem (by omega)]
    rfl
  rw [lineLoopInfo, hlast] at hend
  dsimp only at hend
  by_cases hnl : endsWithNL (lineAt ls ls.length) = true
  · rw [if_pos hnl] at hend
    cases hend
    exact ⟨by omega, Nat.le_refl _, fun _ => rfl, fun h => by omega⟩
  · rw [if_neg hnl] at hend
    cases hend
    exact ⟨hlen, Nat.le_succ _, fun h => by omega, fun _ => by unfold width; rw [if_neg hnl]; exact Nat.le_refl _⟩

theorem splitLines_ne_nil {t : Text} (ht : t ≠ []) : splitLines t ≠ [] :=
  fun h => ht ((splitLines_isEmpty_iff t).1 (List.isEmpty_iff.2 h))

/-- **`stream_chunks_of_source_map_full` of a text that is not empty**: the announcements, then the walk from the start over the map
closed by a sentinel segment at the end of the text, which the splitter computes from the last line -/
theorem streamSMFull_eq (t : Text) (sm : SMap) (ht : t ≠ []) : streamSMFull t sm =
    ⟨smSourceEvs sm ++ smNameEvs sm ++ smFullGo (splitLines t) (adv startPos t).line (adv startPos t).col {}
      (decode sm.mappings ++ [⟨(adv startPos t).line, (adv startPos t).col, none⟩]), adv startPos t⟩ := by
  have hend : lineLoopInfo (splitLines t) = ⟨if endsWithNL ((splitLines t).getLast?.getD []) then (splitLines t).length + 1 else (splitLines t).length,
      if endsWithNL ((splitLines t).getLast?.getD []) then 0 else ((splitLines t).getLast?.getD []).length⟩ := by
    unfold lineLoopInfo
    cases h : (splitLines t).getLast? with
    | none => exact absurd (List.getLast?_eq_none_iff.1 h) (splitLines_ne_nil ht)
    | some last => dsimp only [Option.getD_some]; split <;> rfl
  rw [adv_text_end, hend, streamSMFull, if_neg (mt List.isEmpty_iff.1 (splitLines_ne_nil ht))]

def MapInside (t : Text) (sm : SMap) : Prop := ∀ m ∈ decode sm.mappings, Inside (splitLines t) m

theorem streamSMFull_posOK (t : Text) (sm : SMap) (ha : IsAscii t) (hl : t.length ≤ USIZE_MAX) (hm : MapInside t sm) :
    PosOK (streamSMFull t sm) := by
  by_cases ht : t = []
  · subst ht; exact ⟨trivial, rfl⟩
  have E := env_of_ascii t ha hl
  obtain ⟨h1, _, _, hw⟩ := end_of_lines (splitLines t) (splitLines_ne_nil ht) _ _ (adv_text_end t).symm
  have hgo := smFullGo_pos (splitLines t) E (adv startPos t).line (adv startPos t).col (decode sm.mappings ++ [⟨_, _, none⟩]) {}
    (Nat.le_refl 1) (fun _ => Nat.zero_le _)
    -- the closing mapping points at the end of the text
    fun m hmem => (List.mem_append.1 hmem).elim (hm m) fun h => List.mem_singleton.1 h ▸ ⟨h1, hw⟩
  rw [show emitted (splitLines t) ({} : FullSt).line ({} : FullSt).col = [] from emitted_begin _ E.wf] at hgo
  unfold PosOK
  rw [streamSMFull_text t sm (textOK_of_ascii t ha hl), streamSMFull_eq t sm ht, posOKT_append, posOKT_append, evsText_append,
    smSourceEvs_notext, smNameEvs_notext]
  exact ⟨⟨⟨posOKT_nochunk _ _ (smSourceEvs_noChunk sm), posOKT_nochunk _ _ (smNameEvs_noChunk sm)⟩, hgo⟩, rfl⟩

/-- **SourceMapSource leaf without columns**: holds for ANY text and ANY attached map -/
theorem streamSMLinesFull_posOK (t : Text) (sm : SMap) : PosOK (streamSMLinesFull t sm) := by
  obtain ⟨hd, hnc, e⟩ := streamSMLinesFull_eq t sm
  rw [e]
  exact lineStream_posOK hnc _ t

/-- **the map-driven splitters**: a SourceMapSource without inner map, or the replay of a CachedSource -/
theorem streamSM_posOK (t : Text) (sm : SMap) (c : Bool) (ha : IsAscii t) (hl : t.length ≤ USIZE_MAX) (hm : c = true → MapInside t sm) :
    PosOK (streamSM t sm ⟨c, false⟩) := by
  cases c
  · exact streamSMLinesFull_posOK t sm
  · exact streamSMFull_posOK t sm ha hl (hm rfl)

instance (lines : List Text) (m : Mapping) : Decidable (Inside lines m) := by unfold Inside; infer_instance
instance (t : Text) (sm : SMap) : Decidable (MapInside t sm) := by unfold MapInside; infer_instance

end Rs
