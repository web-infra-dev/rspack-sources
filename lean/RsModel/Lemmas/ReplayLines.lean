import RsModel.Lemmas.LinesSM
/-! # C10, columns = false: what the map `get_map` built from a stream decodes to (`mapOfEvs_decode_lines`), and that the replay
attributes every generated line as the first stream did -/
namespace Rs

theorem mapOfEvs_decode_lines (evs : List Ev) (hsmall : ∀ m ∈ chunkMs evs, ∀ o, m.orig = some o → o.src < U31 ∧ o.line < U31)
    (hlo : linesOK 1 (chunkMs evs)) (sm : SMap) (h : mapOfEvs false evs = some sm) : decode sm.mappings = keptLines {} (chunkMs evs) := by
  rw [mapOfEvs_mappings_lines evs sm h]; exact decode_lencode _ hsmall hlo

theorem mapOfEvs_lookupLines (evs : List Ev) (hsmall : ∀ m ∈ chunkMs evs, ∀ o, m.orig = some o → o.src < U31 ∧ o.line < U31)
    (hlo : linesOK 1 (chunkMs evs)) (sm : SMap) (h : mapOfEvs false evs = some sm) (L : Nat) (hL : 0 < L) :
    lookupLines (decode sm.mappings) L = lookupLines (chunkMs evs) L := by
  rw [mapOfEvs_decode_lines evs hsmall hlo sm h]; exact lookupLines_kept _ L hL

theorem keptLines_sortedFrom (ms : List Mapping) (hlo : linesOK 1 ms) : sortedFrom 1 0 (keptLines {} ms) := by
  obtain ⟨a, b⟩ := keptLines_increasing ms {} (linesOK_mono (Nat.zero_le 1) _ hlo)
  rw [sortedFrom_iff]
  constructor
  · intro x hx
    have : 0 < x.gl := a x hx
    by_cases h : 1 < x.gl
    · exact Or.inl h
    · exact Or.inr ⟨by omega, Nat.zero_le _⟩
  · exact b.imp (fun hab => Or.inl hab)

/-- **replay, columns = false**: streaming the text through the line-granular splitter with the map `get_map` built from a stream
`r` of that text attributes every generated line that carries text to the source and original line of `r`'s first mapped chunk
on that line -/
theorem replay_lines (r : SResult) (hp : PosOK r) (hTL : evsTL r.evs = false)
    (hsmall : ∀ m ∈ chunkMs r.evs, ∀ o, m.orig = some o → o.src < U31 ∧ o.line < U31)
    (sm : SMap) (hm : mapOfEvs false r.evs = some sm) (L : Nat) (h1 : 1 ≤ L) (hL : L ≤ (splitLines (evsText r.evs)).length) :
    lookupLines (chunkMs (streamSMLinesFull (evsText r.evs) sm).evs) L = lookupLines (chunkMs r.evs) L := by
  have hlo := linesOK_of_sorted _ 1 0 (chunkMs_sorted r.evs [] hp.1 hTL)
  -- C08 (columns = false) on the stored map, which decodes to what the lines-only encoder keeps of `r`'s chunks (C12, lines)
  rw [streamSMLinesFull_lines _ sm (by rw [mapOfEvs_decode_lines _ hsmall hlo sm hm]; exact keptLines_sortedFrom _ hlo) L h1 hL]
  exact mapOfEvs_lookupLines _ hsmall hlo sm hm L h1

end Rs
