import RsModel.Lemmas.ModeConcat
import RsModel.Lemmas.CombModes
import RsModel.Lemmas.ColdStrip
import RsModel.Lemmas.DeclTree
/-!
# final_source mode attributes like normal mode: trees, and `get_map` (columns = true)

`M3 F N T` is what the tree induction carries for the text-less stream `F` and the normal stream `N` of a source with text `T`.
It is proved per node kind (leaves, ReplaceSource: `M3.same`, ConcatSource: `M3.concatNode`), then for every cache-free tree of
the domain `ModeHyp` (`Src.m3`), with what the contracts of C01 / C02 / C11 give on it (`Src.ModeFacts`).  What `M3` is for: the
map built from any stream that stands for the normal-mode one attributes like it (`M3.map_attr`: T1 ∘ `M3` ∘ `attr_of_stream`),
`get_map` being the case of the text-less stream (`getMap_attr`).  (T1, T2, T3 are the steps of C03 as Props/C03.lean labels them:
the codec round trip keeps every lookup; the map built from a stream attributes like the stream; the text-less stream that `map()`
consumes attributes like the normal one, which is `M3` for the two streams of a tree: `Src.m3`.)

A CachedSource whose cache holds nothing for this option set streams its inner source (and then stores the map).  With distinct
caches for distinct CachedSource nodes (`Nodup`) every node of the tree sees its cache cold during one call, so a tree of the
domain `ModeHypC` streams what `Src.strip` of it streams (`Src.stream_strip`), in both modes: T3 is that of the cache-free tree
(`Src.m3c`), and `get_map` follows from it in the same way (`getMap_attrC`).
-/
namespace Rs

/-! What a leaf announces does not depend on the mode: read off the shape of its stream (`streamOriginal_evs`, `streamSM_evs`). -/

theorem streamRaw_decls (t : Text) (o : Opts) : declsOf (streamRaw t o).evs = [] := by
  unfold streamRaw
  split
  · rfl
  · exact declsOf_chunks _ (isChunk_of_origs _ (rawChunks_origs (fun _ => True) _ _))

theorem streamOriginal_decls (t name : Text) (o : Opts) : declsOf (streamOriginal t name o).evs = [.source 0 name (some t)] := by
  obtain ⟨body, he, hb⟩ := streamOriginal_evs t name o
  rw [he, declsOf_cons_decl _ _ rfl, declsOf_chunks _ (isChunk_of_origs _ hb)]

theorem streamSM_decls (t : Text) (sm : SMap) (c b : Bool) :
    declsOf (streamSM t sm ⟨c, b⟩).evs = if t = [] then [] else smAnnEvs sm c := by
  obtain ⟨C, hC, e⟩ := streamSM_evs t sm ⟨c, b⟩
  rw [e]
  split
  · rfl
  · rw [declsOf_append, declsOf_noChunk _ (smAnnEvs_noChunk sm _), declsOf_chunks _ hC, List.append_nil]

mutual
/-- what a SourceMapSource *with an inner map* (the combinator) needs in addition: an outer map whose generated positions
strictly increase, and an inner map referencing existing entries of its own tables -/
def InnerHyp (map : SMap) : Option SMap → Prop
  | none => True
  | some im => (decode map.mappings).Pairwise mlt ∧ MapIdxOK im

/-- the trees covered: Raw / Original / SourceMapSource (ASCII text, sorted map inside the text referencing existing entries; with
or without an inner map) leaves under ConcatSource and ReplaceSource, no CachedSource -/
def Src.ModeHyp : Src → Prop
  | .sms t _ map _ inner _ => InnerHyp map inner ∧ IsAscii t ∧ t.length ≤ USIZE_MAX ∧ sortedFrom 1 0 (decode map.mappings)
      ∧ (∀ m ∈ decode map.mappings, SegOK (splitLines t) (adv startPos t).line (adv startPos t).col m) ∧ MapIdxOK map
  | .concat cs => cs.ModeHyps
  | .replace inner rs => inner.ModeHyp ∧ (∀ r ∈ rs, r.start ≤ r.stop) ∧ (replaceSource inner.src rs).length + 1 < 2 ^ 32
  | .cached _ _ => False
  | _ => True
def SrcList.ModeHyps : SrcList → Prop
  | .nil => True
  | .cons s r => s.ModeHyp ∧ r.ModeHyps
end

structure M3 (F N : SResult) (T : Text) : Prop where
  sorted : sortedFrom 1 0 (chunkMs F.evs)
  decls : declsOf F.evs = declsOf N.evs
  look : LookEq T (chunkMs F.evs) (chunkMs N.evs)

/-- with the contracts of C01 / C02 / C11 for the two streams, `M3` is what ConcatSource asks of a child -/
theorem ChildOK.of_m3 {F N : SResult} {T : Text} (m : M3 F N T) (hp : PosOK N) (hT : ChunksTok N.evs) (hTL : evsTL N.evs = false)
    (hx : evsText N.evs = T) (hdN : DeclOK 0 0 N.evs) (hdF : DeclOK 0 0 F.evs) (hf : FinOK T F) : ChildOK F N T := by
  subst hx
  exact ⟨hf, finOK_of_posOK _ hp hTL, linesOK_of_sorted _ 1 0 m.sorted, tiles_of_posOK _ hp hT, hdF, hdN, m.decls, m.look⟩

theorem childOK_same (r : SResult) (hp : PosOK r) (hT : ChunksTok r.evs) (hTL : evsTL r.evs = false) (hd : DeclOK 0 0 r.evs) :
    ChildOK r r (evsText r.evs) where
  finF := finOK_of_posOK r hp hTL
  finN := finOK_of_posOK r hp hTL
  lines := linesOK_of_sorted _ 1 0 (chunkMs_sorted r.evs [] hp.1 hTL)
  tiles := tiles_of_posOK r hp hT
  declF := hd
  declN := hd
  decls := rfl
  look := lookEq_refl _ _

theorem M3.raw (t : Text) : M3 (streamRaw t ⟨true, true⟩) (streamRaw t ⟨true, false⟩) t :=
  ⟨trivial, by rw [streamRaw_decls, streamRaw_decls], streamRaw_lookEq t true⟩

theorem M3.orig (t name : Text) : M3 (streamOriginal t name ⟨true, true⟩) (streamOriginal t name ⟨true, false⟩) t :=
  ⟨streamOriginal_final_sorted t name, by rw [streamOriginal_decls, streamOriginal_decls], streamOriginal_lookEq t name⟩

theorem M3.sms (t name : Text) (map : SMap) (origSrc : Option Text) (inner : Option SMap) (remove : Bool) (σF σN : Store)
    (hinner : InnerHyp map inner) (ha : IsAscii t) (hl : t.length ≤ USIZE_MAX) (hs : sortedFrom 1 0 (decode map.mappings))
    (hseg : ∀ m ∈ decode map.mappings, SegOK (splitLines t) (adv startPos t).line (adv startPos t).col m) :
    M3 ((Src.sms t name map origSrc inner remove).stream ⟨true, true⟩ σF).1 ((Src.sms t name map origSrc inner remove).stream ⟨true, false⟩ σN).1 t := by
  cases inner with
  | none => exact ⟨streamSM_final_sorted t map hs, (streamSM_decls t map true true).trans (streamSM_decls t map true false).symm, streamSM_lookEq t map ha hl hs hseg⟩
  | some im =>
    obtain ⟨c1, c2, c3⟩ := streamCombined_m3 t map name origSrc im remove ha hl hs hinner.1 hseg
    exact ⟨c1, c2, c3⟩

/-- a stream that serves both modes: ReplaceSource, a cache filled by streaming -/
theorem M3.same (r : SResult) (hp : PosOK r) (hTL : evsTL r.evs = false) : M3 r r (evsText r.evs) :=
  ⟨chunkMs_sorted _ [] hp.1 hTL, rfl, lookEq_refl _ _⟩

theorem M3.concat {cfs cns : List SResult} {Ts : List Text} (h : ChildrenOK cfs cns Ts)
    (hs : ∀ c ∈ cfs, sortedFrom 1 0 (chunkMs c.evs)) : M3 (concatStream true cfs) (concatStream false cns) Ts.flatten := by
  have hrel : FRel ({} : CSt) (adv startPos []) := ⟨rfl, rfl⟩
  refine ⟨concatStream_sorted true _ _ h.all.1 hs, concatGo_decls _ _ _ h {} {} rfl rfl, fun j hj => ?_⟩
  exact concatGo_modes _ _ _ h {} {} [] [] [] hrel hrel rfl rfl (fun _ hm => nomatch hm) (fun _ hm => nomatch hm) (fun _ _ _ => rfl) rfl j hj

theorem M3.concatNode {cfs cns : List SResult} {Ts : List Text} (h : ChildrenOK cfs cns Ts)
    (hs : ∀ c ∈ cfs, sortedFrom 1 0 (chunkMs c.evs)) : M3 (concatNode true cfs) (concatNode false cns) Ts.flatten := by
  cases h with
  | nil => exact M3.concat .nil hs
  | cons cf cn T cfs cns Ts hc hrest =>
    cases hrest with
    | nil =>
      rw [List.flatten_singleton]
      exact ⟨hs cf (by simp), hc.decls, hc.look⟩
    | cons => exact M3.concat (.cons _ _ _ _ _ _ hc (.cons _ _ _ _ _ _ ‹_› ‹_›)) hs

theorem cold_storeHypB (c : Bool) (σ : Store) (s : Src) (h : Cold σ s.ids) : StoreHypB c σ s.cachedNodes := by
  intro p hp f m hm
  rw [h p.1 (List.mem_map_of_mem hp)] at hm
  cases hm

theorem cold_storeIdx (σ : Store) (s : Src) (h : Cold σ s.ids) : StoreIdx σ s.cachedNodes := by
  intro p hp o m hm
  rw [h p.1 (List.mem_map_of_mem hp)] at hm
  cases hm

mutual
def Src.ModeHypC : Src → Prop
  | .sms t _ map _ inner _ => InnerHyp map inner ∧ IsAscii t ∧ t.length ≤ USIZE_MAX ∧ sortedFrom 1 0 (decode map.mappings)
      ∧ (∀ m ∈ decode map.mappings, SegOK (splitLines t) (adv startPos t).line (adv startPos t).col m) ∧ MapIdxOK map
  | .concat cs => cs.ModeHypsC
  | .replace inner rs => inner.ModeHypC ∧ (∀ r ∈ rs, r.start ≤ r.stop) ∧ (replaceSource inner.src rs).length + 1 < 2 ^ 32
  | .cached _ inner => inner.ModeHypC ∧ IsAscii inner.src ∧ inner.src.length ≤ USIZE_MAX
  | _ => True
def SrcList.ModeHypsC : SrcList → Prop
  | .nil => True
  | .cons s r => s.ModeHypC ∧ r.ModeHypsC
end

mutual
theorem Src.modeHypC_base : ∀ (s : Src), s.ModeHypC → s.WF ∧ s.PosHyp true ∧ s.IdxHyp
  | .raw .. | .rawStr .. | .rawBuf .. | .orig .. => fun _ => ⟨trivial, trivial, trivial⟩
  | .sms t _ _ _ inner _ => fun ⟨hinner, ha, hl, _, hseg, hidx⟩ => by
    refine ⟨textOK_of_ascii t ha hl, ⟨ha, hl, fun _ m hm => (hseg m hm).1⟩, ?_⟩
    cases inner with
    | none => exact hidx
    | some im => exact ⟨hidx, hinner.2⟩
  | .concat cs => SrcList.modeHypsC_base cs
  | .replace inner _ => fun h =>
    let ⟨b, c, d⟩ := Src.modeHypC_base inner h.1
    ⟨⟨b, h.2.1⟩, ⟨c, h.2.2⟩, d⟩
  | .cached _ inner => fun h =>
    let ⟨b, c, d⟩ := Src.modeHypC_base inner h.1
    ⟨⟨b, textOK_of_ascii _ h.2.1 h.2.2⟩, ⟨c, h.2.1, h.2.2⟩, d⟩
theorem SrcList.modeHypsC_base : ∀ (l : SrcList), l.ModeHypsC → l.WFs ∧ l.PosHyps true ∧ l.IdxHyps
  | .nil => fun _ => ⟨trivial, trivial, trivial⟩
  | .cons s r => fun h =>
    let ⟨b, c, d⟩ := Src.modeHypC_base s h.1
    let ⟨b', c', d'⟩ := SrcList.modeHypsC_base r h.2
    ⟨⟨b, b'⟩, ⟨c, c'⟩, ⟨d, d'⟩⟩
end

/-- what the normal- and text-less-mode theorems of C01 / C02 / C11 say of the two streams of a tree, for one setting of `columns` -/
structure Src.ModeFacts (s : Src) (c : Bool) (σF σN : Store) : Prop where
  pos : PosOK (s.stream ⟨c, false⟩ σN).1
  tok : ChunksTok (s.stream ⟨c, false⟩ σN).1.evs
  tl : evsTL (s.stream ⟨c, false⟩ σN).1.evs = false
  text : evsText (s.stream ⟨c, false⟩ σN).1.evs = s.src
  declN : DeclOK 0 0 (s.stream ⟨c, false⟩ σN).1.evs
  declF : DeclOK 0 0 (s.stream ⟨c, true⟩ σF).1.evs
  fin : FinOK s.src (s.stream ⟨c, true⟩ σF).1

theorem Src.cold_facts (s : Src) (c : Bool) (hw : s.WF) (hp : s.PosHyp c) (hi : s.IdxHyp) (hn : s.ids.Nodup) (σF σN : Store)
    (hcF : Cold σF s.ids) (hcN : Cold σN s.ids) : s.ModeFacts c σF σN :=
  ⟨Src.stream_posOK s c σN hw hp hn (storeHypB_normal c σN _ (cold_storeHypB c σN s hcN)), Src.stream_tok s c σN, Src.stream_tl s c σN,
    Src.stream_text s c σN hw, Src.stream_declOK s _ σN hi hn (cold_storeIdx σN s hcN), Src.stream_declOK s _ σF hi hn (cold_storeIdx σF s hcF),
    Src.stream_finOK s c σF hw hp hn (cold_storeHypB c σF s hcF)⟩

theorem Src.base_factsC (s : Src) (h : s.ModeHypC) (hn : s.ids.Nodup) (σF σN : Store) (hcF : Cold σF s.ids) (hcN : Cold σN s.ids) :
    s.ModeFacts true σF σN :=
  have ⟨hw, hp, hi⟩ := Src.modeHypC_base s h
  Src.cold_facts s true hw hp hi hn σF σN hcF hcN

mutual
theorem Src.modeHyp_hypC : ∀ (s : Src), s.ModeHyp → s.NoCached ∧ s.ModeHypC
  | .raw .. | .rawStr .. | .rawBuf .. | .orig .. => fun _ => ⟨trivial, trivial⟩
  | .sms .. => fun h => ⟨trivial, h⟩
  | .concat cs => SrcList.modeHyps_hypsC cs
  | .replace inner _ => fun h => ⟨(Src.modeHyp_hypC inner h.1).1, (Src.modeHyp_hypC inner h.1).2, h.2⟩
  | .cached .. => fun h => h.elim
theorem SrcList.modeHyps_hypsC : ∀ (l : SrcList), l.ModeHyps → l.NoCachedL ∧ l.ModeHypsC
  | .nil => fun _ => ⟨trivial, trivial⟩
  | .cons s r => fun h =>
    ⟨⟨(Src.modeHyp_hypC s h.1).1, (SrcList.modeHyps_hypsC r h.2).1⟩, (Src.modeHyp_hypC s h.1).2, (SrcList.modeHyps_hypsC r h.2).2⟩
end

theorem SrcList.streams_cons (s : Src) (rest : SrcList) (o : Opts) (h : s.ModeHyp) :
    ((SrcList.cons s rest).streams o []).1 = (s.stream o []).1 :: (rest.streams o []).1 := by
  simp only [SrcList.streams, (Src.stream_nc s o [] (Src.modeHyp_hypC s h).1).1]

theorem Src.base_facts (s : Src) (h : s.ModeHyp) : s.ModeFacts true [] [] := by
  obtain ⟨hnc, hc⟩ := Src.modeHyp_hypC s h
  exact Src.base_factsC s hc (Src.nc_nodup s hnc) [] [] (cold_nil _) (cold_nil _)

mutual
/-- **T3, columns = true**: for every tree of the domain the text-less stream is sorted, announces what the normal stream
announces, and answers every lookup at a character position of `source()` like the normal stream -/
theorem Src.m3 : ∀ (s : Src), s.ModeHyp → M3 (s.stream ⟨true, true⟩ []).1 (s.stream ⟨true, false⟩ []).1 s.src
  | .raw _ _ lossy | .rawBuf _ lossy => fun _ => M3.raw lossy
  | .rawStr t => fun _ => M3.raw t
  | .orig t name => fun _ => M3.orig t name
  | .sms t name map origSrc inner remove => fun h => M3.sms t name map origSrc inner remove [] [] h.1 h.2.1 h.2.2.1 h.2.2.2.1 h.2.2.2.2.1
  | .concat cs => fun h => by
    obtain ⟨r1, r2⟩ := SrcList.m3s cs h
    rw [Src.concat_stream, Src.concat_stream, Src.src, ← SrcList.srcList_flatten]
    exact M3.concatNode r1 r2
  | .replace inner rs => fun h => by
    -- a ReplaceSource streams its inner source with text in either mode
    have b := Src.base_facts (.replace inner rs) h
    rw [Src.replace_stream_final, ← b.text]
    exact M3.same _ b.pos b.tl
  | .cached .. => fun h => h.elim
theorem SrcList.m3s : ∀ (l : SrcList), l.ModeHyps →
    ChildrenOK (l.streams ⟨true, true⟩ []).1 (l.streams ⟨true, false⟩ []).1 l.srcList
    ∧ ∀ c ∈ (l.streams ⟨true, true⟩ []).1, sortedFrom 1 0 (chunkMs c.evs)
  | .nil => fun _ => ⟨ChildrenOK.nil, nofun⟩
  | .cons s rest => fun h => by
    have hs := Src.m3 s h.1
    have b := Src.base_facts s h.1
    obtain ⟨r1, r2⟩ := SrcList.m3s rest h.2
    rw [SrcList.streams_cons s rest _ h.1, SrcList.streams_cons s rest _ h.1]
    exact ⟨ChildrenOK.cons _ _ _ _ _ _ (ChildOK.of_m3 hs b.pos b.tok b.tl b.text b.declN b.declF b.fin) r1, List.forall_mem_cons.2 ⟨hs.sorted, r2⟩⟩
end

/-- what `M3` is for: a lookup in the chunk mappings of `F`, at any character of the text, finds the location of the chunk of `N`
that covers the character (`attr_of_stream` for `N`, which honours C01 / C02 and delivers tokens) -/
theorem M3.attr {F N : SResult} {T : Text} (m : M3 F N T) (hp : PosOK N) (hT : ChunksTok N.evs) (hTL : evsTL N.evs = false)
    (hx : evsText N.evs = T) : attrFrom (chunkMs F.evs) startPos T = attrOf N.evs := by
  rw [(lookEq_iff T _ _).1 m.look, ← hx]
  exact attr_of_stream N hp hT hTL

/-- **the map built from a stream that stands for `N` attributes like `N`** (T1 ∘ `M3`): `get_map` builds it from the text-less
stream (`getMap_attr`), a cache filled by streaming from `N` itself (`M3.same`) -/
theorem M3.map_attr {F N : SResult} {T : Text} (m : M3 F N T) (hp : PosOK N) (hT : ChunksTok N.evs) (hTL : evsTL N.evs = false)
    (hx : evsText N.evs = T) (hsmall : ∀ m ∈ chunkMs F.evs, m.small) :
    (∀ sm, mapOfEvs true F.evs = some sm → attrFrom (decode sm.mappings) startPos T = attrOf N.evs)
    ∧ (mapOfEvs true F.evs = none → attrOf N.evs = List.replicate T.length none) := by
  rw [← m.attr hp hT hTL hx]
  exact mapOfEvs_attrFrom _ hsmall m.sorted T

/-- `c03_tree` (Props/C03.lean) says what this claims; here the proof: `M3.map_attr` at `Src.m3` -/
theorem getMap_attr (s : Src) (h : s.ModeHyp) (final : Bool) (hsmall : ∀ m ∈ chunkMs (s.stream ⟨true, true⟩ []).1.evs, m.small) :
    (∀ sm, (getMap s ⟨true, final⟩ []).1 = some sm → attrFrom (decode sm.mappings) startPos s.src = attrOf (s.stream ⟨true, false⟩ []).1.evs)
    ∧ ((getMap s ⟨true, final⟩ []).1 = none → attrOf (s.stream ⟨true, false⟩ []).1.evs = List.replicate s.src.length none) := by
  have b := Src.base_facts s h
  -- unfolded by hand: left to the unifier, `mapOfEvs` is unfolded before `getMap` is
  simp only [getMap]
  exact (Src.m3 s h).map_attr b.pos b.tok b.tl b.text hsmall

theorem SrcList.stripL_srcList : ∀ (l : SrcList), l.stripL.srcList = l.srcList
  | .nil => rfl
  | .cons s r => by simp only [SrcList.stripL, SrcList.srcList, Src.strip_src, SrcList.stripL_srcList r]

mutual
theorem Src.strip_modeHyp : ∀ (s : Src), s.ModeHypC → s.strip.ModeHyp
  | .raw .. | .rawStr .. | .rawBuf .. | .orig .. => fun _ => trivial
  | .sms .. => id
  | .concat cs => SrcList.stripL_modeHyps cs
  | .replace inner _ => fun h => ⟨Src.strip_modeHyp inner h.1, by rw [Src.strip_src]; exact h.2⟩
  | .cached _ inner => fun h => Src.strip_modeHyp inner h.1
theorem SrcList.stripL_modeHyps : ∀ (l : SrcList), l.ModeHypsC → l.stripL.ModeHyps
  | .nil => fun _ => trivial
  | .cons s r => fun h => ⟨Src.strip_modeHyp s h.1, SrcList.stripL_modeHyps r h.2⟩
end

/-- **T3, columns = true** (CachedSource nodes on cold caches): for every tree of the domain the text-less stream is sorted,
announces what the normal stream announces, and answers every lookup at a character position of `source()` like the normal stream -/
theorem Src.m3c : ∀ (s : Src), s.ModeHypC → s.ids.Nodup → ∀ (σF σN : Store), Cold σF s.ids → Cold σN s.ids →
    M3 (s.stream ⟨true, true⟩ σF).1 (s.stream ⟨true, false⟩ σN).1 s.src := by
  intro s h hn σF σN hcF hcN
  rw [Src.stream_strip s _ σF hn hcF, Src.stream_strip s _ σN hn hcN, ← Src.strip_src s]
  exact Src.m3 s.strip (Src.strip_modeHyp s h)

theorem SrcList.m3sc : ∀ (l : SrcList), l.ModeHypsC → l.idsL.Nodup → ∀ (σF σN : Store), Cold σF l.idsL → Cold σN l.idsL →
    ChildrenOK (l.streams ⟨true, true⟩ σF).1 (l.streams ⟨true, false⟩ σN).1 l.srcList
    ∧ ∀ c ∈ (l.streams ⟨true, true⟩ σF).1, sortedFrom 1 0 (chunkMs c.evs) := by
  intro l h hn σF σN hcF hcN
  rw [SrcList.streams_strip l _ σF hn hcF, SrcList.streams_strip l _ σN hn hcN, ← SrcList.stripL_srcList l]
  exact SrcList.m3s l.stripL (SrcList.stripL_modeHyps l h)

/-- `c03_tree_cached` (Props/C03.lean) says what this claims; here the proof: `M3.map_attr` at `Src.m3c` -/
theorem getMap_attrC (s : Src) (h : s.ModeHypC) (hn : s.ids.Nodup) (σF σN : Store) (hcF : Cold σF s.ids) (hcN : Cold σN s.ids) (final : Bool)
    (hsmall : ∀ m ∈ chunkMs (s.stream ⟨true, true⟩ σF).1.evs, m.small) :
    (∀ sm, (getMap s ⟨true, final⟩ σF).1 = some sm → attrFrom (decode sm.mappings) startPos s.src = attrOf (s.stream ⟨true, false⟩ σN).1.evs)
    ∧ ((getMap s ⟨true, final⟩ σF).1 = none → attrOf (s.stream ⟨true, false⟩ σN).1.evs = List.replicate s.src.length none) := by
  have b := Src.base_factsC s h hn σF σN hcF hcN
  simp only [getMap]
  exact (Src.m3c s h hn σF σN hcF hcN).map_attr b.pos b.tok b.tl b.text hsmall

end Rs
