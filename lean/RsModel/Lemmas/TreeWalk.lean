import RsModel.Model.Tree
/-!
# Walking a source tree

What `Src.stream` and `Src.map` do at each kind of node, stated once, and the induction that lifts a fact about the streams
of the node kinds to the stream of every tree.  First the store of cached maps: what an entry holds after `or_insert`
(`get_insertNew`: it is written once, `insertNew_self`, `insertNew_mono`), and writing one key leaves the others alone
(`get_insertNew_other`).
CachedSource nodes: `Src.NoCached`, `Src.cachedNodes`, `Src.ids`; streaming writes only their entries (`Src.stream_store_other`).

To prove `H s → P s o (s.stream o σ).1` for all trees: show that `H` is inherited by subtrees (`Src.Hereditary H`, once per
tree predicate), and give `Src.stream_induct` the fact for each node kind (`Src.StreamFacts`), about a result `r` that is a variable —
the leaves' streaming functions, `concatNode` over results of the children (related to the children by `PL`, built up by `nil`/`cons`),
`replaceStream` over a result of the wrapped source, the two replays of a CachedSource.  Where `P` does not mention the tree,
`Src.StreamFacts.all` asks only that each streaming function has, and `concatStream`/`replaceStream` keep, the property
(`allNormal`: the same for `final_source = false`).
-/
namespace Rs

theorem get_insertNew (σ : Store) (k : Nat × Opts) (v : Option SMap) : (σ.insertNew k v).get? k = some ((σ.get? k).getD v) := by
  unfold Store.insertNew
  cases h : σ.get? k with
  | some e => exact h
  | none =>
    unfold Store.get? at h ⊢
    cases hf : List.find? (fun x => x.1 == k) σ with
    | some e => rw [hf] at h; cases h
    | none => simp [List.find?_append, hf]

theorem get_insertNew_other (σ : Store) (k k' : Nat × Opts) (v : Option SMap) (h : k ≠ k') :
    (σ.insertNew k v).get? k' = σ.get? k' := by
  unfold Store.insertNew
  split
  · rfl
  · unfold Store.get?
    rw [List.find?_append]
    have : (k == k') = false := by simpa using h
    cases σ.find? (fun e => e.1 == k') <;> simp [List.find?, this]

theorem insertNew_self (σ : Store) (k : Nat × Opts) (v : Option SMap) (h : σ.get? k = none) : (σ.insertNew k v).get? k = some v := by
  rw [get_insertNew, h]; rfl

theorem insertNew_mono (σ : Store) (k k' : Nat × Opts) (v w : Option SMap) (h : σ.get? k = some v) : (σ.insertNew k' w).get? k = some v := by
  by_cases e : k' = k
  · rw [e, get_insertNew, h]; rfl
  · rw [get_insertNew_other σ k' k w e, h]

/-- `ConcatSource::stream_chunks` with its shortcut for a single child -/
def concatNode (final : Bool) : List SResult → SResult
  | [r] => r
  | rs => concatStream final rs

theorem concatNode_of {R : SResult → Prop} {final : Bool} {rs : List SResult} (hc : R (concatStream final rs))
    (h1 : ∀ r ∈ rs, R r) : R (concatNode final rs) := by
  match rs with
  | [] | _ :: _ :: _ => exact hc
  | [r] => exact h1 r (List.mem_singleton_self r)

theorem Src.concat_stream (cs : SrcList) (o : Opts) (σ : Store) :
    (Src.concat cs).stream o σ = (concatNode o.final (cs.streams o σ).1, (cs.streams o σ).2) := by
  match cs with
  | .nil => rfl
  | .cons s .nil => rfl
  | .cons s (.cons s2 rest) => rfl

/-- a ReplaceSource ignores `final_source`: it asks its inner source for text in either mode -/
theorem Src.replace_stream_final (inner : Src) (rs : List Repl) (c f : Bool) (σ : Store) :
    (Src.replace inner rs).stream ⟨c, f⟩ σ = (Src.replace inner rs).stream ⟨c, false⟩ σ := rfl

theorem Src.cached_stream_cold (id : Nat) (inner : Src) (o : Opts) (σ : Store) (h : σ.get? (id, o) = none) :
    (Src.cached id inner).stream o σ
      = ((inner.stream o σ).1, (inner.stream o σ).2.insertNew (id, o) (mapOfEvs o.columns (inner.stream o σ).1.evs)) := by
  simp only [Src.stream, h]

theorem Src.cached_stream_hit (id : Nat) (inner : Src) (o : Opts) (σ : Store) (e : Option SMap) :
    σ.get? (id, o) = some e → (Src.cached id inner).stream o σ
      = ((match e with | some m => streamSM inner.src m o | none => streamRaw inner.src o), σ) := by
  intro h
  cases e <;> simp only [Src.stream, h]

theorem Src.cached_map_cold (id : Nat) (inner : Src) (o : Opts) (σ : Store) (h : σ.get? (id, o) = none) :
    (Src.cached id inner).map o σ = ((inner.map o σ).1, (inner.map o σ).2.insertNew (id, o) (inner.map o σ).1) := by
  simp only [Src.map, h]

theorem Src.cached_map_hit (id : Nat) (inner : Src) (o : Opts) (σ : Store) (m : Option SMap) (h : σ.get? (id, o) = some m) :
    (Src.cached id inner).map o σ = (m, σ) := by
  simp only [Src.map, h]

mutual
def Src.NoCached : Src → Prop
  | .concat cs => cs.NoCachedL
  | .replace inner _ => inner.NoCached
  | .cached _ _ => False
  | _ => True
def SrcList.NoCachedL : SrcList → Prop
  | .nil => True
  | .cons s r => s.NoCached ∧ r.NoCachedL
end

mutual
def Src.cachedNodes : Src → List (Nat × Src)
  | .concat cs => cs.cachedNodesL
  | .replace inner _ => inner.cachedNodes
  | .cached id inner => (id, inner) :: inner.cachedNodes
  | _ => []
def SrcList.cachedNodesL : SrcList → List (Nat × Src)
  | .nil => []
  | .cons s r => s.cachedNodes ++ r.cachedNodesL
end

def Src.ids (s : Src) : List Nat := s.cachedNodes.map (·.1)
def SrcList.idsL (l : SrcList) : List Nat := l.cachedNodesL.map (·.1)

mutual
theorem Src.stream_store_other : ∀ (s : Src) (o : Opts) (σ : Store) (k : Nat × Opts), k.1 ∉ s.ids → (s.stream o σ).2.get? k = σ.get? k
  | .raw .. | .rawStr .. | .rawBuf .. | .orig .. => fun _ _ _ _ => rfl
  | .sms _ _ _ _ inner _ => fun _ _ _ _ => by cases inner <;> rfl
  | .concat cs => fun o σ k h => by
    rw [Src.concat_stream]
    exact SrcList.streams_store_other cs o σ k h
  | .replace inner _ => fun _ σ => Src.stream_store_other inner _ σ
  | .cached id inner => fun o σ k h => by
    simp only [Src.ids, Src.cachedNodes, List.map_cons, List.mem_cons, not_or] at h
    cases hg : Store.get? σ (id, o) with
    | some v => rw [Src.cached_stream_hit id inner o σ v hg]
    | none =>
      rw [Src.cached_stream_cold id inner o σ hg, get_insertNew_other _ _ _ _ (by intro e; exact h.1 (by rw [← e]))]
      exact Src.stream_store_other inner o σ k h.2
theorem SrcList.streams_store_other : ∀ (l : SrcList) (o : Opts) (σ : Store) (k : Nat × Opts), k.1 ∉ l.idsL → (l.streams o σ).2.get? k = σ.get? k
  | .nil => fun _ _ _ _ => rfl
  | .cons s rest => fun o σ k h => by
    simp only [SrcList.idsL, SrcList.cachedNodesL, List.map_append, List.mem_append, not_or] at h
    exact (SrcList.streams_store_other rest o _ k h.2).trans (Src.stream_store_other s o σ k h.1)
end

inductive Src.RawOf : Src → Text → Prop
  | raw (isBuf bytes lossy) : RawOf (.raw isBuf bytes lossy) lossy
  | rawStr (t) : RawOf (.rawStr t) t
  | rawBuf (bytes lossy) : RawOf (.rawBuf bytes lossy) lossy

theorem Src.RawOf.src {s : Src} {t : Text} (h : s.RawOf t) : s.src = t := by
  cases h <;> rfl

structure Src.Hereditary (H : Src → Prop) : Prop where
  cons : ∀ {s rest}, H (.concat (.cons s rest)) → H s ∧ H (.concat rest)
  replace : ∀ {inner rs}, H (.replace inner rs) → H inner
  cached : ∀ {id inner}, H (.cached id inner) → H inner

theorem Src.Hereditary.true : Src.Hereditary fun _ => True := ⟨fun _ => ⟨trivial, trivial⟩, fun _ => trivial, fun _ => trivial⟩

structure Src.StreamFacts (H : Src → Prop) (P : Src → Opts → SResult → Prop) (PL : SrcList → Opts → List SResult → Prop) : Prop where
  raw : ∀ s t o, s.RawOf t → P s o (streamRaw t o)
  orig : ∀ t name o, H (.orig t name) → P (.orig t name) o (streamOriginal t name o)
  sms : ∀ t name map origSrc remove o, H (.sms t name map origSrc none remove) →
    P (.sms t name map origSrc none remove) o (streamSM t map o)
  smsInner : ∀ t name map origSrc im remove o, H (.sms t name map origSrc (some im) remove) →
    P (.sms t name map origSrc (some im) remove) o (streamCombined t map name origSrc im remove o)
  nil : ∀ o, PL .nil o []
  cons : ∀ s rest o r rs, P s o r → PL rest o rs → PL (.cons s rest) o (r :: rs)
  concat : ∀ cs o rs, H (.concat cs) → PL cs o rs → P (.concat cs) o (concatNode o.final rs)
  replace : ∀ inner rs o r, H (.replace inner rs) → P inner ⟨o.columns, false⟩ r →
    P (.replace inner rs) o (replaceStream (sortRepls rs) r)
  cachedMiss : ∀ id inner o r, P inner o r → P (.cached id inner) o r
  cachedMap : ∀ id inner m o, H (.cached id inner) → P (.cached id inner) o (streamSM inner.src m o)
  cachedRaw : ∀ id inner o, P (.cached id inner) o (streamRaw inner.src o)

theorem Src.StreamFacts.all {H : Src → Prop} {R : Opts → SResult → Prop}
    (raw : ∀ t o, R o (streamRaw t o))
    (orig : ∀ t name o, H (.orig t name) → R o (streamOriginal t name o))
    (sms : ∀ t name map origSrc remove o, H (.sms t name map origSrc none remove) → R o (streamSM t map o))
    (smsInner : ∀ t name map origSrc im remove o, H (.sms t name map origSrc (some im) remove) →
      R o (streamCombined t map name origSrc im remove o))
    (concat : ∀ cs o rs, H (.concat cs) → (∀ r ∈ rs, R o r) → R o (concatStream o.final rs))
    (replace : ∀ inner rs o r, H (.replace inner rs) → R ⟨o.columns, false⟩ r → R o (replaceStream (sortRepls rs) r))
    (cachedMap : ∀ id inner m o, H (.cached id inner) → R o (streamSM inner.src m o)) :
    Src.StreamFacts H (fun _ o r => R o r) (fun _ o rs => ∀ r ∈ rs, R o r) where
  raw := fun _ t o _ => raw t o
  orig := orig
  sms := sms
  smsInner := smsInner
  nil := fun _ _ hr => nomatch hr
  cons := fun _ _ _ _ _ h hs => List.forall_mem_cons.2 ⟨h, hs⟩
  concat := fun cs o _ h hs => concatNode_of (concat cs o _ h hs) hs
  replace := replace
  cachedMiss := fun _ _ _ _ hr => hr
  cachedMap := cachedMap
  cachedRaw := fun _ inner o => raw inner.src o

theorem Src.StreamFacts.allNormal {H : Src → Prop} {R : Bool → SResult → Prop}
    (raw : ∀ t c, R c (streamRaw t ⟨c, false⟩))
    (orig : ∀ t name c, H (.orig t name) → R c (streamOriginal t name ⟨c, false⟩))
    (sms : ∀ t name map origSrc remove c, H (.sms t name map origSrc none remove) → R c (streamSM t map ⟨c, false⟩))
    (smsInner : ∀ t name map origSrc im remove c, H (.sms t name map origSrc (some im) remove) →
      R c (streamCombined t map name origSrc im remove ⟨c, false⟩))
    (concat : ∀ cs c rs, H (.concat cs) → (∀ r ∈ rs, R c r) → R c (concatStream false rs))
    (replace : ∀ inner rs c r, H (.replace inner rs) → R c r → R c (replaceStream (sortRepls rs) r))
    (cachedMap : ∀ id inner m c, H (.cached id inner) → R c (streamSM inner.src m ⟨c, false⟩)) :
    Src.StreamFacts H (fun _ o r => o.final = false → R o.columns r) (fun _ o rs => ∀ r ∈ rs, o.final = false → R o.columns r) :=
  .all (R := fun o r => o.final = false → R o.columns r)
    (fun t ⟨c, _⟩ hf => by cases hf; exact raw t c)
    (fun t name ⟨c, _⟩ h hf => by cases hf; exact orig t name c h)
    (fun t name map origSrc remove ⟨c, _⟩ h hf => by cases hf; exact sms t name map origSrc remove c h)
    (fun t name map origSrc im remove ⟨c, _⟩ h hf => by cases hf; exact smsInner t name map origSrc im remove c h)
    (fun cs ⟨c, _⟩ rs h hs hf => by cases hf; exact concat cs c rs h fun r hr => hs r hr rfl)
    (fun inner rs o r h hr _ => replace inner rs o.columns r h (hr rfl))
    (fun id inner m ⟨c, _⟩ h hf => by cases hf; exact cachedMap id inner m c h)

mutual
theorem Src.stream_induct {H : Src → Prop} {P : Src → Opts → SResult → Prop} {PL : SrcList → Opts → List SResult → Prop}
    (hH : Src.Hereditary H) (F : Src.StreamFacts H P PL) : ∀ (s : Src) (o : Opts) (σ : Store), H s → P s o (s.stream o σ).1
  | .raw b bytes lossy => fun o _ _ => F.raw _ _ o (.raw b bytes lossy)
  | .rawStr t => fun o _ _ => F.raw _ _ o (.rawStr t)
  | .rawBuf bytes lossy => fun o _ _ => F.raw _ _ o (.rawBuf bytes lossy)
  | .orig t name => fun o _ => F.orig t name o
  | .sms t name map origSrc none remove => fun o _ => F.sms t name map origSrc remove o
  | .sms t name map origSrc (some im) remove => fun o _ => F.smsInner t name map origSrc im remove o
  | .concat cs => fun o σ h => by
    rw [Src.concat_stream]
    exact F.concat cs o _ h (SrcList.streams_induct hH F cs o σ h)
  | .replace inner rs => fun o σ h => F.replace inner rs o _ h (Src.stream_induct hH F inner ⟨o.columns, false⟩ σ (hH.replace h))
  | .cached id inner => fun o σ h => by
    cases hg : σ.get? (id, o) with
    | none =>
      rw [Src.cached_stream_cold id inner o σ hg]
      exact F.cachedMiss id inner o _ (Src.stream_induct hH F inner o σ (hH.cached h))
    | some e =>
      rw [Src.cached_stream_hit id inner o σ e hg]
      cases e with
      | none => exact F.cachedRaw id inner o
      | some m => exact F.cachedMap id inner m o h
theorem SrcList.streams_induct {H : Src → Prop} {P : Src → Opts → SResult → Prop} {PL : SrcList → Opts → List SResult → Prop}
    (hH : Src.Hereditary H) (F : Src.StreamFacts H P PL) :
    ∀ (l : SrcList) (o : Opts) (σ : Store), H (.concat l) → PL l o (l.streams o σ).1
  | .nil => fun o _ _ => F.nil o
  | .cons s rest => fun o σ h =>
    F.cons s rest o _ _ (Src.stream_induct hH F s o σ (hH.cons h).1) (SrcList.streams_induct hH F rest o _ (hH.cons h).2)
end

end Rs
