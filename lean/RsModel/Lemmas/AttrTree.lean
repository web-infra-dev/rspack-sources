import RsModel.Lemmas.AttrConcat
import RsModel.Lemmas.HasText
import RsModel.Lemmas.ReplaceKeeps
import RsModel.Lemmas.DeclReplace
/-!
# Name-level attribution of whole trees (C06 / C13)

`Src.WD cons c s`: a structural condition under which the stream of `s` announces every source / name index before
using it, with one content per file name (`cons`).  Leaves: Raw (nothing to announce), Original (announces itself),
SourceMapSource (a closed hypothesis about its own stream).  Composites: ConcatSource; ReplaceSource over a cache-free tree, under a
closed hypothesis about its own stream (`Src.wd_replace` discharges it).  (CachedSource is not covered by this predicate.)

No node kind is walked for `WellDecl`: it is `DeclOK` (C11, stream clause) plus "every announced file carries the content `cons`
gives it" (`wellDecl_of_declOK`), and the second half only asks where a node's `on_source` calls come from.
-/
namespace Rs

theorem contOK_chunks {P : Orig → Prop} (cons : Text → Option Text) {evs : List Ev} (h : ChunkOrigs P evs) : ContOK cons evs :=
  fun _ _ _ hm => let ⟨_, _, he, _⟩ := h _ hm; nomatch he

theorem rawChunks_ref0 : ∀ (ls : List Text) (l : Nat), ∀ e ∈ rawChunks l ls, ∃ t m, e = Ev.chunk t m ∧ ∀ o, m.orig = some o → o.src = 0 ∧ o.name = none :=
  rawChunks_origs _

theorem streamRaw_wd (cons : Text → Option Text) (t : Text) (c : Bool) (S : SrcTbl) (N : NameTbl) :
    WellDecl cons S N (streamRaw t ⟨c, false⟩).evs :=
  wellDecl_of_declOK cons _ 0 0 S N (streamRaw_declOK t _ 0 0) nofun nofun (contOK_chunks cons (streamRaw_origs (fun _ => True) t _))

theorem streamOriginal_wd (cons : Text → Option Text) (t name : Text) (c : Bool) (h : cons name = some t) :
    WellDecl cons emptyS emptyN (streamOriginal t name ⟨c, false⟩).evs := by
  refine wellDecl_of_declOK cons _ 0 0 _ _ (streamOriginal_declOK t name _) nofun nofun fun i s x hm => ?_
  obtain ⟨-, rfl, rfl⟩ := streamOriginal_source hm
  exact h.symm

/-- a ReplaceSource passes the announcements of its inner stream through unchanged (`replaceStream_keeps`) and keeps `DeclOK` -/
theorem replaceStream_wellDecl (cons : Text → Option Text) (sorted : List Repl) (inner : SResult)
    (hw : WellDecl cons emptyS emptyN inner.evs) (hd : DeclOK 0 0 inner.evs) :
    WellDecl cons emptyS emptyN (replaceStream sorted inner).evs := by
  apply wellDecl_of_declOK cons _ 0 0 emptyS emptyN (replaceStream_declOK sorted inner hd) (fun i hi => by omega) (fun i hi => by omega)
  intro i s c hm
  exact wellDecl_contOK cons _ _ _ hw i s c (((replaceStream_keeps sorted inner).2 i s c).1 hm)

mutual
def Src.WD (cons : Text → Option Text) (c : Bool) : Src → Prop
  | .raw _ _ _ => True
  | .rawStr _ => True
  | .rawBuf _ _ => True
  | .orig t name => cons name = some t
  | .sms t name map origSrc inner remove =>
    ∀ σ, WellDecl cons emptyS emptyN ((Src.sms t name map origSrc inner remove).stream ⟨c, false⟩ σ).1.evs
  | .concat cs => SrcList.WD cons c cs
  | .replace inner rs =>
    inner.NoCached ∧ ∀ σ, WellDecl cons emptyS emptyN ((Src.replace inner rs).stream ⟨c, false⟩ σ).1.evs
  | .cached _ _ => False
def SrcList.WD (cons : Text → Option Text) (c : Bool) : SrcList → Prop
  | .nil => True
  | .cons s rest => Src.WD cons c s ∧ SrcList.WD cons c rest
end

/- `WellDecl` recurses on the event list: while it may unfold, every term elaborated against `WellDecl … (stream … σ)` of a given
node has Lean evaluate the node's stream (the compiled recursion of `Src.stream`) to see how far `WellDecl` computes -/
attribute [local irreducible] WellDecl

mutual
theorem Src.stream_wd (cons : Text → Option Text) (c : Bool) : ∀ (s : Src), Src.WD cons c s → ∀ σ,
    WellDecl cons emptyS emptyN (s.stream ⟨c, false⟩ σ).1.evs
  | .raw _ _ lossy => fun _ _ => streamRaw_wd cons lossy c _ _
  | .rawStr t => fun _ _ => streamRaw_wd cons t c _ _
  | .rawBuf _ lossy => fun _ _ => streamRaw_wd cons lossy c _ _
  | .orig t name => fun h _ => streamOriginal_wd cons t name c h
  -- for these two node kinds the predicate is the statement
  | .sms .. => id
  | .replace _ _ => fun h => h.2
  | .concat cs => fun h σ => by
    rw [Src.concat_stream]
    have hcs := SrcList.streams_wd cons c cs h σ
    exact concatNode_of (R := fun r => WellDecl cons emptyS emptyN r.evs)
      (concatStream_wellDecl cons _ fun x hx => ⟨hcs x hx, SrcList.streams_tl cs c σ x hx⟩) hcs
  | .cached _ _ => fun h => h.elim
theorem SrcList.streams_wd (cons : Text → Option Text) (c : Bool) : ∀ (l : SrcList), SrcList.WD cons c l → ∀ σ,
    ∀ r ∈ (l.streams ⟨c, false⟩ σ).1, WellDecl cons emptyS emptyN r.evs
  | .nil => fun _ _ _ hr => nomatch hr
  | .cons s rest => fun h σ r hr => by
    simp only [SrcList.streams, List.mem_cons] at hr
    rcases hr with rfl | hr
    · exact Src.stream_wd cons c s h.1 σ
    · exact SrcList.streams_wd cons c rest h.2 _ r hr
end

def Src.attr (s : Src) (c : Bool) (σ : Store) : List (Option RLoc) := attrN emptyS emptyN (s.stream ⟨c, false⟩ σ).1.evs

/-- **ConcatSource, tree level**: what a `ConcatSource` attributes is the concatenation of what its children
attribute (each child streamed in order, the store threaded as the implementation does). -/
theorem Src.attr_concat (cons : Text → Option Text) (c : Bool) (cs : SrcList) (h : SrcList.WD cons c cs) (σ : Store) :
    (Src.concat cs).attr c σ = ((cs.streams ⟨c, false⟩ σ).1.map fun r => attrN emptyS emptyN r.evs).flatten := by
  unfold Src.attr
  rw [Src.concat_stream]
  have hcs : ∀ x ∈ (cs.streams ⟨c, false⟩ σ).1, WellDecl cons emptyS emptyN x.evs ∧ evsTL x.evs = false :=
    fun x hx => ⟨SrcList.streams_wd cons c cs h σ x hx, SrcList.streams_tl cs c σ x hx⟩
  generalize (cs.streams ⟨c, false⟩ σ).1 = rs at hcs
  match rs with
  | [r] => simp [concatNode]
  | [] | _ :: _ :: _ => exact concatStream_attrN cons _ hcs

end Rs
