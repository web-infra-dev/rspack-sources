import RsModel.Lemmas.PosFinalTree
import RsModel.Lemmas.Histories
import RsModel.Lemmas.WarmMap
/-!
# C02 over every call history

Every call of every history returns the stream of the cache-free tree or of the replay tree (`runCalls_results`, in `Histories`);
both are cache-free trees in the domain of C02 — the replay tree because the map a CachedSource stored lies inside the text it is
replayed on (`stored_inside_normal` for a fill by a normal-mode stream; `stored_map_ok`, in `ReplayMap`, for a text-less fill; with
columns = false the map-driven splitter needs nothing of the map).
-/
namespace Rs

theorem stored_inside_normal (r : SResult) (hp : PosOK r) (hTL : evsTL r.evs = false) (hMN : MappedNE r.evs)
    (hsmall : ∀ m ∈ chunkMs r.evs, m.small) (sm : SMap) (hm : mapOfEvs true r.evs = some sm) : MapInside (evsText r.evs) sm :=
  fun m hmem => ((stored_domain _ _ (chunkMs_sorted r.evs [] hp.1 hTL) hsmall (stream_segOK r hp hTL hMN) sm
    (mapOfEvs_mappings _ sm hm)).2 m hmem).1

mutual
theorem Src.warm_posHyp_normal : ∀ (s : Src), s.PosHyp true → s.WarmHyp → (s.warm ⟨true, false⟩).PosHyp true
  | .raw .. | .rawStr .. | .rawBuf .. | .orig .. => fun _ _ => trivial
  | .sms .. | .replace .. => fun h _ => h
  | .concat cs => SrcList.warmL_posHyps_normal cs
  | .cached id inner => fun _ ⟨w1, w2, _, w4, w5, w6⟩ => by
    rw [Src.warm_cached]
    cases hm : mapOfEvs true (inner.strip.stream ⟨true, false⟩ []).1.evs with
    | none => trivial
    | some sm =>
      refine ⟨w4, w5, fun _ => ?_⟩
      rw [← Src.strip_src inner, ← Src.stream_text inner.strip true [] w1]
      exact stored_inside_normal _ (posOK_nc inner.strip true (Src.strip_nc inner) w1 w2).1 (Src.stream_tl inner.strip true [])
        (Src.stream_mappedNE' inner.strip true []) w6 sm hm
theorem SrcList.warmL_posHyps_normal : ∀ (l : SrcList), l.PosHyps true → l.WarmHyps → (l.warmL ⟨true, false⟩).PosHyps true
  | .nil => fun _ _ => trivial
  | .cons s r => fun h hw => ⟨Src.warm_posHyp_normal s h.1 hw.1, SrcList.warmL_posHyps_normal r h.2 hw.2⟩
end

/-- **C02 for every call of every history**: positions reported by any call — any options — of any history are true -/
theorem history_positions (s : Src) (hk : s.NoCR) (hn : s.ids.Nodup) (σ : Store) (hc : Cold σ s.ids) (hw : s.WF)
    (calls : List Opts) (k : Nat) (o : Opts) (hcall : calls[k]? = some o) :
    ∃ r, (runCalls s calls σ).1[k]? = some r
      ∧ (o.columns = false → s.PosHyp false →
          (o.final = false → PosOK r ∧ r.info = adv startPos s.src) ∧ (o.final = true → FinOK s.src r))
      ∧ (o = ⟨true, false⟩ → s.PosHyp true → s.WarmHyp → PosOK r ∧ r.info = adv startPos s.src)
      ∧ (o = ⟨true, true⟩ → s.ModeHypC → s.SmallF → FinOK s.src r) := by
  have hck := Src.noCR_cachedOK s hk
  -- the answer streams a CachedSource-free tree `t` with the text of `s`, and `posOK_nc` applies once `t` is in the domain of C02;
  -- the cache-free tree is with `s`, so per option set it remains to say why the replay tree is
  have key : ∀ c f, s.PosHyp c → (s.warm ⟨c, f⟩).PosHyp c →
      (f = false → PosOK (answerOf s (calls.take k) ⟨c, f⟩) ∧ (answerOf s (calls.take k) ⟨c, f⟩).info = adv startPos s.src)
      ∧ (f = true → FinOK s.src (answerOf s (calls.take k) ⟨c, f⟩)) := by
    intro c f hp hwarm
    obtain ⟨t, ha, hnc, hsrc, htw, htp⟩ := answerOf_cases s hck (calls.take k) ⟨c, f⟩ (fun t => t.WF ∧ t.PosHyp c)
      ⟨Src.warm_wf _ s hw, hwarm⟩ ⟨Src.strip_wf s hw, Src.strip_posHyp c s hp⟩
    obtain ⟨a1, a2, a3⟩ := posOK_nc t c hnc htw htp
    rw [ha, ← hsrc]
    exact ⟨fun hf => by subst hf; exact ⟨a1, a2⟩, fun hf => by subst hf; exact a3⟩
  refine ⟨_, runCalls_results s hk hn σ hc calls k o hcall, ?_, ?_, ?_⟩
  · intro hcol hp
    obtain ⟨c, f⟩ := o
    simp only at hcol
    subst hcol
    exact key false f hp (Src.warm_posHyp_lines f s hp)
  · intro ho hp hwm
    subst ho
    exact (key true false hp (Src.warm_posHyp_normal s hp hwm)).1 rfl
  · intro ho hm hs
    subst ho
    exact (key true true (Src.modeHypC_base s hm).2.1 (Src.modeHypC_base _ (Src.warmF_NA s hm hck hs).2).2.1).2 rfl

end Rs
