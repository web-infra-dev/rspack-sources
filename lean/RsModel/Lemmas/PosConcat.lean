import RsModel.Lemmas.Pos
import RsModel.Lemmas.TextComposite
/-! # C02 for ConcatSource: shifting child positions by the position where the child starts -/
namespace Rs

def nlCount : Text → Nat
  | [] => 0
  | c :: cs => (if c = NL then 1 else 0) + nlCount cs

/-- number of bytes after the last line break (the whole length when there is none) -/
def lastLen : Text → Nat
  | [] => 0
  | c :: cs => if nlCount cs = 0 then (if c = NL then cs.length else cs.length + 1) else lastLen cs

theorem adv_char : ∀ (t : Text) (p : Pos), adv p t = ⟨p.line + nlCount t, if nlCount t = 0 then p.col + t.length else lastLen t⟩ := by
  intro t
  induction t with
  | nil => intro p; simp [adv, nlCount]
  | cons c cs ih =>
    intro p
    by_cases hc : c = NL
    · simp only [adv, hc, if_true, ih, nlCount, lastLen]
      by_cases h0 : nlCount cs = 0
      · simp [h0]
      · simp [h0]; omega
    · simp only [adv, hc, if_false, ih, nlCount, lastLen, Nat.zero_add]
      by_cases h0 : nlCount cs = 0
      · simp [h0]; omega
      · simp [h0]

theorem nlCount_le (t : Text) : nlCount t ≤ t.length := by
  induction t with
  | nil => exact Nat.le_refl _
  | cons c cs ih => simp only [nlCount, List.length_cons]; split <;> omega

theorem lastLen_le (t : Text) : lastLen t ≤ t.length := by
  induction t with
  | nil => exact Nat.le_refl _
  | cons c cs ih =>
    simp only [lastLen, List.length_cons]
    split
    · split <;> omega
    · omega

theorem adv_bound (t : Text) : (adv startPos t).line ≤ t.length + 1 ∧ (adv startPos t).col ≤ t.length := by
  rw [adv_char]
  have h1 := nlCount_le t
  have h2 := lastLen_le t
  simp only [startPos]
  refine ⟨by omega, ?_⟩
  split <;> omega

theorem adv_shift (t : Text) (p : Pos) :
    adv p t = ⟨(adv startPos t).line + p.line - 1, if (adv startPos t).line = 1 then (adv startPos t).col + p.col else (adv startPos t).col⟩ := by
  rw [adv_char t p, adv_char t startPos]
  simp only [startPos, Pos.mk.injEq]
  constructor
  · omega
  · by_cases h0 : nlCount t = 0
    · simp [h0]; omega
    · simp [h0]

theorem adv_shift_key (P : Pos) (lo co l c : Nat) (h1 : lo + 1 = P.line) (h2 : co = P.col) (x : Text) (hx : adv startPos x = ⟨l, c⟩) :
    adv P x = ⟨l + lo, if (l == 1) = true then c + co else c⟩ := by
  rw [adv_shift x P, hx, h2]
  simp only [beq_iff_eq, Pos.mk.injEq]
  exact ⟨by omega, trivial⟩

/-- the offsets of the concat walker agree with the position `P` where the current child starts -/
def FRel (st : CSt) (P : Pos) : Prop := st.lineOff + 1 = P.line ∧ st.colOff = P.col

theorem FRel.concatEvs {st : CSt} {P : Pos} (h : FRel st P) (final : Bool) (evs : List Ev) : FRel (concatEvs final st evs).1 P := by
  unfold FRel
  rw [concatEvs_lineOff, concatEvs_colOff]
  exact h

theorem FRel.concatEv {st : CSt} {P : Pos} (h : FRel st P) (final : Bool) (e : Ev) : FRel (concatEv final st e).1 P :=
  h.concatEvs final [e]

theorem FRel.concatChild {st : CSt} {gpre : Text} (h : FRel st (adv startPos gpre)) (final : Bool) {c : SResult} {T : Text}
    (hi : c.info = adv startPos T) : FRel (concatChild final st c).1 (adv startPos (gpre ++ T)) := by
  obtain ⟨o1, o2⟩ := concatChild_offs final st c
  have hl : 1 ≤ c.info.line := by rw [hi, adv_char]; exact Nat.le_add_right 1 _
  unfold FRel
  rw [o1, o2, adv_append, adv_shift T, ← hi, ← h.1, ← h.2]
  refine ⟨by simp only; omega, ?_⟩
  by_cases hgt : c.info.line > 1
  · rw [if_pos hgt, if_neg (by omega)]
  · rw [if_neg hgt, if_pos (by omega)]; exact Nat.add_comm ..

theorem posOKT_pending (pre : Text) (st : CSt) (off : Bool) : posOKT pre (st.pending off) := by
  unfold CSt.pending
  split <;> trivial

/-- a chunk that the child reports at the position after `cpre` is delivered at the position after `gpre ++ cpre`; whether a close is
pending plays no part, since `posOKT` looks at chunks with text only -/
theorem concatEv_pos (st : CSt) (gpre cpre : Text) (hr : FRel st (adv startPos gpre)) (e : Ev)
    (hpos : posOKT cpre [e]) : posOKT (gpre ++ cpre) (concatEv false st e).2 := by
  cases e with
  | chunk text m =>
    rw [concatEv_chunk, posOKT_append, st.pending_text, List.append_nil]
    refine ⟨posOKT_pending _ st _, ?_⟩
    cases text with
    | none => trivial
    | some t =>
      have hg := adv_shift_key _ _ _ _ _ hr.1 hr.2 cpre hpos.1.symm
      rw [← adv_append] at hg
      exact ⟨hg.symm, trivial⟩
  | source i s c => exact posOKT_nochunk _ _ (globalSource_anns _ s c)
  | name i n => exact posOKT_nochunk _ _ (globalName_anns _ n)

theorem concatEvs_pos (gpre : Text) : ∀ (evs : List Ev) (st : CSt) (cpre : Text), FRel st (adv startPos gpre) →
    posOKT cpre evs → posOKT (gpre ++ cpre) (concatEvs false st evs).2
  | [], _, _, _, _ => trivial
  | e :: es, st, cpre, hr, hpos => by
    rw [posOKT_cons] at hpos
    rw [concatEvs_cons, posOKT_append, concatEv_text, List.append_assoc]
    exact ⟨concatEv_pos st gpre cpre hr e hpos.1, concatEvs_pos gpre es _ _ (hr.concatEv false e) hpos.2⟩

theorem concatChild_pos (st : CSt) (gpre : Text) (child : SResult) (hr : FRel st (adv startPos gpre)) (hc : posOKT [] child.evs) :
    posOKT gpre (concatChild false st child).2 := by
  have := concatEvs_pos gpre child.evs (childStart st) [] hr hc
  rw [List.append_nil] at this
  rw [concatChild_eq, posOKT_append]
  exact ⟨this, posOKT_pending _ _ _⟩

theorem concatStream_posOK (children : List SResult) (hc : ∀ c ∈ children, PosOK c) : PosOK (concatStream false children) := by
  -- what has been delivered stands right, and the walker's offsets are the position after it
  have := concatGo_walk false (Out := fun rest acc st => (∀ c ∈ rest, PosOK c) ∧ posOKT [] acc ∧ FRel st (adv startPos (evsText acc)))
    (fun c cs acc st ⟨hc, ha, hr⟩ => by
      obtain ⟨h1, h2⟩ := hc c List.mem_cons_self
      refine ⟨fun x hx => hc x (List.mem_cons_of_mem _ hx), (posOKT_append _ _ _).2 ⟨ha, concatChild_pos st _ c hr h1⟩, ?_⟩
      rw [evsText_append, concatChild_text]
      exact hr.concatChild false h2)
    children [] {} ⟨hc, trivial, rfl, rfl⟩
  rw [List.nil_append] at this
  obtain ⟨_, a, b1, b2⟩ := this
  refine ⟨a, ?_⟩
  simp only [concatStream]
  rw [b1, b2]

end Rs
