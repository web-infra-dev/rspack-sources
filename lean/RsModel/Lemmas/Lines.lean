import RsModel.Model.Stream
/-!
# Line splitting, token splitting; streams of one chunk per line

`lineEvs g l ls` delivers the texts `ls`, one chunk each, at column 0 of the lines `l, l + 1, …`; the chunk of line `k` carries the
location `g k`.  Three leaf streams have this form over the lines of their text: the raw leaf (`rawChunks_eq`), an OriginalSource
without columns (`origLineChunks_eq`) and a SourceMapSource without columns (`streamSMLinesFull_eq` in SMWalk).  What holds of such a
stream whatever `g` is, is stated once for `lineEvs` (`lineEvs_text`, `lineEvs_mem` here, `lineEvs_pos` and `lineStream_posOK` in Pos)
and reaches the three leaves by rewriting with their closed form.  `mappedLines g a n` is the text-less twin: of the lines
`a, …, a + n - 1` those that `g` maps, each as a chunk without text (`origFinalLines_eq` here, `smLinesFinalGo_eq` in SMWalk).
An OriginalSource with columns walks its tokens instead; `origTokChunks_cons` is one step of that walk, and what holds of its
stream goes by recursion over the tokens with that step.
-/
namespace Rs

theorem splitLinesAux_join (acc t : Text) : (splitLinesAux acc t).flatten = acc.reverse ++ t := by
  fun_induction splitLinesAux acc t with
  | case1 _ h => simp [List.isEmpty_iff.1 h]
  | case2 | case3 | case4 => simp [*]

theorem splitLines_join (t : Text) : (splitLines t).flatten = t := by
  simp [splitLines, splitLinesAux_join]

theorem tokAux_join (b : Bool) (acc t : Text) : (tokAux b acc t).flatten = acc.reverse ++ t := by
  fun_induction tokAux b acc t with
  | case1 _ _ h => simp [List.isEmpty_iff.1 h]
  | case2 | case3 | case4 | case5 | case6 | case7 | case8 => simp [*]

theorem tokens_join (t : Text) : (tokens t).flatten = t := by
  simp [tokens, tokAux_join]

theorem adv_append (p : Pos) (a b : Text) : adv p (a ++ b) = adv (adv p a) b := by
  induction a generalizing p with
  | nil => rfl
  | cons c cs ih => simp only [List.cons_append, adv]; split <;> exact ih _

theorem evsText_append (a b : List Ev) : evsText (a ++ b) = evsText a ++ evsText b := by
  simp [evsText]

theorem evsText_nil : evsText [] = [] := rfl

theorem evsText_singleton (e : Ev) : evsText [e] = e.text := by simp [evsText]

theorem evsText_cons (e : Ev) (es : List Ev) : evsText (e :: es) = e.text ++ evsText es := by
  simp [evsText]

theorem evsText_anns : ∀ {evs : List Ev}, (∀ e ∈ evs, e.isChunk = false) → evsText evs = []
  | [], _ => rfl
  | .chunk .. :: _, h => nomatch h _ List.mem_cons_self
  | .source .. :: es, h | .name .. :: es, h => evsText_anns (evs := es) fun e he => h e (List.mem_cons_of_mem _ he)

theorem smSourceEvs_noChunk (sm : SMap) : ∀ e ∈ smSourceEvs sm, e.isChunk = false := List.forall_mem_map.2 fun _ _ => rfl

theorem smNameEvs_noChunk (sm : SMap) : ∀ e ∈ smNameEvs sm, e.isChunk = false := List.forall_mem_map.2 fun _ _ => rfl

def lineEvs (g : Nat → Option Orig) : Nat → List Text → List Ev
  | _, [] => []
  | l, t :: ts => .chunk (some t) ⟨l, 0, g l⟩ :: lineEvs g (l + 1) ts

theorem lineEvs_text (g : Nat → Option Orig) : ∀ (ls : List Text) (l : Nat), evsText (lineEvs g l ls) = ls.flatten
  | [], _ => rfl
  | t :: ts, l => by rw [lineEvs, evsText_cons, lineEvs_text g ts, List.flatten_cons]; rfl

theorem lineEvs_mem {g : Nat → Option Orig} {e : Ev} : ∀ {ls : List Text} {l : Nat}, e ∈ lineEvs g l ls →
    ∃ t ∈ ls, ∃ k, e = .chunk (some t) ⟨k, 0, g k⟩
  | t :: ts, l, h => by
    rcases List.mem_cons.1 h with rfl | h
    · exact ⟨t, List.mem_cons_self, l, rfl⟩
    · obtain ⟨x, hx, r⟩ := lineEvs_mem h
      exact ⟨x, List.mem_cons_of_mem _ hx, r⟩

theorem lineEvs_append (g : Nat → Option Orig) : ∀ (a b : List Text) (l : Nat),
    lineEvs g l (a ++ b) = lineEvs g l a ++ lineEvs g (l + a.length) b
  | [], _, _ => rfl
  | t :: ts, b, l => by
    rw [List.cons_append, lineEvs, lineEvs, lineEvs_append g ts b, List.length_cons, Nat.add_comm ts.length, ← Nat.add_assoc]
    rfl

theorem lineEvs_congr {g g' : Nat → Option Orig} : ∀ (ls : List Text) (l : Nat), (∀ k, l ≤ k → k < l + ls.length → g k = g' k) →
    lineEvs g l ls = lineEvs g' l ls
  | [], _, _ => rfl
  | t :: ts, l, h => by
    rw [lineEvs, lineEvs, h l (Nat.le_refl _) (Nat.lt_add_of_pos_right (Nat.succ_pos _)),
      lineEvs_congr ts (l + 1) fun k h1 h2 => h k (Nat.le_of_succ_le h1) (by rw [List.length_cons, ← Nat.add_assoc, Nat.add_right_comm]; exact h2)]

def mappedLines (g : Nat → Option Orig) (a n : Nat) : List Ev :=
  (List.range' a n).filterMap fun l => (g l).map fun o => Ev.chunk none ⟨l, 0, some o⟩

theorem mappedLines_succ (g : Nat → Option Orig) (a n : Nat) : mappedLines g a (n + 1) =
    match g a with
    | some o => .chunk none ⟨a, 0, some o⟩ :: mappedLines g (a + 1) n
    | none => mappedLines g (a + 1) n := by
  rw [mappedLines, List.range'_succ, List.filterMap_cons]
  cases g a <;> rfl

theorem mappedLines_mem {g : Nat → Option Orig} {a n : Nat} {e : Ev} (h : e ∈ mappedLines g a n) :
    ∃ l o, a ≤ l ∧ l < a + n ∧ g l = some o ∧ e = .chunk none ⟨l, 0, some o⟩ := by
  obtain ⟨l, hl, he⟩ := List.mem_filterMap.1 h
  obtain ⟨o, ho, rfl⟩ := Option.map_eq_some_iff.1 he
  exact ⟨l, o, (List.mem_range'_1.1 hl).1, (List.mem_range'_1.1 hl).2, ho, rfl⟩

theorem mappedLines_congr {g g' : Nat → Option Orig} : ∀ {n a : Nat}, (∀ l, a ≤ l → l < a + n → g l = g' l) →
    mappedLines g a n = mappedLines g' a n
  | 0, _, _ => rfl
  | n + 1, a, h => by
    rw [mappedLines_succ, mappedLines_succ, h a (Nat.le_refl a) (Nat.lt_add_of_pos_right (Nat.succ_pos n)),
      mappedLines_congr fun l h1 h2 => h l (Nat.le_of_succ_le h1) (Nat.add_right_comm a 1 n ▸ h2)]

theorem mappedLines_skip {g : Nat → Option Orig} {n k a : Nat} (h : ∀ l, a ≤ l → l < a + k → g l = none) :
    mappedLines g a (k + n) = mappedLines g (a + k) n := by
  rw [mappedLines, ← List.range'_append_1, List.filterMap_append,
    List.filterMap_eq_nil_iff.2 fun l hl => by rw [h l (List.mem_range'_1.1 hl).1 (List.mem_range'_1.1 hl).2]; rfl]
  rfl

theorem rawChunks_eq (l : Nat) (ls : List Text) : rawChunks l ls = lineEvs (fun _ => none) l ls := by
  induction ls generalizing l with
  | nil => rfl
  | cons t ts ih => rw [rawChunks, lineEvs, ih]

theorem origLineChunks_eq (l : Nat) (ls : List Text) : origLineChunks l ls = lineEvs (fun l => some ⟨0, l, 0, none⟩) l ls := by
  induction ls generalizing l with
  | nil => rfl
  | cons t ts ih => rw [origLineChunks, lineEvs, ih]

theorem origFinalLines_eq (a n : Nat) : origFinalLines a n = mappedLines (fun l => some ⟨0, l, 0, none⟩) a (n - a) := by
  rw [origFinalLines, mappedLines, List.range'_eq_map_range, List.filterMap_map]
  exact (congrFun List.filterMap_eq_map _).symm

theorem rawChunks_text (l : Nat) (ls : List Text) : evsText (rawChunks l ls) = ls.flatten := by
  rw [rawChunks_eq, lineEvs_text]

theorem rawChunks_hasText (l : Nat) (ls : List Text) : ∀ e ∈ rawChunks l ls, e.textless = false := by
  intro e he
  rw [rawChunks_eq] at he
  obtain ⟨_, _, _, rfl⟩ := lineEvs_mem he
  rfl

/-- C01 for the raw leaf -/
theorem streamRaw_text (t : Text) (c : Bool) : evsText (streamRaw t ⟨c, false⟩).evs = t := by
  simp [streamRaw, rawChunks_text, splitLines_join]

theorem origLineChunks_text (l : Nat) (ls : List Text) : evsText (origLineChunks l ls) = ls.flatten := by
  rw [origLineChunks_eq, lineEvs_text]

theorem origTokChunks_cons (l c : Nat) (tok : Text) (toks : List Text) : ∃ o l' c',
    origTokChunks false l c (tok :: toks) = (.chunk (some tok) ⟨l, c, o⟩ :: (origTokChunks false l' c' toks).1, (origTokChunks false l' c' toks).2)
      ∧ o = (if endsWithNL tok && tok.length == 1 then none else some ⟨0, l, c, none⟩)
      ∧ (⟨l', c'⟩ : Pos) = if endsWithNL tok then ⟨l + 1, 0⟩ else ⟨l, c + tok.length⟩ := by
  simp only [origTokChunks, Bool.false_eq_true, if_false]
  cases endsWithNL tok
  · exact ⟨_, l, c + tok.length, rfl, rfl, rfl⟩
  · cases tok.length == 1 <;> exact ⟨_, l + 1, 0, rfl, rfl, rfl⟩

theorem origTokChunks_text : ∀ (l c : Nat) (toks : List Text), evsText (origTokChunks false l c toks).1 = toks.flatten
  | _, _, [] => rfl
  | l, c, tok :: toks => by
    obtain ⟨o, l', c', e, _⟩ := origTokChunks_cons l c tok toks
    rw [e, evsText_cons, origTokChunks_text l' c' toks, List.flatten_cons]
    rfl

/-- C01 for the OriginalSource leaf, both column settings -/
theorem streamOriginal_text (t name : Text) (c : Bool) : evsText (streamOriginal t name ⟨c, false⟩).evs = t := by
  cases c
  · simp [streamOriginal, evsText_cons, Ev.text, origLineChunks_text, splitLines_join]
  · simp [streamOriginal, evsText_cons, Ev.text, origTokChunks_text, tokens_join]

/-- **where the text of a leaf's chunk comes from**, `txt` being the leaf's text: it is a line of `txt` (raw leaf; OriginalSource and
SourceMapSource without columns), a token of `txt` (OriginalSource with columns), or a stretch of one line (SourceMapSource with
columns: a map may point outside the text, so a stretch may be empty, but not that of a mapped chunk).  Every leaf has a lemma
`…_chunk` that says so (`streamSM_chunk` in SMWalk); that chunks are tokens, carry text and are not empty when mapped is read off it. -/
inductive LeafChunk (txt : Text) : Option Text → Mapping → Prop
  | line {x : Text} {m : Mapping} : x ∈ splitLines txt → LeafChunk txt (some x) m
  | token {x : Text} {m : Mapping} : x ∈ tokens txt → LeafChunk txt (some x) m
  | stretch {x : Text} {m : Mapping} (l a : Nat) : (x = (splitLines txt).getD l [] ∨ ∃ b, x = csub ((splitLines txt).getD l []) a b) →
      (m.orig = none ∨ x.isEmpty = false) → LeafChunk txt (some x) m

theorem origTokChunks_mem {e : Ev} : ∀ {toks : List Text} {l c : Nat}, e ∈ (origTokChunks false l c toks).1 →
    ∃ x ∈ toks, ∃ m, e = .chunk (some x) m
  | tok :: toks, l, c, h => by
    obtain ⟨o, l', c', eq, _⟩ := origTokChunks_cons l c tok toks
    rw [eq] at h
    rcases List.mem_cons.1 h with rfl | h
    · exact ⟨tok, List.mem_cons_self, _, rfl⟩
    · exact let ⟨x, hx, r⟩ := origTokChunks_mem h; ⟨x, List.mem_cons_of_mem _ hx, r⟩

theorem lineEvs_chunk {g : Nat → Option Orig} {txt : Text} {l : Nat} {t : Option Text} {m : Mapping}
    (h : Ev.chunk t m ∈ lineEvs g l (splitLines txt)) : LeafChunk txt t m := by
  obtain ⟨x, hx, _, e⟩ := lineEvs_mem h
  cases e
  exact .line hx

theorem streamRaw_chunk {txt : Text} {c : Bool} {t : Option Text} {m : Mapping} (h : Ev.chunk t m ∈ (streamRaw txt ⟨c, false⟩).evs) :
    LeafChunk txt t m := by
  simp only [streamRaw, Bool.false_eq_true, if_false, rawChunks_eq] at h
  exact lineEvs_chunk h

theorem streamOriginal_chunk {txt name : Text} {c : Bool} {t : Option Text} {m : Mapping}
    (h : Ev.chunk t m ∈ (streamOriginal txt name ⟨c, false⟩).evs) : LeafChunk txt t m := by
  cases c
  · simp only [streamOriginal, Bool.false_eq_true, if_false, origLineChunks_eq, List.mem_cons, reduceCtorEq, false_or] at h
    exact lineEvs_chunk h
  · simp only [streamOriginal, if_true, List.mem_cons, reduceCtorEq, false_or] at h
    obtain ⟨x, hx, _, e⟩ := origTokChunks_mem h
    cases e
    exact .token hx

theorem flatten_split {α} : ∀ (ls : List (List α)) (i c : Nat),
    ls.flatten = ((ls.take i).flatten ++ (ls.getD i []).take c) ++ ((ls.getD i []).drop c ++ (ls.drop (i + 1)).flatten)
  | [], i, c => by simp
  | x :: xs, 0, c => by
    simp only [List.take_zero, List.flatten_nil, List.nil_append, List.getD_cons_zero, List.drop_succ_cons, List.drop_zero, List.flatten_cons,
      ← List.append_assoc, List.take_append_drop]
  | x :: xs, i + 1, c => by
    rw [List.take_succ_cons, List.flatten_cons, List.flatten_cons, List.getD_cons_succ, List.drop_succ_cons, List.append_assoc, List.append_assoc,
      ← List.append_assoc (xs.take i).flatten, ← flatten_split xs i c]

end Rs
