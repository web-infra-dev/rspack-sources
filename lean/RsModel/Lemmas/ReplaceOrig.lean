import RsModel.Lemmas.ReplaceAdvance
import RsModel.Lemmas.LinePos
import RsModel.Lemmas.ProvOrig
import RsModel.Lemmas.MappedNE
/-!
# C04/C06: potential tokens of a file at their true positions

`TokPos T tok l c k`: the text `tok` stands at byte `k` of `T`, has no line break except possibly at its end, and `(l, c)` is the
true position of byte `k`.  An `OriginalSource` announces its text as the content of source 0, and each mapped chunk of its stream
is one, mapped to where it stands (`streamOriginal_tokPos`, read off the position invariant of C02 by `tokPos_of_posOK`; with
columns = false the chunks are the lines).  A token lies inside its line, so the content a ReplaceSource recorded for the file
spells it out from its column on (`fm_of_tokPos`: `FM`), and the advance rule (`rOnChunk_adv`) applies to it: whatever the
ReplaceSource cuts from the token, or splices into it, at offset `p` is reported at `(l, c + p)` — the true position of byte `k + p`
(`tokPos_advance`).  A window of a token, at its own true position, is again one (`tokPos_piece`), and inside a token it is the
piece that `TrueQ` / `SurvQ` (ProvRepl.lean) speak of (`tokPos_slice`).
-/
namespace Rs

structure TokPos (T : Text) (tok : Text) (l c k : Nat) : Prop where
  lt : k < T.length
  pre : tok <+: T.drop k
  ok : TokOK tok
  ne : tok ≠ []
  pos : adv startPos (T.take k) = ⟨l, c⟩

theorem tokPos_of_posOK {evs : List Ev} {T tok : Text} {m : Mapping} (hp : posOKT [] evs) (hT : evsText evs = T)
    (hm : Ev.chunk (some tok) m ∈ evs) (hok : TokOK tok) (hne : tok ≠ []) : ∃ k, TokPos T tok m.gl m.gc k := by
  obtain ⟨pre, rest, h1, h2⟩ := posOKT_mem _ [] hp tok m hm
  rw [hT, List.nil_append, List.append_assoc] at h1
  have : 0 < tok.length := List.length_pos_iff.2 hne
  exact ⟨pre.length, by rw [h1, List.length_append, List.length_append]; omega,
    by rw [h1, List.drop_left' rfl]; exact List.prefix_append _ _, hok, hne, by rw [h1, List.take_left' rfl]; exact h2.symm⟩

theorem streamOriginal_tokPos (T name : Text) (c : Bool) : ∀ t m, Ev.chunk t m ∈ (streamOriginal T name ⟨c, false⟩).evs → ∀ a, m.orig = some a →
    ∃ tok k, t = some tok ∧ TokPos T tok a.line a.col k ∧ a.src = 0 ∧ a.name = none := by
  intro t m hm a ha
  obtain ⟨tok, rfl⟩ : ∃ tok, t = some tok := by cases streamOriginal_chunk hm <;> exact ⟨_, rfl⟩
  have hid : a = ⟨0, m.gl, m.gc, none⟩ := by
    rcases streamOriginal_shape T name c tok m hm with h | h
    · exact Option.some.inj (ha.symm.trans h)
    · cases ha.symm.trans h.1
  subst hid
  obtain ⟨k, hk⟩ := tokPos_of_posOK (streamOriginal_posOK T name c).1 (streamOriginal_text T name c) hm
    (streamOriginal_tok T name c tok m hm) (streamOriginal_mappedNE T name c tok m hm (by rw [ha]; rfl))
  exact ⟨tok, k, rfl, hk, rfl, rfl⟩

/-- the token lies inside line `l` of `T` from column `c` on, and that line is what `check_original_content` reads; the line is
ASCII, so its characters are its bytes -/
theorem fm_of_tokPos (T : Text) (ha : IsAscii T) (hl : T.length < USIZE_MAX) (tok : Text) (a : Orig) (k : Nat) (h : TokPos T tok a.line a.col k)
    (contents : List (Option Text)) (hc : contents[a.src]? = some (some T)) : FM contents a tok := by
  obtain ⟨h1, h2, r, hr⟩ := token_in_line T k h.lt a.line a.col h.pos tok h.ok h.pre
  have E := env_of_ascii T ha (Nat.le_of_lt hl)
  have hget : (splitLines T)[a.line - 1]? = some (lineAt (splitLines T) a.line) := by
    unfold lineAt
    rw [List.getD_eq_getElem?_getD, List.getElem?_eq_getElem (by omega)]; rfl
  have hla := E.ascii _ (List.mem_of_getElem? hget)
  have hsm := lineAt_small _ E.wf a.line
  have htl : a.col + tok.length ≤ (lineAt (splitLines T) a.line).length := by
    have hlen := congrArg List.length hr
    have := List.length_pos_iff.2 h.ne
    rw [List.length_append, List.length_drop] at hlen
    omega
  refine fm_of_prefix contents a tok T _ hc (by omega) hget fun p q hpq hq => ?_
  -- what is read of the line from character `a.col + p` on is the line from that byte on,
  rw [csub_eq _ _ _ (by omega), cpos_ascii_min _ hla, cpos_ascii_min _ hla, Nat.min_eq_right hsm, Nat.min_eq_left (by omega), List.take_length]
  -- where the token goes on from its byte `p`
  rw [List.isPrefixOf_iff_prefix, ← List.drop_drop, ← hr, List.drop_append_of_le_length (by omega)]
  exact (List.take_prefix _ _).trans (List.prefix_append _ _)

theorem tokPos_end (T tok : Text) (l c k : Nat) (h : TokPos T tok l c k) : k + tok.length ≤ T.length := by
  obtain ⟨r, hr⟩ := h.pre
  have := congrArg List.length hr
  have hk := h.lt
  simp only [List.length_append, List.length_drop] at this
  omega

theorem tokPos_advance (T tok : Text) (l c k p : Nat) (h : TokPos T tok l c k) (hp : p < tok.length) :
    k + p < T.length ∧ adv startPos (T.take (k + p)) = ⟨l, c + p⟩ := by
  have hlen := tokPos_end T tok l c k h
  obtain ⟨r, hr⟩ := h.pre
  refine ⟨by omega, ?_⟩
  rw [List.take_add, adv_append, h.pos, ← hr, List.take_append_of_le_length (Nat.le_of_lt hp), adv_noNL _ _ (tok_prefix_noNL tok h.ok p hp)]
  simp only [List.length_take, Nat.min_eq_left (Nat.le_of_lt hp)]

theorem tokPos_piece (T tok : Text) (l0 c0 k0 q q' l c : Nat) (h : TokPos T tok l0 c0 k0) (h1 : k0 ≤ q) (h2 : q < q') (h3 : q' ≤ k0 + tok.length)
    (hpos : adv startPos (T.take q) = ⟨l, c⟩) : TokPos T (bsub T q q') l c q := by
  -- in offsets `p < p'` into the token the window is `tok[p..p')`
  obtain ⟨p, rfl⟩ := Nat.exists_eq_add_of_le h1
  obtain ⟨p', rfl⟩ := Nat.exists_eq_add_of_le (Nat.le_trans h1 (Nat.le_of_lt h2))
  have hend := tokPos_end T tok l0 c0 k0 h
  have hlen := bsub_length T (k0 + p) (k0 + p') (Nat.le_trans h3 hend)
  refine ⟨by omega, by unfold bsub; exact List.take_prefix _ _, ?_, fun he => by rw [he] at hlen; simp at hlen; omega, hpos⟩
  rw [← bsub_of_prefix_drop T tok k0 p p' h.pre (Nat.le_of_add_le_add_left h3)]
  exact tokOK_bsub tok h.ok p p'

theorem tokPos_slice (T tok : Text) (l c k p q : Nat) (h : TokPos T tok l c k) (hpq : p < q) (hq : q ≤ tok.length) :
    k + p < k + q ∧ k + q ≤ T.length ∧ bsub tok p q = bsub T (k + p) (k + q)
    ∧ (∀ j, j < k + q - (k + p) → adv startPos (T.take (k + p + j)) = ⟨l, c + p + j⟩)
    ∧ ∃ tok' k0 l0 c0, TokPos T tok' l0 c0 k0 ∧ k0 ≤ k + p ∧ k + q ≤ k0 + tok'.length :=
  ⟨Nat.add_lt_add_left hpq k, Nat.le_trans (Nat.add_le_add_left hq k) (tokPos_end T tok l c k h), bsub_of_prefix_drop T tok k p q h.pre hq,
    fun j hj => by
      rw [Nat.add_assoc, Nat.add_assoc]
      exact (tokPos_advance T tok l c k (p + j) h (by omega)).2,
    tok, k, l, c, h, Nat.le_add_right k p, Nat.add_le_add_left hq k⟩

/-- `o` is source 0 at the line and column of some byte of `T` -/
def TruePos (T : Text) (o : Orig) : Prop := o.src = 0 ∧ ∃ q, q < T.length ∧ adv startPos (T.take q) = ⟨o.line, o.col⟩

end Rs
