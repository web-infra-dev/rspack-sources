import RsModel.Lemmas.PosComb
import RsModel.Lemmas.HasText
/-!
# C02, text-less (final_source) mode

In final mode the chunks carry no text, so the contract is stated against the source's text `T`: every reported
position is a position of `T` (`IsPos`: the position reached after some prefix of `T`), and the returned
generated info is the position after the whole of `T`.  `get_generated_source_info` computes that position (`genInfo_adv`), by the
rule the line loops of normal mode end with (`genInfo_eq`).  A stream with text that reports true positions satisfies the contract
(`finOK_of_posOK`), and so does one that reports some of the places of another that does (`finOK_sub`).
-/
namespace Rs

def IsPos (T : Text) (p : Pos) : Prop := ∃ k, k ≤ T.length ∧ adv startPos (T.take k) = p

/-- the final-mode contract of C02 -/
def FinOK (T : Text) (r : SResult) : Prop :=
  (∀ k ∈ evsKeys r.evs, IsPos T ⟨k.2.1, k.2.2⟩) ∧ r.info = adv startPos T

theorem isPos_prefix (A B : Text) : IsPos (A ++ B) (adv startPos A) :=
  ⟨A.length, by simp, by simp⟩

theorem isPos_end (T : Text) : IsPos T (adv startPos T) := ⟨T.length, Nat.le_refl _, by rw [List.take_length]⟩

theorem isPos_start (T : Text) : IsPos T startPos := ⟨0, by simp, by simp [adv]⟩

theorem isPos_bounds (T : Text) (p : Pos) (h : IsPos T p) : posLe startPos p ∧ posLe p (adv startPos T) := by
  obtain ⟨k, hk, rfl⟩ := h
  refine ⟨adv_ge _ _, ?_⟩
  have : adv startPos T = adv (adv startPos (T.take k)) (T.drop k) := by rw [← adv_append, List.take_append_drop]
  rw [this]
  exact adv_ge _ _

theorem isPos_line_ge (T : Text) (p : Pos) (h : IsPos T p) : 1 ≤ p.line := by
  have e1 : startPos.line = 1 := rfl
  rcases (isPos_bounds T p h).1 with g | g <;> omega

theorem isPos_mid (A B C : Text) (p : Pos) (h : IsPos B p) (q : Pos) (hq : ∀ x, adv startPos (A ++ x) = adv (adv startPos A) x)
    (hp : ∀ x, adv startPos x = p → adv (adv startPos A) x = q) : IsPos (A ++ B ++ C) q := by
  obtain ⟨k, hk, he⟩ := h
  refine ⟨A.length + k, by simp; omega, ?_⟩
  have : (A ++ B ++ C).take (A.length + k) = A ++ B.take k := by
    rw [List.append_assoc, List.take_length_add_append, List.take_append_of_le_length hk]
  rw [this, hq, hp _ he]

theorem finOK_of_posOK (r : SResult) (h : PosOK r) (hTL : evsTL r.evs = false) : FinOK (evsText r.evs) r := by
  refine ⟨fun k hk => ?_, h.2⟩
  obtain ⟨e, he, hk⟩ := List.mem_filterMap.1 hk
  cases e with
  | chunk t m =>
    cases hk
    cases t with
    | none => exact absurd ((evsTL_false_iff _).1 hTL _ he) (by simp [Ev.textless])
    | some t =>
      obtain ⟨pre', rest, e1, e2⟩ := posOKT_mem _ [] h.1 t m he
      rw [List.nil_append, List.append_assoc] at e1
      rw [e1, e2]
      exact isPos_prefix _ _
  | source | name => cases hk

theorem finOK_sub (T : Text) (a b : SResult) (h : FinOK T b) (hi : a.info = b.info)
    (hs : ∀ k ∈ evsKeys a.evs, ∃ k' ∈ evsKeys b.evs, k'.2 = k.2) : FinOK T a := by
  refine ⟨fun k hk => ?_, hi ▸ h.2⟩
  obtain ⟨k', hk', he⟩ := hs k hk
  exact he ▸ h.1 k' hk'

theorem lines_last_ne (ls : List Text) (h : Lines ls) (last : Text) (hl : ls.getLast? = some last) : last ≠ [] :=
  lines_ne ls h last (List.mem_of_getLast? hl)

theorem Lines.last_nl {ls : List Text} (h : Lines ls) {last : Text} (hl : ls.getLast? = some last) :
    endsWithNL ls.flatten = endsWithNL last := by
  have hne := lines_last_ne ls h last hl
  obtain ⟨ys, rfl⟩ := List.getLast?_eq_some_iff.1 hl
  -- the last byte of a concatenation is that of its last piece, when that is not empty
  rw [List.flatten_append, List.flatten_singleton, endsWithNL, endsWithNL, List.getLast?_append, List.getLast?_eq_some_getLast hne, Option.some_or]

theorem genInfo_eq (t : Text) : genInfo t = lineLoopInfo (splitLines t) := by
  simp only [genInfo, lineLoopInfo]
  cases hl : (splitLines t).getLast? with
  | none =>
    have ht : t = [] := by rw [← splitLines_join t, List.getLast?_eq_none_iff.1 hl]; rfl
    subst ht; rfl
  | some last =>
    have hnl := (lines_of_splitLines t).last_nl hl
    rw [splitLines_join] at hnl
    simp only [hnl, Option.getD_some]
    split
    · rfl
    · rw [Nat.max_eq_left (List.length_pos_of_mem (List.mem_of_getLast? hl))]

theorem genInfo_adv (t : Text) : genInfo t = adv startPos t := by rw [genInfo_eq, adv_text_end]

/-- the last line that final-mode line streaming may report is the last line of the text -/
theorem finalLine_eq (t : Text) :
    (if (genInfo t).col == 0 then (genInfo t).line - 1 else (genInfo t).line) = (splitLines t).length := by
  rw [genInfo_eq]
  unfold lineLoopInfo
  cases hl : (splitLines t).getLast? with
  | none => rw [List.getLast?_eq_none_iff.1 hl]; rfl
  | some last =>
    have : last.length ≠ 0 := fun h => lines_last_ne _ (lines_of_splitLines t) last hl (List.eq_nil_of_length_eq_zero h)
    simp only
    split
    · simp
    · simp [this]

theorem finalLine_le (t : Text) :
    (if (genInfo t).col == 0 then (genInfo t).line - 1 else (genInfo t).line) ≤ (splitLines t).length :=
  Nat.le_of_eq (finalLine_eq t)

theorem isPos_line_start (t : Text) (l : Nat) (h1 : 1 ≤ l) (hl : l ≤ (splitLines t).length) : IsPos t ⟨l, 0⟩ := by
  obtain ⟨_, hadv⟩ := lines_get (splitLines t) (lines_of_splitLines t) (l - 1) (by omega)
  have h := isPos_prefix ((splitLines t).take (l - 1)).flatten ((splitLines t).drop (l - 1)).flatten
  rwa [← List.flatten_append, List.take_append_drop, splitLines_join, startPos, hadv, Nat.add_sub_cancel' h1] at h

instance (T : Text) (p : Pos) : Decidable (IsPos T p) := by unfold IsPos; infer_instance

end Rs
