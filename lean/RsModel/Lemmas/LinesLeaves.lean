import RsModel.Lemmas.LinesConcat
import RsModel.Lemmas.ModeTree
/-!
# columns = false: the leaves attribute every generated line alike in both modes

For RawSource, OriginalSource and SourceMapSource without inner map, what `M3L` and `ChildOKL` ask of the text-less and the normal
stream: the same first mapped chunk on every line (`*_linesEq`), the same final position (`*_linesInfo`, `streamRaw_info`), the same
announcements (`*_linesDecls`), a sorted text-less stream (`*_linesSorted`).
-/
namespace Rs

theorem rawChunks_lines_ge : ∀ (ls : List Text) (l : Nat), ∀ m ∈ chunkMs (rawChunks l ls), l ≤ m.gl := by
  intro ls
  induction ls with
  | nil => intro l m hm; simp [rawChunks, chunkMs] at hm
  | cons t ts ih =>
    intro l m hm
    simp only [rawChunks, chunkMs, List.mem_cons] at hm
    rcases hm with rfl | hm
    · exact Nat.le_refl _
    · have := ih (l + 1) m hm; omega

theorem streamRaw_linesEq (t : Text) (c : Bool) (L : Nat) :
    lookupLines (chunkMs (streamRaw t ⟨c, true⟩).evs) L = lookupLines (chunkMs (streamRaw t ⟨c, false⟩).evs) L := by
  simp only [streamRaw, if_true, Bool.false_eq_true, if_false, chunkMs, lookupLines_nil]
  exact (lookupLines_none L _ (fun m hm => by intro ⟨_, h⟩; rw [chunkMs_rawChunks _ _ m hm] at h; cases h)).symm

theorem streamRaw_info (t : Text) (c : Bool) : (streamRaw t ⟨c, true⟩).info = (streamRaw t ⟨c, false⟩).info := by
  simp only [streamRaw, if_true, Bool.false_eq_true, if_false]
  exact genInfo_eq t

theorem mappedLines_sorted (g : Nat → Option Orig) : ∀ (n a l : Nat), l ≤ a → sortedFrom l 0 (chunkMs (mappedLines g a n))
  | 0, _, _, _ => trivial
  | n + 1, a, l, h => by
    rw [mappedLines_succ]
    cases g a with
    | none => exact mappedLines_sorted g n (a + 1) l (Nat.le_succ_of_le h)
    | some o => exact ⟨(Nat.lt_or_eq_of_le h).imp_right fun e => ⟨e, Nat.le_refl 0⟩, mappedLines_sorted g n (a + 1) a (Nat.le_succ a)⟩

/-! ## OriginalSource, columns = false

The normal stream delivers one chunk per line of the text, each mapped to the line it is (`origLineChunks_eq`); the text-less one
delivers the same lines with the same locations, without their text.  So the two are related like those of a SourceMapSource. -/

theorem streamOriginal_linesFinal (t name : Text) : (streamOriginal t name ⟨false, true⟩).evs
    = .source 0 name (some t) :: mappedLines (fun l => some ⟨0, l, 0, none⟩) 1 (splitLines t).length := by
  have hn : (if ((genInfo t).col == 0) = true then (genInfo t).line - 1 else (genInfo t).line + 1 - 1) = (splitLines t).length :=
    finalLine_eq t
  rw [← hn]
  simp only [streamOriginal, Bool.false_eq_true, if_false, if_true, origFinalLines_eq]
  split <;> rfl

theorem streamOriginal_linesEq (t name : Text) (L : Nat) :
    lookupLines (chunkMs (streamOriginal t name ⟨false, true⟩).evs) L = lookupLines (chunkMs (streamOriginal t name ⟨false, false⟩).evs) L := by
  rw [streamOriginal_linesFinal]
  simp only [streamOriginal, Bool.false_eq_true, if_false, origLineChunks_eq, chunkMs]
  exact lookupLines_mappedLines _ L _ 1

theorem streamOriginal_linesInfo (t name : Text) : (streamOriginal t name ⟨false, true⟩).info = (streamOriginal t name ⟨false, false⟩).info := by
  simp only [streamOriginal, Bool.false_eq_true, if_false, if_true]
  split <;> exact genInfo_eq t

theorem streamOriginal_linesDecls (t name : Text) :
    declsOf (streamOriginal t name ⟨false, true⟩).evs = declsOf (streamOriginal t name ⟨false, false⟩).evs := by
  rw [streamOriginal_decls, streamOriginal_decls]

theorem streamOriginal_linesSorted (t name : Text) : sortedFrom 1 0 (chunkMs (streamOriginal t name ⟨false, true⟩).evs) := by
  rw [streamOriginal_linesFinal]
  exact mappedLines_sorted _ _ 1 1 (Nat.le_refl 1)

theorem streamSM_linesEq (t : Text) (sm : SMap) (L : Nat) :
    lookupLines (chunkMs (streamSM t sm ⟨false, true⟩).evs) L = lookupLines (chunkMs (streamSM t sm ⟨false, false⟩).evs) L := by
  simp only [streamSM]
  rw [(streamSMLines_ms t sm).2, lookupLines_mappedLines, (streamSMLines_ms t sm).1]

theorem streamSM_linesInfo (t : Text) (sm : SMap) : (streamSM t sm ⟨false, true⟩).info = (streamSM t sm ⟨false, false⟩).info := by
  by_cases ht : t = []
  · subst ht; rfl
  · simp only [streamSM, streamSMLinesFinal, streamSMLinesFull, genInfo_start_iff, splitLines_isEmpty_iff, ht, if_false]
    exact genInfo_eq t

theorem streamSM_linesDecls (t : Text) (sm : SMap) : declsOf (streamSM t sm ⟨false, true⟩).evs = declsOf (streamSM t sm ⟨false, false⟩).evs :=
  (streamSM_decls t sm false true).trans (streamSM_decls t sm false false).symm

theorem streamSM_linesSorted (t : Text) (sm : SMap) : sortedFrom 1 0 (chunkMs (streamSM t sm ⟨false, true⟩).evs) := by
  simp only [streamSM]
  rw [(streamSMLines_ms t sm).2]
  exact mappedLines_sorted _ _ 1 1 (Nat.le_refl 1)

end Rs
