import RsModel.Lemmas.JsonStr
/-!
# The written document parses back to the value `toDoc m` (whole-document `parse ∘ write`)

`Parses w v` is the statement for one rendered value, in front of any continuation a document can have; it is proved for strings,
string arrays and optional strings, and `parse_write` puts the members together.  The second half (`smapOfJson_perm`, from `field_perm`
and `dupKnown_perm`): reading a SourceMap off an object does not depend on the order of its members.
-/
namespace Rs.Json

/-- "the rendering `w` parses to `v`" before every continuation that starts with `,`, `]` or `}`, with any fuel that is
at least the length of `w` -/
def Parses (w : Text) (v : JVal) : Prop :=
  ∀ (fuel : Nat) (c : UInt8) (rest : Text), w.length ≤ fuel → (c = 44 ∨ c = 93 ∨ c = 125) →
    parseVal fuel (w ++ c :: rest) = some (v, c :: rest)

theorem parses_str (t : Text) : Parses (writeStr t) (.str t) := by
  intro fuel c rest hf _
  obtain ⟨f, rfl⟩ : ∃ f, fuel = f + 1 := ⟨fuel - 1, by have : 0 < (writeStr t).length := Nat.succ_pos _; omega⟩
  exact parseVal_writeStr t _ f

theorem parses_three : Parses [51] (.num [51]) := by
  intro fuel c rest hf hc
  obtain ⟨f, rfl⟩ : ∃ f, fuel = f + 1 := ⟨fuel - 1, by simp at hf; omega⟩
  rcases hc with rfl | rfl | rfl <;> rfl

theorem skipWs_nonws (b : UInt8) (bs : Text) (h : isWs b = false) : skipWs (b :: bs) = b :: bs := by
  rw [skipWs, h]; rfl

theorem parseElems_one (w : Text) (v : JVal) (hp : Parses w v) (f : Nat) (hf : w.length ≤ f) (rest : Text) :
    parseElems (f + 1) (w ++ 44 :: rest) = (parseElems f rest).map (fun (l, r) => (v :: l, r))
    ∧ parseElems (f + 1) (w ++ 93 :: rest) = some ([v], rest) := by
  constructor
  · rw [parseElems, hp f 44 rest hf (Or.inl rfl)]; rfl
  · rw [parseElems, hp f 93 rest hf (Or.inr (Or.inl rfl))]; rfl

/-- a list parser `p` that reads one item and its separator or closing byte per unit of fuel (`parseElems_one`,
`parseMembers_one`) reads back a comma-separated list up to the closing byte -/
theorem sepBy_parse {α β} (p : Nat → Text → Option (List β × Text)) (bytes : α → Text) (val : α → β) (close : UInt8) :
    ∀ (xs : List α) (x : α) (fuel : Nat) (rest : Text),
    (∀ y ∈ x :: xs, ∀ (f : Nat) (r : Text), (bytes y).length ≤ f →
      p (f + 1) (bytes y ++ 44 :: r) = (p f r).map (fun (l, r') => (val y :: l, r'))
      ∧ p (f + 1) (bytes y ++ close :: r) = some ([val y], r)) →
    (sepBy [44] ((x :: xs).map bytes)).length < fuel →
    p fuel (sepBy [44] ((x :: xs).map bytes) ++ close :: rest) = some ((x :: xs).map val, rest) := by
  intro xs
  induction xs with
  | nil =>
    intro x fuel rest one hf
    obtain ⟨f, rfl⟩ : ∃ f, fuel = f + 1 := ⟨fuel - 1, by omega⟩
    exact (one x (List.mem_cons_self ..) f rest (Nat.le_of_lt_succ hf)).2
  | cons y xs ih =>
    intro x fuel rest one hf
    obtain ⟨f, rfl⟩ : ∃ f, fuel = f + 1 := ⟨fuel - 1, by omega⟩
    simp only [List.map_cons, sepBy, List.length_append, List.length_cons, List.length_nil] at hf ih ⊢
    rw [List.append_assoc, List.append_assoc, List.singleton_append, (one x (List.mem_cons_self ..) f _ (by omega)).1,
      ih y f rest (fun z hz => one z (List.mem_cons_of_mem _ hz)) (by omega)]
    rfl

theorem parses_strArr (l : List Text) : Parses (writeStrArr l) (.arr (l.map .str)) := by
  intro fuel c rest hf _
  obtain ⟨f, rfl⟩ : ∃ f, fuel = f + 1 := ⟨fuel - 1, by simp [writeStrArr] at hf; omega⟩
  cases l with
  | nil => rfl
  | cons x l =>
    simp only [writeStrArr, List.length_append, List.length_cons, List.length_nil] at hf
    have he := sepBy_parse parseElems writeStr .str 93 l x f (c :: rest)
      (fun y _ f r hf => parseElems_one _ _ (parses_str y) f hf r) (by omega)
    -- the first element starts with a quote, so the array is not empty
    obtain ⟨tl, htl⟩ : ∃ tl, sepBy [44] ((x :: l).map writeStr) ++ 93 :: c :: rest = 34 :: tl := by
      cases l with
      | nil => exact ⟨_, rfl⟩
      | cons y l => exact ⟨_, rfl⟩
    rw [htl] at he
    simp only [writeStrArr, List.append_assoc, List.cons_append, List.nil_append, htl]
    rw [parseVal, skipWs_nonws _ _ (by decide)]
    simp only [skipWs_nonws 34 _ (by decide), he]
    rfl

theorem memberBytes_append (x : Text × Written) (r : Text) :
    memberBytes x ++ r = 34 :: ((x.1.map escByte).flatten ++ 34 :: 58 :: (x.2.w ++ r)) := by
  simp only [memberBytes, key, List.append_assoc, writeStr_append, List.cons_append, List.nil_append]

theorem length_memberBytes (x : Text × Written) : x.2.w.length < (memberBytes x).length := by
  simp only [memberBytes, key, List.length_append, List.length_cons]; omega

theorem parseMembers_one (x : Text × Written) (hp : Parses x.2.w x.2.v) (f : Nat) (hf : x.2.w.length ≤ f) (rest : Text) :
    parseMembers (f + 1) (memberBytes x ++ 44 :: rest) = (parseMembers f rest).map (fun (l, r) => ((x.1, x.2.v) :: l, r))
    ∧ parseMembers (f + 1) (memberBytes x ++ 125 :: rest) = some ([(x.1, x.2.v)], rest) := by
  constructor
  · rw [memberBytes_append, parseMembers, skipWs_nonws _ _ (by decide)]
    simp only [parseStr_escaped, skipWs_nonws 58 _ (by decide), hp f 44 rest hf (Or.inl rfl)]
    rfl
  · rw [memberBytes_append, parseMembers, skipWs_nonws _ _ (by decide)]
    simp only [parseStr_escaped, skipWs_nonws 58 _ (by decide), hp f 125 rest hf (Or.inr (Or.inr rfl))]
    rfl

theorem parses_optStr (k : Text) (o : Option Text) (p : Text × Written)
    (h : (o.map fun f => (⟨writeStr f, .str f⟩ : Written)).map (k, ·) = some p) : Parses p.2.w p.2.v := by
  cases o with
  | none => cases h
  | some f => cases h; exact parses_str f

theorem slots_parse (m : SMap) : ∀ p ∈ present (slots m), Parses p.2.w p.2.v := by
  intro p hp
  obtain ⟨s, hs, he⟩ := List.mem_filterMap.1 hp
  simp only [slots, List.mem_cons, List.not_mem_nil, or_false] at hs
  rcases hs with rfl | rfl | rfl | rfl | rfl | rfl | rfl | rfl
  · cases he; exact parses_three
  · exact parses_optStr _ _ p he
  · cases he; exact parses_strArr _
  · split at he
    · cases he
    · cases he; exact parses_strArr _
  · cases he; exact parses_strArr _
  · cases he; exact parses_str _
  · exact parses_optStr _ _ p he
  · exact parses_optStr _ _ p he

theorem parse_write (m : SMap) : parse (writeSMap m) = some (toDoc m) := by
  have hb := writeSMap_slots m
  have hd := toDoc_slots m
  obtain ⟨x, xs, hx⟩ : ∃ (x : Text × Written) (xs : List (Text × Written)), present (slots m) = x :: xs := ⟨_, _, rfl⟩
  rw [docOf, hx] at hd
  rw [hx] at hb
  have hlen : (writeSMap m).length = (sepBy [44] ((x :: xs).map memberBytes)).length + 2 := by
    rw [hb]; simp only [List.length_append, List.length_cons, List.length_nil]; omega
  have hgo := sepBy_parse parseMembers memberBytes (fun x => (x.1, x.2.v)) 125 xs x ((writeSMap m).length + 1) []
    (fun y hy f r hf => parseMembers_one y (slots_parse m y (hx ▸ hy)) f (Nat.le_trans (Nat.le_of_lt (length_memberBytes y)) hf) r)
    (by omega)
  -- after the opening brace comes the first member's key: a quote, so the object is not empty
  obtain ⟨tl, htl⟩ : ∃ tl, sepBy [44] ((x :: xs).map memberBytes) ++ [125] = 34 :: tl := by
    cases xs with
    | nil => exact ⟨_, rfl⟩
    | cons y ys => exact ⟨_, rfl⟩
  have hval : parseVal ((writeSMap m).length + 2) (writeSMap m) = some (toDoc m, []) := by
    rw [htl] at hgo
    generalize (writeSMap m).length = N at hgo ⊢
    rw [hb, hd, List.append_assoc, List.singleton_append, htl, parseVal, skipWs_nonws _ _ (by decide)]
    simp only [skipWs_nonws 34 _ (by decide), hgo]
    rfl
  rw [parse, hval]
  rfl

theorem perm_short_eq {α} (a b : List α) (h : a.Perm b) (hl : a.length ≤ 1) : a = b :=
  match a, h, hl with
  | [], h, _ => h.nil_eq
  | [_], h, _ => List.singleton_perm.1 h

theorem field_perm (kvs kvs' : List (Text × JVal)) (h : kvs.Perm kvs') (k : Text) (hk : (kvs.filter (·.1 == k)).length ≤ 1) :
    field kvs k = field kvs' k := by
  unfold field
  rw [← List.head?_filter, ← List.head?_filter, perm_short_eq _ _ (h.filter _) hk]

theorem dupKnown_perm (kvs kvs' : List (Text × JVal)) (h : kvs.Perm kvs') : dupKnown kvs = dupKnown kvs' := by
  unfold dupKnown
  congr 1; funext k
  rw [(h.filter _).length_eq]

theorem dupKnown_false_le (kvs : List (Text × JVal)) (h : dupKnown kvs = false) (k : Text) (hk : k ∈ knownKeys) :
    (kvs.filter (·.1 == k)).length ≤ 1 := by
  unfold dupKnown at h
  rw [List.any_eq_false] at h
  have := h k hk
  simpa using this

theorem smapOfJson_perm (kvs kvs' : List (Text × JVal)) (h : kvs.Perm kvs') : smapOfJson (.obj kvs) = smapOfJson (.obj kvs') := by
  rw [smapOfJson_fields, smapOfJson_fields, dupKnown_perm kvs kvs' h]
  by_cases hd : dupKnown kvs' = true
  · simp [smapOfFields, hd]
  · have hd' : dupKnown kvs' = false := by simpa using hd
    have hdk : dupKnown kvs = false := by rw [dupKnown_perm kvs kvs' h]; exact hd'
    have hf : ∀ k ∈ knownKeys, field kvs k = field kvs' k := fun k hk => field_perm kvs kvs' h k (dupKnown_false_le kvs hdk k hk)
    simp only [knownKeys, List.forall_mem_cons] at hf
    obtain ⟨hfile, hsrc, hroot, hsc, hnames, hmap, hdbg, -⟩ := hf
    rw [hfile, hsrc, hroot, hsc, hnames, hmap, hdbg]

end Rs.Json
