import RsModel.Lemmas.Vlq
/-!
# decode ∘ encode for the full mappings codec

The encoder writes deltas against its running state and the decoder adds them back: `EncSt.dec` is the decoder state that mirrors an
encoder state, and one encoded segment takes the one to the other (`decOut` is what the decoder has produced).  The hypotheses are
`Mapping.small` (every field below `U31`, so that no delta leaves the `i64` range in which `finalValue` is the zig-zag decoding `zz`)
and `linesOK` (generated lines do not decrease: the encoder writes `;` per line and cannot go back).
-/
namespace Rs

def U31 : Nat := 2 ^ 31

/-- zig-zag: the sign of a delta travels in bit 0 -/
def zz (v : Nat) : Int := if v % 2 = 1 then -((v / 2 : Nat) : Int) else ((v / 2 : Nat) : Int)

/-- below 63 bits the `i64` is non-negative and `final_value` is the plain zig-zag decoding -/
theorem finalValue_small (v : Nat) (h : v < 2 ^ 63) : finalValue v = zz v := by
  have h64 : v % 2 ^ 64 = v := Nat.mod_eq_of_lt (Nat.lt_trans h (by decide))
  simp only [finalValue, zz, h64, h, if_true, Int.natCast_ediv, Int.cast_ofNat_Int]

/-- no wrap: where the running value plus the delta is a `u32`, that is what the decoder stores -/
theorem addField_zz (c v x : Nat) (hv : v < 2 ^ 63) (hx : (c : Int) + zz v = x) (h32 : (x : Int) < 2 ^ 32) : addField c v = x := by
  rw [addField, finalValue_small v hv, hx, Int.emod_eq_of_lt (Int.natCast_nonneg x) h32, Int.toNat_natCast]

theorem zz_even (d : Nat) : zz (2 * d) = d := by
  rw [zz, if_neg (by omega), Nat.mul_div_cancel_left d (by decide)]

theorem zz_odd (d : Nat) : zz (2 * d + 1) = -(d : Int) := by
  rw [zz, if_pos (Nat.mul_add_mod 2 d 1), show (2 * d + 1) / 2 = d by omega]

theorem addField_vlq (a b : Nat) (ha : a < U31) (hb : b < U31) : addField b (vlqNum a b) = a := by
  unfold U31 at ha hb
  unfold vlqNum
  split
  · rw [Nat.mod_eq_of_lt (by omega), Nat.mul_comm]
    exact addField_zz b _ a (by omega) (by rw [zz_even]; omega) (by omega)
  · rw [Nat.mod_eq_of_lt (by omega), Nat.mul_comm]
    exact addField_zz b _ a (by omega) (by rw [zz_odd]; omega) (by omega)

theorem setField_congr (s : DecSt) (v p x : Nat) :
    ({ s with value := v, valuePos := p } : DecSt).setField x = s.setField x := rfl

theorem setField_0 (a0 a1 a2 a3 a4 v p g x : Nat) :
    DecSt.setField ⟨a0, a1, a2, a3, a4, 0, v, p, g⟩ x = ⟨addField a0 x, a1, a2, a3, a4, 1, 0, 0, g⟩ := by
  unfold DecSt.setField; rfl

theorem setField_1 (a0 a1 a2 a3 a4 v p g x : Nat) :
    DecSt.setField ⟨a0, a1, a2, a3, a4, 1, v, p, g⟩ x = ⟨a0, addField a1 x, a2, a3, a4, 2, 0, 0, g⟩ := by
  unfold DecSt.setField; rfl

theorem setField_2 (a0 a1 a2 a3 a4 v p g x : Nat) :
    DecSt.setField ⟨a0, a1, a2, a3, a4, 2, v, p, g⟩ x = ⟨a0, a1, addField a2 x, a3, a4, 3, 0, 0, g⟩ := by
  unfold DecSt.setField; rfl

theorem setField_3 (a0 a1 a2 a3 a4 v p g x : Nat) :
    DecSt.setField ⟨a0, a1, a2, a3, a4, 3, v, p, g⟩ x = ⟨a0, a1, a2, addField a3 x, a4, 4, 0, 0, g⟩ := by
  unfold DecSt.setField; rfl

theorem setField_4 (a0 a1 a2 a3 a4 v p g x : Nat) :
    DecSt.setField ⟨a0, a1, a2, a3, a4, 4, v, p, g⟩ x = ⟨a0, a1, a2, a3, addField a4 x, 5, 0, 0, g⟩ := by
  unfold DecSt.setField; rfl

theorem decByte_digit (s : DecSt) (d : Nat) (hd : d < 64) :
    decByte s (b64At d) =
      if d < 32 then (s.setField (s.value + d * 2 ^ s.valuePos), [])
      else ({ s with value := s.value + (d % 32) * 2 ^ s.valuePos, valuePos := s.valuePos + 5 }, []) := by
  obtain ⟨h1, h2, h3, h4⟩ := b64Val_b64At_class d hd
  have hv := b64Val_b64At d hd
  unfold decByte
  simp only [h1, if_false, h2, ne_eq, not_true_eq_false]
  by_cases hlt : d < 32
  · simp only [h3.mpr hlt, if_true, hlt, hv]
  · have : ¬ (b64Val (b64At d) &&& Generated.CONTINUATION_BIT) = 0 := fun h => hlt (h3.mp h)
    simp only [this, if_false, hlt, h4]

theorem shift_digit (a x u p : Nat) : a + x * p + u * (p * 2 ^ 5) = a + (x + 32 * u) * p := by
  rw [Nat.add_mul, Nat.add_assoc, Nat.mul_comm p, ← Nat.mul_assoc, Nat.mul_comm u]

theorem dec_digitList (last : Nat) (hl : last < 32) : ∀ (init : List Nat) (s : DecSt), (∀ d ∈ init, 32 ≤ d ∧ d < 64) →
    decBytes s ((init ++ [last]).map b64At) = (s.setField (s.value + undigits (init ++ [last]) * 2 ^ s.valuePos), [])
  | [], s, _ => by
    simp only [List.nil_append, List.map_cons, List.map_nil, decBytes, decByte_digit s last (by omega), hl, if_true,
      List.append_nil, undigits, Nat.mod_eq_of_lt hl, Nat.mul_zero, Nat.add_zero]
  | d :: init, s, h => by
    have hd := h d (List.mem_cons_self ..)
    simp only [List.cons_append, List.map_cons, decBytes, decByte_digit s d hd.2, show ¬ d < 32 by omega, if_false,
      dec_digitList last hl init _ (fun x hx => h x (List.mem_cons_of_mem _ hx)), List.nil_append, setField_congr,
      undigits, Nat.pow_add, shift_digit]

theorem dec_digits (n : Nat) (s : DecSt) :
    decBytes s ((vlqDigits n).map b64At) = (s.setField (s.value + n * 2 ^ s.valuePos), []) := by
  obtain ⟨init, last, he, hl, hi⟩ := vlqDigits_shape n
  rw [he, dec_digitList last hl init s hi, ← he, undigits_vlqDigits]

theorem dec_field (a b : Nat) (s : DecSt) (h0 : s.value = 0) (h1 : s.valuePos = 0) :
    decBytes s (vlqChars a b) = (s.setField (vlqNum a b), []) := by
  unfold vlqChars
  rw [dec_digits]; simp [h0, h1]

theorem dec_field_lit (a b d0 d1 d2 d3 d4 dp g : Nat) :
    decBytes ⟨d0, d1, d2, d3, d4, dp, 0, 0, g⟩ (vlqChars a b)
      = (DecSt.setField ⟨d0, d1, d2, d3, d4, dp, 0, 0, g⟩ (vlqNum a b), []) :=
  dec_field a b _ rfl rfl

theorem vlqChars_self (a : Nat) : vlqChars a a = [CH_A] := by
  unfold vlqChars vlqNum
  simp [vlqDigits, b64At_zero]

/-- the `'A'` shortcut of the encoder is what `encode_vlq` would have written anyway -/
theorem shortcut_eq (a b : Nat) : (if (a == b) = true then [CH_A] else vlqChars a b) = vlqChars a b := by
  split
  · rename_i h; simp at h; subst h; exact (vlqChars_self a).symm
  · rfl

theorem decBytes_append (s : DecSt) (a b : Text) :
    decBytes s (a ++ b) = ((decBytes (decBytes s a).1 b).1, (decBytes s a).2 ++ (decBytes (decBytes s a).1 b).2) := by
  induction a generalizing s with
  | nil => simp [decBytes]
  | cons c cs ih => simp [decBytes, ih, List.append_assoc]

theorem decByte_comma (s : DecSt) : decByte s COMMA = ({ s with dataPos := 0 }, s.pending) := by
  unfold decByte
  have := sem_ne_err
  simp only [b64Val_comma, this.2.1, if_false, ne_eq, this.2.2.2.1, not_false_eq_true, if_true, this.2.2.2.2]

theorem decByte_semi (s : DecSt) :
    decByte s SEMI = ({ s with dataPos := 0, genLine := s.genLine + 1, d0 := 0 }, s.pending) := by
  unfold decByte
  have := sem_ne_err
  simp only [b64Val_semi, this.1, if_false, ne_eq, this.2.2.1, not_false_eq_true, if_true]

/-- the decoder between two segments, as the encoder's state determines it once the decoder has read everything the encoder wrote:
no VLQ in progress, the running values those of the encoder, `dp` fields of the last segment read (that segment is still pending) -/
def EncSt.dec (e : EncSt) (dp : Nat) : DecSt := ⟨e.curCol, e.curSrc, e.curOL, e.curOC, e.curName, dp, 0, 0, e.curLine⟩

/-- everything a run of the decoder delivers, the segment still pending at its end included (`decode` from any state) -/
def decOut (d : DecSt) (bs : Text) : List Mapping := (decBytes d bs).2 ++ (decBytes d bs).1.pending

theorem decOut_append (d : DecSt) (a b : Text) : decOut d (a ++ b) = (decBytes d a).2 ++ decOut (decBytes d a).1 b := by
  simp only [decOut, decBytes_append, List.append_assoc]

def linesOK : Nat → List Mapping → Prop
  | _, [] => True
  | l, m :: ms => l ≤ m.gl ∧ linesOK m.gl ms

theorem linesOK_mono {l l' : Nat} (h : l' ≤ l) : ∀ ms, linesOK l ms → linesOK l' ms
  | [], _ => trivial
  | _ :: _, ⟨h1, h2⟩ => ⟨Nat.le_trans h h1, h2⟩

theorem linesOK_iff : ∀ (ms : List Mapping) (l : Nat), linesOK l ms ↔ (∀ x ∈ ms, l ≤ x.gl) ∧ ms.Pairwise fun a b => a.gl ≤ b.gl
  | [], _ => by simp [linesOK]
  | m :: ms, l => by
    rw [linesOK, linesOK_iff ms, List.pairwise_cons, List.forall_mem_cons]
    exact ⟨fun ⟨h1, h2, h3⟩ => ⟨⟨h1, fun x hx => Nat.le_trans h1 (h2 x hx)⟩, h2, h3⟩, fun ⟨⟨h1, _⟩, h2, h3⟩ => ⟨h1, h2, h3⟩⟩

theorem linesOK_ge (ms : List Mapping) (l : Nat) (h : linesOK l ms) : ∀ x ∈ ms, l ≤ x.gl := ((linesOK_iff ms l).1 h).1

/-- all numbers fit in 31 bits (so no delta wraps in `u32`) -/
def Orig.small (o : Orig) : Prop := o.src < U31 ∧ o.line < U31 ∧ o.col < U31 ∧ ∀ n, o.name = some n → n < U31
def Mapping.small (m : Mapping) : Prop := m.gc < U31 ∧ ∀ o, m.orig = some o → o.small
def EncSt.small (e : EncSt) : Prop :=
  e.curCol < U31 ∧ e.curSrc < U31 ∧ e.curOL < U31 ∧ e.curOC < U31 ∧ e.curName < U31

theorem dec_semis : ∀ (n : Nat) (s : DecSt), 0 < n →
    decBytes s (List.replicate n SEMI) = ({ s with dataPos := 0, genLine := s.genLine + n, d0 := 0 }, s.pending)
  | 1, s, _ => by simp [decBytes, decByte_semi]
  | n + 2, s, _ => by
    rw [List.replicate_succ, decBytes, decByte_semi, dec_semis (n + 1) _ (Nat.succ_pos n)]
    simp [DecSt.pending]; omega

/-- the separator: `;`s up to the line of `m` (the column restarts), or a `,`, or nothing before the very first segment -/
theorem dec_sep (e : EncSt) (dp : Nat) (m : Mapping) (hi : e.initial = true → dp = 0) (hl : e.curLine ≤ m.gl) :
    decBytes (e.dec dp) (encSep e m)
      = (EncSt.dec { e with curLine := m.gl, curCol := if e.curLine < m.gl then 0 else e.curCol } 0, (e.dec dp).pending) := by
  unfold encSep
  by_cases hlt : e.curLine < m.gl
  · simp only [hlt, if_true, dec_semis _ _ (Nat.sub_pos_of_lt hlt), EncSt.dec, Nat.add_sub_cancel' hl]
  · have hle : m.gl = e.curLine := Nat.le_antisymm (Nat.not_lt.1 hlt) hl
    cases hin : e.initial
    · simp only [hle, Nat.lt_irrefl, if_false, Bool.false_eq_true, decBytes, decByte_comma, List.append_nil, EncSt.dec]
    · cases hi hin
      simp only [hle, Nat.lt_irrefl, if_false, if_true, decBytes]
      rfl

/-- `encFields` with the `'A'` shortcuts unfolded -/
def encFields' (s : EncSt) (m : Mapping) : Text :=
  let col0 := if s.curLine < m.gl then 0 else s.curCol
  vlqChars m.gc col0 ++
  match m.orig with
  | none => []
  | some o =>
    vlqChars o.src s.curSrc ++ vlqChars o.line s.curOL ++ vlqChars o.col s.curOC ++
    match o.name with
    | none => []
    | some n => vlqChars n s.curName

theorem encFields_eq (s : EncSt) (m : Mapping) : encFields s m = encFields' s m := by
  unfold encFields encFields'
  cases m.orig with
  | none => rfl
  | some o => simp only [shortcut_eq]; rfl

/-- the fields of a segment go one by one into the slots `d0 … d4`: `dec_field_lit` for each, `setField` evaluated at the
position reached, no delta wrapping (`addField_vlq`); the decoder then stands where `encNext` says, with `m` pending -/
theorem dec_fields (e : EncSt) (m : Mapping) (hes : e.small) (hms : m.small) (hle : e.curLine ≤ m.gl) :
    ∃ dp, decBytes (EncSt.dec { e with curLine := m.gl, curCol := if e.curLine < m.gl then 0 else e.curCol } 0) (encFields e m)
        = ((encNext e m).dec dp, [])
      ∧ ((encNext e m).dec dp).pending = [m] := by
  rw [encFields_eq]
  obtain ⟨gl, gc, orig⟩ := m
  obtain ⟨e0, e1, e2, e3, e4⟩ := hes
  obtain ⟨m0, mo⟩ := hms
  simp only at hle m0 mo
  have hline : (if e.curLine < gl then gl else e.curLine) = gl := by split <;> omega
  have hc0 : (if e.curLine < gl then 0 else e.curCol) < U31 := by split <;> simp [U31] <;> exact e0
  cases orig with
  | none =>
    refine ⟨1, ?_, ?_⟩ <;>
      simp only [encFields', EncSt.dec, encNext, hline, List.append_nil, dec_field_lit, setField_0, addField_vlq gc _ m0 hc0] <;> rfl
  | some o =>
    obtain ⟨os, ol, oc, on⟩ := o
    obtain ⟨s1, s2, s3, s4⟩ := mo _ rfl
    cases on with
    | none =>
      refine ⟨4, ?_, ?_⟩ <;>
        simp only [encFields', EncSt.dec, encNext, hline, List.append_nil, decBytes_append, dec_field_lit, setField_0, setField_1,
          setField_2, setField_3, addField_vlq gc _ m0 hc0, addField_vlq os _ s1 e1, addField_vlq ol _ s2 e2,
          addField_vlq oc _ s3 e3] <;> rfl
    | some n =>
      refine ⟨5, ?_, ?_⟩ <;>
        simp only [encFields', EncSt.dec, encNext, hline, List.append_nil, decBytes_append, dec_field_lit, setField_0, setField_1,
          setField_2, setField_3, setField_4, addField_vlq gc _ m0 hc0, addField_vlq os _ s1 e1, addField_vlq ol _ s2 e2,
          addField_vlq oc _ s3 e3, addField_vlq n _ (s4 n rfl) e4] <;> rfl

theorem encNext_line (e : EncSt) (m : Mapping) (h : e.curLine ≤ m.gl) : (encNext e m).curLine = m.gl := by
  unfold encNext; cases m.orig <;> simp <;> omega

theorem encNext_initial (e : EncSt) (m : Mapping) : (encNext e m).initial = false := by
  unfold encNext; cases m.orig <;> rfl

theorem encNext_small (e : EncSt) (m : Mapping) (he : e.small) (hm : m.small) : (encNext e m).small := by
  obtain ⟨e0, e1, e2, e3, e4⟩ := he
  obtain ⟨m0, mo⟩ := hm
  unfold encNext
  cases ho : m.orig with
  | none => exact ⟨m0, e1, e2, e3, e4⟩
  | some o =>
    obtain ⟨s1, s2, s3, s4⟩ := mo o ho
    refine ⟨m0, s1, s2, s3, ?_⟩
    show (match o.name with | some n => n | none => e.curName) < U31
    cases hn : o.name with
    | none => exact e4
    | some n => exact s4 n hn

theorem decode_encode_from : ∀ (ms : List Mapping) (e : EncSt) (dp : Nat), (e.initial = true → dp = 0) → e.small →
    (∀ m ∈ ms, m.small) → linesOK e.curLine ms → decOut (e.dec dp) (encodeFrom e ms) = (e.dec dp).pending ++ keptFrom e ms
  | [], e, dp, _, _, _, _ => by simp only [encodeFrom, keptFrom, decOut, decBytes, List.nil_append, List.append_nil]
  | m :: ms, e, dp, hi, hes, hsm, ⟨hle, hrest⟩ => by
    obtain ⟨hm, hms⟩ := List.forall_mem_cons.1 hsm
    rw [encodeFrom, keptFrom]
    split
    · exact decode_encode_from ms e dp hi hes hms (linesOK_mono hle ms hrest)
    · obtain ⟨dp', hf, hp⟩ := dec_fields e m hes hm hle
      rw [List.append_assoc, decOut_append, dec_sep e dp m hi hle, decOut_append, hf,
        decode_encode_from ms (encNext e m) dp' (fun h => by rw [encNext_initial] at h; cases h) (encNext_small e m hes hm) hms
          (by rw [encNext_line e m hle]; exact hrest), hp]
      rfl

theorem decode_encode (ms : List Mapping) (hs : ∀ m ∈ ms, m.small) (h : linesOK 1 ms) :
    decode (encodeFull ms) = keptFrom {} ms := by
  have := decode_encode_from ms {} 0 (fun _ => rfl) (by simp [EncSt.small, U31]) hs h
  rw [show EncSt.dec {} 0 = decInitSt from decInit_eq.symm] at this
  exact this

instance (o : Orig) : Decidable o.small := by unfold Orig.small; infer_instance
instance (m : Mapping) : Decidable m.small := by unfold Mapping.small; infer_instance

end Rs
