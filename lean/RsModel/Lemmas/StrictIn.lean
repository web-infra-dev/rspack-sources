import RsModel.Lemmas.MappedNE
import RsModel.Lemmas.ModeTree
import RsModel.Lemmas.LinePos
/-!
# The chunks of the text-less stream stand at characters of the text, in order (C11, map clause; the replay of C10)

`IncS s T lo hi ps`: the positions `ps`, in order, are those of characters `k₁, k₂, …` of `T` (`adv startPos (T.take kᵢ)`), all in
`[lo, hi)`, each at least `s` after the one before.  The order of the positions comes for free from the order of the `kᵢ`, a
shift by the text in front is `k ↦ |gpre| + k`, and with `hi ≤ |T|` every position lies strictly before the end of `T`.
`Src.incS`: the chunks of the text-less stream of every tree of the domain of C03 — mapped or not — stand at characters
`k₁ ≤ k₂ ≤ …` of `source()` (`s = 0`), and at `k₁ < k₂ < …` when the attached maps are strictly sorted (`s = 1`); the two cases
differ at the SourceMapSource leaf only (`incS_of_pairwise`).  Read off it: `StrictK` (every mapped chunk governs at least one
character: what the replay of a stored map needs) from `s = 0`, and, in StrictOrder.lean, `Inc` from `s = 1`.
-/
namespace Rs

def StrictK (T : Text) (evs : List Ev) : Prop :=
  ∀ t m, Ev.chunk t m ∈ evs → m.orig.isSome = true → ∃ k, k < T.length ∧ adv startPos (T.take k) = ⟨m.gl, m.gc⟩

def posOf (evs : List Ev) : List (Nat × Nat) := (chunkMs evs).map fun m => (m.gl, m.gc)

/-- `s = 1`: strictly increasing characters; `s = 0`: weakly increasing -/
def IncS (s : Fin 2) (T : Text) : Nat → Nat → List (Nat × Nat) → Prop
  | _, _, [] => True
  | lo, hi, p :: ps => ∃ k, lo ≤ k ∧ k < hi ∧ adv startPos (T.take k) = ⟨p.1, p.2⟩ ∧ IncS s T (k + s) hi ps

theorem posOf_append (a b : List Ev) : posOf (a ++ b) = posOf a ++ posOf b := by simp [posOf, chunkMs_append]
theorem posOf_cons_chunk (t : Option Text) (m : Mapping) (es : List Ev) : posOf (.chunk t m :: es) = (m.gl, m.gc) :: posOf es := rfl
theorem posOf_cons_decl (e : Ev) (es : List Ev) (he : e.isChunk = false) : posOf (e :: es) = posOf es := by
  unfold posOf; rw [chunkMs_cons_decl _ _ he]

theorem posOf_keys : ∀ (evs : List Ev), posOf evs = (evsKeys evs).map (·.2)
  | [] => rfl
  | .chunk _ m :: es => congrArg ((m.gl, m.gc) :: ·) (posOf_keys es)
  | .source .. :: es | .name .. :: es => posOf_keys es

theorem posOf_noChunk (evs : List Ev) (h : ∀ e ∈ evs, e.isChunk = false) : posOf evs = [] := by
  unfold posOf; rw [chunkMs_noChunk evs h]; rfl

theorem posOf_noChunk' : ∀ (evs : List Ev), hasChunk evs = false → posOf evs = [] := by
  intro evs
  induction evs using evs_induction with
  | nil => intro _; rfl
  | chunk t m es _ => intro h; cases h
  | decl e es he ih => rw [hasChunk_cons_decl _ _ he, posOf_cons_decl _ _ he]; exact ih

theorem trMs_posOf (final : Bool) (evs : List Ev) : ∀ (st : CSt), ((trMs final st evs).map fun m => (m.gl, m.gc)) = posOf evs := by
  induction evs using evs_induction with
  | nil => intro _; rfl
  | chunk t m es ih => intro st; rw [trMs, List.map_cons, ih, posOf_cons_chunk]
  | decl e es he ih => intro st; rw [trMs_cons_decl _ _ _ _ he, ih, posOf_cons_decl _ _ he]

theorem streamCombined_posOf (t : Text) (sm : SMap) (n : Text) (os : Option Text) (im : SMap) (rm : Bool) (o : Opts) :
    posOf (streamCombined t sm n os im rm o).evs = posOf (streamSM t sm o).evs := by
  simp only [streamCombined, posOf_keys, combFold_keys]

theorem incS_mono (s : Fin 2) (T : Text) : ∀ (ps : List (Nat × Nat)) (lo hi lo' hi' : Nat), lo' ≤ lo → hi ≤ hi' → IncS s T lo hi ps → IncS s T lo' hi' ps := by
  intro ps
  induction ps with
  | nil => intro _ _ _ _ _ _ _; trivial
  | cons p ps ih =>
    intro lo hi lo' hi' h1 h2 ⟨k, a, b, c, d⟩
    exact ⟨k, by omega, by omega, c, ih _ _ _ _ (Nat.le_refl _) h2 d⟩

theorem incS_append (s : Fin 2) (T : Text) : ∀ (a b : List (Nat × Nat)) (lo mid hi : Nat), lo ≤ mid → mid ≤ hi → IncS s T lo mid a → IncS s T mid hi b →
    IncS s T lo hi (a ++ b) := by
  intro a
  induction a with
  | nil => intro b lo mid hi h1 _ _ hb; exact incS_mono s T b mid hi lo hi h1 (Nat.le_refl _) hb
  | cons p ps ih =>
    intro b lo mid hi _ hm ⟨k, a1, a2, a3, a4⟩ hb
    -- `k + s ≤ mid` because `s ≤ 1`: this is why the least gap is a `Fin 2`
    exact ⟨k, a1, by omega, a3, ih b _ mid hi (by omega) hm a4 hb⟩

theorem incS_sublist (s : Fin 2) (T : Text) : ∀ (ps qs : List (Nat × Nat)), qs.Sublist ps → ∀ (lo hi : Nat), IncS s T lo hi ps → IncS s T lo hi qs := by
  intro ps qs h
  induction h with
  | slnil => intro _ _ _; trivial
  | cons a _ ih =>
    intro lo hi ⟨k, a1, a2, a3, a4⟩
    exact incS_mono s T _ (k + s) hi lo hi (by omega) (Nat.le_refl _) (ih _ _ a4)
  | cons_cons a _ ih =>
    intro lo hi ⟨k, a1, a2, a3, a4⟩
    exact ⟨k, a1, a2, a3, ih _ _ a4⟩

theorem incS_ext (s : Fin 2) (T B : Text) : ∀ (ps : List (Nat × Nat)) (lo hi : Nat), hi ≤ T.length → IncS s T lo hi ps → IncS s (T ++ B) lo hi ps := by
  intro ps
  induction ps with
  | nil => intro _ _ _ _; trivial
  | cons p ps ih =>
    intro lo hi hh ⟨k, a1, a2, a3, a4⟩
    exact ⟨k, a1, a2, by rw [List.take_append_of_le_length (by omega)]; exact a3, ih _ _ hh a4⟩

theorem incS_lower (s : Fin 2) (T : Text) : ∀ (ps : List (Nat × Nat)) (lo hi : Nat), IncS s T lo hi ps →
    ∀ p ∈ ps, ∃ k, lo ≤ k ∧ k < hi ∧ adv startPos (T.take k) = ⟨p.1, p.2⟩ := by
  intro ps
  induction ps with
  | nil => intro _ _ _ p hp; cases hp
  | cons q qs ih =>
    intro lo hi ⟨k, a1, a2, a3, a4⟩ p hp
    rcases List.mem_cons.1 hp with rfl | hp
    · exact ⟨k, a1, a2, a3⟩
    · obtain ⟨k', b1, b2, b3⟩ := ih _ _ a4 p hp
      exact ⟨k', by omega, b2, b3⟩

/-- positions sorted by `R` stand at characters `s` apart, when `R` excludes any other arrangement of their characters -/
theorem incS_of_pairwise (s : Fin 2) (T : Text) (R : Nat × Nat → Nat × Nat → Prop)
    (hR : ∀ k k' p p', k < T.length → k' < k + s → adv startPos (T.take k) = ⟨p.1, p.2⟩ → adv startPos (T.take k') = ⟨p'.1, p'.2⟩ → ¬ R p p') :
    ∀ (ps : List (Nat × Nat)) (lo : Nat), ps.Pairwise R →
    (∀ p ∈ ps, ∃ k, lo ≤ k ∧ k < T.length ∧ adv startPos (T.take k) = ⟨p.1, p.2⟩) → IncS s T lo T.length ps := by
  intro ps
  induction ps with
  | nil => intro _ _ _; trivial
  | cons q qs ih =>
    intro lo hp hk
    obtain ⟨k, a1, a2, a3⟩ := hk q (by simp)
    rw [List.pairwise_cons] at hp
    refine ⟨k, a1, a2, a3, ih (k + s) hp.2 fun p hpm => ?_⟩
    obtain ⟨k', _, b2, b3⟩ := hk p (by simp [hpm])
    exact ⟨k', Nat.le_of_not_lt fun g => hR k k' q p a2 g a3 b3 (hp.1 p hpm), b2, b3⟩

def plt (a b : Nat × Nat) : Prop := a.1 < b.1 ∨ (a.1 = b.1 ∧ a.2 < b.2)

def ple (a b : Nat × Nat) : Prop := a.1 < b.1 ∨ (a.1 = b.1 ∧ a.2 ≤ b.2)

/-- `hR` of `incS_of_pairwise` for the two orders: the positions of characters are ordered as the characters are -/
theorem plt_chars (T : Text) (k k' : Nat) (p p' : Nat × Nat) (_ : k < T.length) (h : k' < k + (1 : Fin 2))
    (e : adv startPos (T.take k) = ⟨p.1, p.2⟩) (e' : adv startPos (T.take k') = ⟨p'.1, p'.2⟩) : ¬ plt p p' := fun g => by
  have hle := prefix_pos_mono T k' k (by omega)
  rw [e, e'] at hle
  exact posLt_irrefl _ (posLt_of_lt_of_le (a := ⟨p.1, p.2⟩) (b := ⟨p'.1, p'.2⟩) g hle)

theorem ple_chars (T : Text) (k k' : Nat) (p p' : Nat × Nat) (hk : k < T.length) (h : k' < k + (0 : Fin 2))
    (e : adv startPos (T.take k) = ⟨p.1, p.2⟩) (e' : adv startPos (T.take k') = ⟨p'.1, p'.2⟩) : ¬ ple p p' := fun g => by
  have hlt := prefix_pos_strict T k' k (by omega) (by omega)
  rw [e, e'] at hlt
  exact posLt_irrefl _ (posLt_of_lt_of_le (c := ⟨p'.1, p'.2⟩) hlt g)

theorem incS_of_posOK (s : Fin 2) : ∀ (evs : List Ev) (pre : Text), posOKT pre evs → evsTL evs = false → AllNEc evs →
    IncS s (pre ++ evsText evs) pre.length (pre ++ evsText evs).length (posOf evs) := by
  intro evs
  induction evs with
  | nil => intro pre _ _ _; trivial
  | cons e es ih =>
    intro pre hp hTL hne
    have hTLs : evsTL es = false := by simp only [evsTL_cons, Bool.or_eq_false_iff] at hTL; exact hTL.2
    have hnes : AllNEc es := fun t' m' h' => hne t' m' (by simp [h'])
    rw [evsText_cons]
    cases e with
    | chunk t0 m0 =>
      cases t0 with
      | none => simp [evsTL_cons, Ev.textless] at hTL
      | some t0 =>
        simp only [posOKT] at hp
        simp only [Ev.text]
        rw [posOf_cons_chunk]
        have hpos : 0 < t0.length := List.length_pos_iff.2 (hne t0 m0 (by simp))
        refine ⟨pre.length, Nat.le_refl _, by simp; omega, ?_, ?_⟩
        · rw [List.take_left' rfl]; exact hp.1.symm
        · have := ih (pre ++ t0) hp.2 hTLs hnes
          rw [List.append_assoc] at this
          exact incS_mono _ _ _ _ _ _ _ (by simp; omega) (Nat.le_refl _) this
    | source i s c =>
      simp only [Ev.text, List.nil_append]
      exact ih pre hp hTLs hnes
    | name i n =>
      simp only [Ev.text, List.nil_append]
      exact ih pre hp hTLs hnes

theorem incS_normal (s : Fin 2) (r : SResult) (hp : PosOK r) (hTL : evsTL r.evs = false) (hne : AllNEc r.evs) :
    IncS s (evsText r.evs) 0 (evsText r.evs).length (posOf r.evs) := by
  simpa using incS_of_posOK s r.evs [] hp.1 hTL hne

theorem streamOriginal_final_incS (s : Fin 2) (t name : Text) : IncS s t 0 t.length (posOf (streamOriginal t name ⟨true, true⟩).evs) := by
  have hn := incS_normal s _ (streamOriginal_posOK t name true) (streamOriginal_tl t name true) (streamOriginal_allNE t name)
  rw [streamOriginal_text] at hn
  refine incS_sublist _ _ _ _ ?_ _ _ hn
  simp only [streamOriginal, if_true, posOf, chunkMs]
  rw [origTok_thin (tokens t) 1 0 0 true (tokens_nlstart t) fun _ => Nat.one_pos]
  exact (thin_sublist _ _).map _

/-- a mapping inside the text and before its end stands at a character: it lies on one of the lines (`finalLine_le`), so at a prefix
of the text, and that prefix is not the whole text -/
theorem char_before_end (t : Text) (ha : IsAscii t) (hl : t.length ≤ USIZE_MAX) (m : Mapping) (hin : Inside (splitLines t) m)
    (hb : (!(m.gl ≥ (genInfo t).line && (m.gc ≥ (genInfo t).col || m.gl > (genInfo t).line))) = true) :
    ∃ k, k < t.length ∧ adv startPos (t.take k) = ⟨m.gl, m.gc⟩ := by
  obtain ⟨k, hk, e⟩ := isPos_inside t ha hl m hin (before_end_line t m hb)
  simp only [Bool.not_eq_true', Bool.and_eq_false_iff, Bool.or_eq_false_iff, decide_eq_false_iff_not, Nat.not_le, Nat.not_lt] at hb
  -- `hb`: an earlier line than the end's, or a smaller column on a line not after it
  refine ⟨k, Nat.lt_of_le_of_ne hk fun h => ?_, e⟩
  rw [h, List.take_length, ← genInfo_adv] at e
  rw [e] at hb
  simp only at hb
  omega

theorem smFinalGo_strictA (t : Text) (ha : IsAscii t) (hl : t.length ≤ USIZE_MAX) : ∀ (ms : List Mapping) (act : Nat),
    (∀ m ∈ ms, Inside (splitLines t) m) → ∀ tt m, Ev.chunk tt m ∈ smFinalGo (genInfo t) act ms →
      ∃ k, k < t.length ∧ adv startPos (t.take k) = ⟨m.gl, m.gc⟩ := by
  intro ms act hin tt m hm
  obtain ⟨m', hmem, e, hb⟩ := smFinalGo_mem hm
  cases e
  exact char_before_end t ha hl m (hin m hmem) hb

/-- the map-driven splitter forwards a selection of the attached map's segments, those before the end of the text: they stand at
characters, in the order `R` the map is sorted by -/
theorem streamSM_final_incS (s : Fin 2) (t : Text) (sm : SMap) (ha : IsAscii t) (hl : t.length ≤ USIZE_MAX) (hm : MapInside t sm)
    (R : Nat × Nat → Nat × Nat → Prop)
    (hR : ∀ k k' p p', k < t.length → k' < k + s → adv startPos (t.take k) = ⟨p.1, p.2⟩ → adv startPos (t.take k') = ⟨p'.1, p'.2⟩ → ¬ R p p')
    (hs : (decode sm.mappings).Pairwise fun a b => R (a.gl, a.gc) (b.gl, b.gc)) :
    IncS s t 0 t.length (posOf (streamSM t sm ⟨true, true⟩).evs) := by
  simp only [streamSM, posOf]
  rw [streamSMFinal_ms]
  split
  · trivial
  · refine incS_of_pairwise s t R hR _ 0 (List.pairwise_map.2 (hs.sublist ((thin_sublist _ _).trans List.filter_sublist))) fun p hp => ?_
    obtain ⟨m, hm1, rfl⟩ := List.mem_map.1 hp
    obtain ⟨hmem, hb⟩ := List.mem_filter.1 ((thin_sublist _ _).subset hm1)
    obtain ⟨k, hk, e⟩ := char_before_end t ha hl m (hm m hmem) hb
    exact ⟨k, Nat.zero_le _, hk, e⟩

theorem FRel.take_left {st : CSt} {gpre : Text} (hr : FRel st (adv startPos gpre)) (Tc : Text) :
    adv startPos ((gpre ++ Tc).take gpre.length) = ⟨st.lineOff + 1, st.colOff⟩ := by
  rw [List.take_left' rfl, hr.1, hr.2]

theorem incS_shift (s : Fin 2) (st : CSt) (gpre Tc : Text) (hr : FRel st (adv startPos gpre)) : ∀ (ms : List Mapping) (lo hi : Nat),
    IncS s Tc lo hi (ms.map fun m => (m.gl, m.gc)) →
    IncS s (gpre ++ Tc) (gpre.length + lo) (gpre.length + hi) ((ms.map (shiftM st)).map fun m => (m.gl, m.gc)) := by
  intro ms
  induction ms with
  | nil => intro _ _ _; trivial
  | cons m ms ih =>
    intro lo hi ⟨k, a1, a2, a3, a4⟩
    exact ⟨gpre.length + k, by omega, by omega,
      by rw [List.take_length_add_append, adv_append]; exact adv_shift_key _ _ _ _ _ hr.1 hr.2 _ a3, Nat.add_assoc _ _ _ ▸ ih (k + s) hi a4⟩

theorem incS_firstOff (s : Fin 2) (T : Text) (hi : Nat) : ∀ (evs : List Ev), firstOff evs = true → IncS s T 0 hi (posOf evs) →
    0 < hi ∧ IncS s T 1 hi (posOf evs) := by
  intro evs
  induction evs using evs_induction with
  | nil => intro h; cases h
  | chunk t m es _ =>
    intro h ⟨k, _, a2, a3, a4⟩
    have hk0 : k ≠ 0 := by
      rintro rfl
      simp only [List.take_zero, adv, startPos, Pos.mk.injEq] at a3
      simp [firstOff, ← a3.1, ← a3.2] at h
    exact ⟨by omega, k, by omega, a2, a3, a4⟩
  | decl e es he ih => rw [firstOff_cons_decl _ _ he, posOf_cons_decl _ _ he]; exact ih

/-- a close is delivered at the child's first character, and only when the child's first chunk stands later or the child has text
and no chunk; then come the child's chunks, shifted -/
theorem concatChild_incS (s : Fin 2) (final : Bool) (st : CSt) (gpre Tc : Text) (c : SResult) (hr : FRel st (adv startPos gpre)) (hf : FinOK Tc c)
    (hi : IncS s Tc 0 Tc.length (posOf c.evs)) :
    IncS s (gpre ++ Tc) gpre.length (gpre ++ Tc).length (posOf (concatChild final st c).2) := by
  have hsh := fun lo h => incS_shift s st gpre Tc hr (trMs final (childStart st) c.evs) lo Tc.length (by rw [trMs_posOf]; exact h)
  unfold posOf
  rw [concatChild_ms, List.map_append, List.length_append]
  split
  · rename_i hcl
    obtain ⟨hpos, h1⟩ : 0 < Tc.length ∧ IncS s Tc 1 Tc.length (posOf c.evs) := by
      rcases hcl.2 with hfo | ⟨hch, hinfo⟩
      · exact incS_firstOff s Tc _ c.evs hfo hi
      · rw [posOf_noChunk' _ hch]
        refine ⟨List.length_pos_iff.2 ?_, trivial⟩
        rintro rfl
        rw [hf.2] at hinfo
        simp [adv, startPos] at hinfo
    exact ⟨gpre.length, Nat.le_refl _, by omega, hr.take_left Tc, incS_mono _ _ _ _ _ _ _ (by omega) (Nat.le_refl _) (hsh 1 h1)⟩
  · exact hsh 0 hi

inductive IncAllS (s : Fin 2) : List SResult → List Text → Prop where
  | nil : IncAllS s [] []
  | cons (r : SResult) (T : Text) (rs : List SResult) (Ts : List Text) :
    FinOK T r → IncS s T 0 T.length (posOf r.evs) → IncAllS s rs Ts → IncAllS s (r :: rs) (T :: Ts)

theorem concatGo_incS (s : Fin 2) (final : Bool) : ∀ (cs : List SResult) (Ts : List Text), IncAllS s cs Ts → ∀ (st : CSt) (gpre : Text),
    FRel st (adv startPos gpre) →
    IncS s (gpre ++ Ts.flatten) gpre.length (gpre ++ Ts.flatten).length (posOf (concatGo final st cs).2) := by
  intro cs Ts h
  induction h with
  | nil => intro st gpre _; trivial
  | cons r T rs Ts hf hi _ ih =>
    intro st gpre hrel
    obtain ⟨_, b⟩ := concatChild_fin final st gpre T r hrel hf
    simp only [concatGo, List.flatten_cons, posOf_append]
    rw [← List.append_assoc]
    apply incS_append _ _ _ _ gpre.length (gpre ++ T).length _ (by simp) (by simp)
    · exact incS_ext _ _ _ _ _ _ (Nat.le_refl _) (concatChild_incS s final st gpre T r hrel hf hi)
    · exact ih _ (gpre ++ T) b

theorem IncAllS.concatNode {s : Fin 2} {cs : List SResult} {Ts : List Text} (h : IncAllS s cs Ts) :
    IncS s Ts.flatten 0 Ts.flatten.length (posOf (concatNode true cs).evs) := by
  have hc : IncS s Ts.flatten 0 Ts.flatten.length (posOf (concatStream true cs).evs) := concatGo_incS s true cs Ts h {} [] ⟨rfl, rfl⟩
  match h with
  | .cons _ _ _ _ _ hi .nil => rw [List.flatten_singleton]; exact hi
  | .nil | .cons _ _ _ _ _ _ (.cons ..) => exact hc

mutual
/-- the attached map of every SourceMapSource outside ReplaceSource nodes is strictly sorted by generated position (a
ReplaceSource re-chunks its inner stream, so nothing is asked of the maps beneath it) -/
def Src.StrictMaps : Src → Prop
  | .sms _ _ map _ _ _ => (decode map.mappings).Pairwise mlt
  | .concat cs => cs.StrictMapsL
  | .cached _ inner => inner.StrictMaps
  | _ => True
def SrcList.StrictMapsL : SrcList → Prop
  | .nil => True
  | .cons s r => s.StrictMaps ∧ r.StrictMapsL
end

mutual
theorem Src.strip_strict : ∀ (s : Src), s.StrictMaps → s.strip.StrictMaps
  | .raw .. | .rawStr .. | .rawBuf .. | .orig .. | .replace .. => fun _ => trivial
  | .sms .. => id
  | .concat cs => SrcList.stripL_strict cs
  | .cached _ inner => Src.strip_strict inner
theorem SrcList.stripL_strict : ∀ (l : SrcList), l.StrictMapsL → l.stripL.StrictMapsL
  | .nil => fun _ => trivial
  | .cons s r => fun h => ⟨Src.strip_strict s h.1, SrcList.stripL_strict r h.2⟩
end

section
/- `IncS … (posOf evs)` unfolds to a match on the chunks of `evs`: left reducible, the elaborator evaluates the concrete stream of a
ReplaceSource node each time it normalises a goal or a lemma's conclusion of this form. -/
attribute [local irreducible] IncS

mutual
/-- **the chunks of the text-less stream stand at characters `k₁ ≤ k₂ ≤ …` of `source()`, all before its end; at `k₁ < k₂ < …` when
the attached maps are strictly sorted** (OriginalSource tokens; the map-driven splitter forwards a sublist of its map and drops what
lies at or beyond the end; ConcatSource shifts each child and closes a mapping only where the next child does not begin with a chunk;
ReplaceSource delivers non-empty chunks at their true positions; the combinator keeps the outer positions) -/
theorem Src.incS (s : Fin 2) : ∀ (t : Src), t.ModeHyp → (s = 1 → t.StrictMaps) →
    IncS s t.src 0 t.src.length (posOf (t.stream ⟨true, true⟩ []).1.evs)
  | .raw .. | .rawStr .. | .rawBuf .. => fun _ _ => by unfold IncS; trivial
  | .orig t name => fun _ _ => streamOriginal_final_incS s t name
  | .sms t name map origSrc inner remove => fun h hs => by
    have hleaf : IncS s t 0 t.length (posOf (streamSM t map ⟨true, true⟩).evs) :=
      match s with
      | 0 => streamSM_final_incS 0 t map h.2.1 h.2.2.1 (fun m hm => (h.2.2.2.2.1 m hm).1) ple (ple_chars t)
          ((sortedFrom_iff _ _ _).1 h.2.2.2.1).2
      | 1 => streamSM_final_incS 1 t map h.2.1 h.2.2.1 (fun m hm => (h.2.2.2.2.1 m hm).1) plt (plt_chars t) (hs rfl)
    cases inner with
    | none => exact hleaf
    | some im => exact (streamCombined_posOf t map name origSrc im remove _).symm ▸ hleaf
  | .concat cs => fun h hs => by
    rw [Src.concat_stream, Src.src, ← SrcList.srcList_flatten]
    exact (SrcList.incsS s cs h hs).concatNode
  | .replace inner rs => fun h _ => by
    -- the text-less stream of a ReplaceSource is its normal-mode stream: non-empty chunks at their true positions
    have hb := Src.base_facts (.replace inner rs) h
    have hNE : AllNEc ((Src.replace inner rs).stream ⟨true, false⟩ []).1.evs := by
      simp only [Src.stream]; exact replaceStream_allNE _ _
    rw [Src.replace_stream_final, ← hb.text]
    exact incS_normal s _ hb.pos hb.tl hNE
  | .cached .. => fun h => h.elim
theorem SrcList.incsS (s : Fin 2) : ∀ (l : SrcList), l.ModeHyps → (s = 1 → l.StrictMapsL) → IncAllS s (l.streams ⟨true, true⟩ []).1 l.srcList
  | .nil => fun _ _ => IncAllS.nil
  | .cons t rest => fun h hs => by
    rw [SrcList.streams_cons t rest _ h.1]
    exact IncAllS.cons _ _ _ _ (Src.base_facts t h.1).fin (Src.incS s t h.1 fun e => (hs e).1) (SrcList.incsS s rest h.2 fun e => (hs e).2)
end

theorem Src.incSC (s : Fin 2) (t : Src) (h : t.ModeHypC) (hs : s = 1 → t.StrictMaps) (hn : t.ids.Nodup) (σ : Store) (hc : Cold σ t.ids) :
    IncS s t.src 0 t.src.length (posOf (t.stream ⟨true, true⟩ σ).1.evs) := by
  rw [Src.stream_strip t _ σ hn hc, ← Src.strip_src t]
  exact Src.incS s t.strip (Src.strip_modeHyp t h) fun e => Src.strip_strict t (hs e)

theorem SrcList.incsSC (s : Fin 2) (l : SrcList) (h : l.ModeHypsC) (hs : s = 1 → l.StrictMapsL) (hn : l.idsL.Nodup) (σ : Store) (hc : Cold σ l.idsL) :
    IncAllS s (l.streams ⟨true, true⟩ σ).1 l.srcList := by
  rw [SrcList.streams_strip l _ σ hn hc, ← SrcList.stripL_srcList l]
  exact SrcList.incsS s l.stripL (SrcList.stripL_modeHyps l h) fun e => SrcList.stripL_strict l (hs e)
end

inductive StrictAll : List SResult → List Text → Prop where
  | nil : StrictAll [] []
  | cons (r : SResult) (T : Text) (rs : List SResult) (Ts : List Text) : FinOK T r → StrictK T r.evs → StrictAll rs Ts → StrictAll (r :: rs) (T :: Ts)

theorem StrictAll.fin {cs : List SResult} {Ts : List Text} (h : StrictAll cs Ts) : FinAll cs Ts := by
  induction h with
  | nil => exact FinAll.nil
  | cons r T rs Ts hf _ _ ih => exact FinAll.cons _ _ _ _ hf ih

theorem strictK_of_incS {T : Text} {evs : List Ev} (h : IncS 0 T 0 T.length (posOf evs)) : StrictK T evs := fun t m hm _ => by
  obtain ⟨k, _, hk, e⟩ := incS_lower 0 T _ _ _ h (m.gl, m.gc) (List.mem_map.2 ⟨m, mem_chunkMs_of_mem _ t m hm, rfl⟩)
  exact ⟨k, hk, e⟩

theorem Src.strictC : ∀ (s : Src), s.ModeHypC → s.ids.Nodup → ∀ (σ : Store), Cold σ s.ids → StrictK s.src (s.stream ⟨true, true⟩ σ).1.evs :=
  fun s h hn σ hc => strictK_of_incS (Src.incSC 0 s h (fun e => nomatch e) hn σ hc)

theorem IncAllS.strictAll {cs : List SResult} {Ts : List Text} (h : IncAllS 0 cs Ts) : StrictAll cs Ts := by
  induction h with
  | nil => exact .nil
  | cons r T rs Ts hf hi _ ih => exact .cons r T rs Ts hf (strictK_of_incS hi) ih

theorem SrcList.strictsC : ∀ (l : SrcList), l.ModeHypsC → l.idsL.Nodup → ∀ (σ : Store), Cold σ l.idsL →
    StrictAll (l.streams ⟨true, true⟩ σ).1 l.srcList :=
  fun l h hn σ hc => (SrcList.incsSC 0 l h (fun e => nomatch e) hn σ hc).strictAll

end Rs
