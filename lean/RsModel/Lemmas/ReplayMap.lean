import RsModel.Lemmas.StrictIn
import RsModel.Lemmas.DeclMap
import RsModel.Lemmas.SMNames
/-!
# C10: a cache replays the attribution of the wrapped source's stream, whichever call filled it

The replay of a stored map (`stored_domain`, in `Replay`) asks that every chunk mapping of the stream the map was built from lies
inside the text, a mapped one on a character.  A text-less stream gives that (`final_segOK`) by its two contracts `FinOK` (in
`PosFinal`) and `StrictK` (in `StrictIn`); a normal-mode stream meets both (`finOK_of_posOK`, `strictK_normal`), so a fill by
`stream_chunks` is an instance of a fill by `map()`.
-/
namespace Rs

theorem final_segOK (T : Text) (F : SResult) (hf : FinOK T F) (hst : StrictK T F.evs) :
    ∀ m ∈ chunkMs F.evs, SegOK (splitLines T) (adv startPos T).line (adv startPos T).col m := by
  intro m hm
  by_cases ho : m.orig.isSome = true
  · obtain ⟨t, hmem⟩ := chunk_of_mem_chunkMs F.evs m hm
    obtain ⟨k, hk, e⟩ := hst t m hmem ho
    exact segOK_of_take T m k e (fun _ => hk)
  · obtain ⟨k, _, e⟩ := finOK_ms T F hf m hm
    exact segOK_of_take T m k e (fun h => absurd h ho)

theorem strictK_normal (r : SResult) (hp : PosOK r) (hTL : evsTL r.evs = false) (hMN : MappedNE r.evs) : StrictK (evsText r.evs) r.evs := by
  intro t m hm ho
  cases t with
  | none =>
    have : evsTL r.evs = true := by
      simp only [evsTL, List.any_eq_true]
      exact ⟨_, hm, rfl⟩
    rw [hTL] at this; cases this
  | some t0 =>
    -- the chunk stands where its text starts, and a mapped chunk has text
    obtain ⟨pre', rest, h1, h2⟩ := posOKT_mem r.evs [] hp.1 t0 m hm
    rw [List.nil_append] at h1
    have hpos : 0 < t0.length := List.length_pos_iff.2 (hMN t0 m hm ho)
    refine ⟨pre'.length, ?_, ?_⟩
    · rw [h1]; simp only [List.length_append]; omega
    · rw [h1, List.append_assoc, List.take_left' rfl]; exact h2.symm

theorem stream_segOK (r : SResult) (hp : PosOK r) (hTL : evsTL r.evs = false) (hMN : MappedNE r.evs) :
    ∀ m ∈ chunkMs r.evs, SegOK (splitLines (evsText r.evs)) (adv startPos (evsText r.evs)).line (adv startPos (evsText r.evs)).col m :=
  final_segOK _ r (finOK_of_posOK r hp hTL) (strictK_normal r hp hTL hMN)

/-- the map stored from a text-less stream is in the domain of C08: the three conjuncts are the hypotheses of `streamSM_NA` -/
theorem stored_map_ok (T : Text) (F : SResult) (hf : FinOK T F) (hsorted : sortedFrom 1 0 (chunkMs F.evs)) (hst : StrictK T F.evs)
    (hd : DeclOK 0 0 F.evs) (hsmall : ∀ m ∈ chunkMs F.evs, m.small) (sm : SMap) (hm : mapOfEvs true F.evs = some sm) :
    sortedFrom 1 0 (decode sm.mappings)
    ∧ (∀ m ∈ decode sm.mappings, SegOK (splitLines T) (adv startPos T).line (adv startPos T).col m)
    ∧ MapIdxOK sm :=
  have h := stored_domain T _ hsorted hsmall (final_segOK T F hf hst) sm (mapOfEvs_mappings _ sm hm)
  ⟨h.1, h.2, mapOfEvs_idxOK _ hd hsmall (linesOK_of_sorted _ 1 0 hsorted) sm hm⟩

end Rs
