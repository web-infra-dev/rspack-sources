import RsModel.Lemmas.EqHash
import RsModel.Lemmas.TreeWalk
/-!
# `a == b` ⇒ the two values are the same tree up to cache identities

`from_utf8_lossy` is a function of the bytes (`LossyFun f`): the model carries the lossy text of a buffer leaf as a field, the
hypothesis says that field is what the function gives.

`Src.eraseIds` sets every cache identity to 0.  Trees that compare equal have the same erased tree (`Src.eqv_erase`, by
`Src.eqv_induct` of EqHash); `source()`, `buffer()`, `size()` and `rope()` are functions of the erased tree (`Src.erase_views`); a tree
without CachedSource (`NoCached`, TreeWalk) is its own erased tree (`Src.erase_noCached`).
-/
namespace Rs

mutual
def Src.LossyFun (f : Text → Text) : Src → Prop
  | .raw isBuf bytes lossy => lossy = if isBuf then f bytes else bytes
  | .rawStr _ => True
  | .rawBuf bytes lossy => lossy = f bytes
  | .orig _ _ => True
  | .sms _ _ _ _ _ _ => True
  | .concat cs => cs.LossyFuns f
  | .replace inner _ => inner.LossyFun f
  | .cached _ inner => inner.LossyFun f
def SrcList.LossyFuns (f : Text → Text) : SrcList → Prop
  | .nil => True
  | .cons s r => s.LossyFun f ∧ r.LossyFuns f
end

mutual
def Src.eraseIds : Src → Src
  | .concat cs => .concat cs.eraseIdsL
  | .replace inner rs => .replace inner.eraseIds rs
  | .cached _ inner => .cached 0 inner.eraseIds
  | s => s
def SrcList.eraseIdsL : SrcList → SrcList
  | .nil => .nil
  | .cons s r => .cons s.eraseIds r.eraseIdsL
end

theorem eqvClosed_erase (f : Text → Text) :
    EqvClosed (fun a b => a.LossyFun f → b.LossyFun f → a.eraseIds = b.eraseIds)
      (fun c c' => c.LossyFuns f → c'.LossyFuns f → c.eraseIdsL = c'.eraseIdsL) where
  raw _ _ _ _ ha hb := (ha : _ = _).trans (hb : _ = _).symm ▸ rfl
  rawStr _ _ _ := rfl
  rawBuf _ _ _ ha hb := (ha : _ = _).trans (hb : _ = _).symm ▸ rfl
  orig _ _ _ _ := rfl
  sms _ _ _ _ _ _ _ _ := rfl
  concat _ _ ih ha hb := congrArg Src.concat (ih ha hb)
  replace _ _ rs ih ha hb := congrArg (Src.replace · rs) (ih ha hb)
  cached _ _ _ _ ih ha hb := congrArg (Src.cached 0) (ih ha hb)
  nil _ _ := rfl
  cons _ _ _ _ ih ih' ha hb := by rw [SrcList.eraseIdsL, SrcList.eraseIdsL, ih ha.1 hb.1, ih' ha.2 hb.2]

theorem Src.eqv_erase (f : Text → Text) : (a b : Src) → a.eqv b = true → a.LossyFun f → b.LossyFun f → a.eraseIds = b.eraseIds :=
  Src.eqv_induct (eqvClosed_erase f)

theorem SrcList.eqvL_erase (f : Text → Text) : (a b : SrcList) → a.eqvL b = true → a.LossyFuns f → b.LossyFuns f → a.eraseIdsL = b.eraseIdsL :=
  SrcList.eqvL_induct (eqvClosed_erase f)

/-! the views that never look at a cache are functions of the erased tree -/
mutual
theorem Src.erase_views : (s : Src) → s.eraseIds.src = s.src ∧ s.eraseIds.buffer = s.buffer ∧ s.eraseIds.size = s.size ∧ s.eraseIds.rope = s.rope
  | .raw .. | .rawStr .. | .rawBuf .. | .orig .. | .sms .. | .concat .nil => ⟨rfl, rfl, rfl, rfl⟩
  -- `rope` treats a single child apart
  | .concat (.cons s .nil) =>
    let ⟨a, b, c, _⟩ := SrcList.erase_viewsL (.cons s .nil)
    ⟨a, b, c, (Src.erase_views s).2.2.2⟩
  | .concat (.cons s (.cons s2 r)) =>
    let ⟨a, b, c, d⟩ := SrcList.erase_viewsL (.cons s (.cons s2 r))
    ⟨a, b, c, d Rope.new⟩
  | .replace inner rs => by
    obtain ⟨a, _, _, d⟩ := Src.erase_views inner
    refine ⟨?_, ?_, ?_, ?_⟩
    · show replaceSource inner.eraseIds.src rs = _; rw [a]; rfl
    · show replaceSource inner.eraseIds.src rs = _; rw [a]; rfl
    · show (replaceSource inner.eraseIds.src rs).length = _; rw [a]; rfl
    · show (inner.eraseIds.rope.bind _) = _; rw [d]; rfl
  | .cached _ inner => Src.erase_views inner
theorem SrcList.erase_viewsL : (l : SrcList) → l.eraseIdsL.srcs = l.srcs ∧ l.eraseIdsL.buffers = l.buffers ∧ l.eraseIdsL.sizes = l.sizes
    ∧ ∀ acc, l.eraseIdsL.ropes acc = l.ropes acc
  | .nil => ⟨rfl, rfl, rfl, fun _ => rfl⟩
  | .cons s r => by
    obtain ⟨a, b, c, d⟩ := Src.erase_views s
    obtain ⟨a', b', c', d'⟩ := SrcList.erase_viewsL r
    refine ⟨?_, ?_, ?_, fun acc => ?_⟩
    · show s.eraseIds.src ++ r.eraseIdsL.srcs = _; rw [a, a']; rfl
    · show s.eraseIds.buffer ++ r.eraseIdsL.buffers = _; rw [b, b']; rfl
    · show s.eraseIds.size + r.eraseIdsL.sizes = _; rw [c, c']; rfl
    · show (s.eraseIds.rope.bind fun x => r.eraseIdsL.ropes _) = _
      rw [d, funext fun x => d' _]; rfl
end

mutual
theorem Src.erase_noCached : (s : Src) → s.NoCached → s.eraseIds = s
  | .raw .. | .rawStr .. | .rawBuf .. | .orig .. | .sms .. => fun _ => rfl
  | .concat cs => fun h => congrArg Src.concat (SrcList.erase_noCachedL cs h)
  | .replace inner rs => fun h => congrArg (Src.replace · rs) (Src.erase_noCached inner h)
  | .cached .. => fun h => h.elim
theorem SrcList.erase_noCachedL : (l : SrcList) → l.NoCachedL → l.eraseIdsL = l
  | .nil => fun _ => rfl
  | .cons s r => fun h => by rw [SrcList.eraseIdsL, Src.erase_noCached s h.1, SrcList.erase_noCachedL r h.2]
end

end Rs
