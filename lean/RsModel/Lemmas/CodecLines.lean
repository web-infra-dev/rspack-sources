import RsModel.Lemmas.Codec
import RsModel.Lemmas.Lookup
/-!
# The lines-only encoder (`columns: false`) round-trips through the decoder

It is the full encoder on the segments it keeps (`keptLines`; `LEncSt.full`, `lencodeFrom_full`), so its round trip is that of Codec.
-/
namespace Rs

/-- the segment the lines-only encoder makes of a mapped `m` -/
abbrev lineSeg (m : Mapping) (o : Orig) : Mapping := ⟨m.gl, 0, some ⟨o.src, o.line, 0, none⟩⟩

/-- the segments `LinesOnlyMappingsEncoder` writes: per generated line the first mapped segment, as `lineSeg` (column 0, original column 0, no name) -/
def keptLines : LEncSt → List Mapping → List Mapping
  | _, [] => []
  | s, m :: ms =>
    match m.orig with
    | none => keptLines s ms
    | some o =>
      if s.lastWritten == m.gl then keptLines s ms
      else ⟨m.gl, 0, some ⟨o.src, o.line, 0, none⟩⟩ :: keptLines (lencStep s m).1 ms

theorem lits : Generated.linesLitNext = [CH_A, CH_A, b64At 2, CH_A] ∧ Generated.linesLitSame = [CH_A, CH_A] ∧ Generated.linesLitCol = [CH_A] := by
  decide +kernel

theorem vlqChars_succ (c : Nat) : vlqChars (c + 1) c = [b64At 2] := by
  have h : vlqNum (c + 1) c = 2 := by unfold vlqNum; rw [if_pos (Nat.le_succ c), Nat.add_sub_cancel_left]
  simp [vlqChars, h, vlqDigits]

/-- the literals of the lines-only encoder are what `encode_vlq` would have written for the same four fields -/
theorem lbody_eq (e : LEncSt) (o : Orig) :
    (if o.src == e.curSrc then
        if o.line == e.curOL + 1 then Generated.linesLitNext
        else Generated.linesLitSame ++ vlqChars o.line e.curOL ++ Generated.linesLitCol
      else Generated.linesLitCol ++ vlqChars o.src e.curSrc ++ vlqChars o.line e.curOL ++ Generated.linesLitCol)
    = vlqChars 0 0 ++ (vlqChars o.src e.curSrc ++ (vlqChars o.line e.curOL ++ vlqChars 0 0)) := by
  obtain ⟨l1, l2, l3⟩ := lits
  rw [l1, l2, l3, vlqChars_self 0]
  split
  · rename_i hs
    rw [beq_iff_eq.1 hs, vlqChars_self]
    split
    · rename_i hl
      rw [beq_iff_eq.1 hl, vlqChars_succ]; rfl
    · rfl
  · simp only [List.append_assoc]

/-- the decoder between two segments of what the lines-only encoder wrote, field by field -/
structure LnRel (e : LEncSt) (d : DecSt) : Prop where
  v0 : d.value = 0
  p0 : d.valuePos = 0
  line : d.genLine = e.curLine
  c0 : d.d0 = 0
  c1 : d.d1 = e.curSrc
  c2 : d.d2 = e.curOL
  c3 : d.d3 = 0
  dp : d.dataPos = 0 ∨ d.dataPos = 4
  fresh : e.lastWritten = 0 → d.dataPos = 0
  written : e.lastWritten ≠ 0 → e.lastWritten = e.curLine

/-- The lines-only encoder is the full encoder on the segments it keeps.  This is the state in which the full encoder writes as the
lines-only encoder does in state `e`: columns and names never move, and a segment stands on the current line already, so that a `,`
would be due, exactly when `lastWritten` says so. -/
abbrev LEncSt.full (e : LEncSt) : EncSt :=
  { curLine := e.curLine, curSrc := e.curSrc, curOL := e.curOL, activeMapping := e.lastWritten == e.curLine,
    initial := e.lastWritten != e.curLine }

theorem lencStep_kept (e : LEncSt) (m : Mapping) (o : Orig) (ho : m.orig = some o) (hw : e.lastWritten ≠ m.gl) :
    (lencStep e m).1 = ⟨m.gl, m.gl, o.src, o.line⟩ := by
  rw [lencStep, ho]
  simp only [beq_eq_false_iff_ne.2 hw, Bool.false_eq_true, if_false]

/-- a step of the lines-only encoder that writes is the step of the full encoder on the segment kept -/
theorem lencStep_full (e : LEncSt) (m : Mapping) (o : Orig) (ho : m.orig = some o) (hw : e.lastWritten ≠ m.gl) (hle : e.curLine ≤ m.gl) :
    encSkip e.full (lineSeg m o) = false
    ∧ encSep e.full (lineSeg m o) ++ encFields e.full (lineSeg m o) = (lencStep e m).2
    ∧ encNext e.full (lineSeg m o) = (lencStep e m).1.full := by
  refine ⟨?_, ?_, ?_⟩
  · unfold encSkip
    split
    · rename_i h
      simp only [Bool.and_eq_true, beq_iff_eq] at h
      exact absurd (h.1.trans h.2) hw
    · rfl
  · have hsep : encSep e.full (lineSeg m o) = List.replicate (m.gl - e.curLine) SEMI := by
      unfold encSep
      split
      · rfl
      · -- no `,`: on its current line the lines-only encoder has written nothing
        have hl : m.gl = e.curLine := Nat.le_antisymm (Nat.not_lt.1 ‹_›) hle
        simp only [hl, Nat.sub_self, List.replicate_zero, bne_iff_ne.2 (hl ▸ hw), if_true]
    rw [lencStep, ho, hsep, encFields_eq]
    simp only [beq_eq_false_iff_ne.2 hw, Bool.false_eq_true, if_false, lbody_eq]
    simp only [encFields', ite_self, List.append_nil, List.append_assoc]
  · have hline : (if e.full.curLine < (lineSeg m o).gl then (lineSeg m o).gl else e.full.curLine) = m.gl := by
      split
      · rfl
      · exact Nat.le_antisymm hle (Nat.not_lt.1 ‹_›)
    rw [lencStep_kept e m o ho hw]
    unfold encNext
    rw [hline]
    simp only [LEncSt.full, beq_self_eq_true, bne_self_eq_false, Option.isSome_none]

/-- what the lines-only encoder writes is what the full encoder writes for the segments kept, none of which it drops; their lines
go on from the encoder's as those of the input do -/
theorem lencodeFrom_full : ∀ (ms : List Mapping) (e : LEncSt), linesOK e.curLine ms →
    lencodeFrom e ms = encodeFrom e.full (keptLines e ms) ∧ keptFrom e.full (keptLines e ms) = keptLines e ms
    ∧ linesOK e.curLine (keptLines e ms) := by
  intro ms e
  fun_induction keptLines e ms with
  | case1 e => intro _; exact ⟨rfl, rfl, trivial⟩
  | case2 e m ms ho ih =>
    intro ⟨hle, hrest⟩
    rw [lencodeFrom, lencStep, ho]
    exact ih (linesOK_mono hle ms hrest)
  | case3 e m ms o ho hw ih =>
    intro ⟨hle, hrest⟩
    rw [lencodeFrom, lencStep, ho]
    simp only [hw, if_true]
    exact ih (linesOK_mono hle ms hrest)
  | case4 e m ms o ho hw ih =>
    intro ⟨hle, hrest⟩
    have hw' : e.lastWritten ≠ m.gl := by simpa using hw
    obtain ⟨hskip, htext, hnext⟩ := lencStep_full e m o ho hw' hle
    rw [lencStep_kept e m o ho hw'] at ih hnext
    obtain ⟨h1, h2, h3⟩ := ih hrest
    rw [lencodeFrom, encodeFrom, keptFrom, hskip, htext, hnext, lencStep_kept e m o ho hw', ← h1, h2]
    exact ⟨rfl, rfl, hle, h3⟩

theorem keptLines_mem : ∀ (ms : List Mapping) (e : LEncSt) (x : Mapping), x ∈ keptLines e ms →
    ∃ m ∈ ms, ∃ o, m.orig = some o ∧ x = lineSeg m o := by
  intro ms e x
  have tail {m : Mapping} {ms : List Mapping} : (∃ m' ∈ ms, ∃ o, m'.orig = some o ∧ x = lineSeg m' o) →
      ∃ m' ∈ m :: ms, ∃ o, m'.orig = some o ∧ x = lineSeg m' o := fun ⟨m', h1, h2⟩ => ⟨m', List.mem_cons_of_mem _ h1, h2⟩
  fun_induction keptLines e ms with
  | case1 => intro h; cases h
  | case2 e m ms ho ih => exact fun h => tail (ih h)
  | case3 e m ms o ho hw ih => exact fun h => tail (ih h)
  | case4 e m ms o ho hw ih =>
    intro h
    rcases List.mem_cons.1 h with rfl | h
    · exact ⟨m, List.mem_cons_self, o, ho, rfl⟩
    · exact tail (ih h)

/-- hence its round trip is that of the full codec on the kept segments -/
theorem decode_lencode (ms : List Mapping) (hs : ∀ m ∈ ms, ∀ o, m.orig = some o → o.src < U31 ∧ o.line < U31)
    (h : linesOK 1 ms) : decode (encodeLines ms) = keptLines {} ms := by
  obtain ⟨h1, h2, h3⟩ := lencodeFrom_full ms {} h
  rw [encodeLines, h1]
  refine (decode_encode _ (fun x hx => ?_) h3).trans h2
  obtain ⟨m, hm, o, ho, rfl⟩ := keptLines_mem ms {} x hx
  obtain ⟨s1, s2⟩ := hs m hm o ho
  exact ⟨Nat.two_pow_pos 31, fun o' ho' => by cases ho'; exact ⟨s1, s2, Nat.two_pow_pos 31, fun _ hn => nomatch hn⟩⟩

theorem keptLines_lookup (l : Nat) : ∀ (ms : List Mapping) (e : LEncSt), l ≠ e.lastWritten →
    lookupLines (keptLines e ms) l = lookupLines ms l := by
  intro ms e
  fun_induction keptLines e ms with
  | case1 => intro _; rfl
  | case2 e m ms ho ih => intro hne; rw [lookupLines_cons_of_ne m ms l (Or.inr ho)]; exact ih hne
  | case3 e m ms o ho hw ih =>
    intro hne
    rw [lookupLines_cons_of_ne m ms l (Or.inl fun h => hne (by rw [← h, beq_iff_eq.1 hw]))]
    exact ih hne
  | case4 e m ms o ho hw ih =>
    intro _
    rw [lookupLines_cons, lookupLines_cons, ho]
    by_cases hml : m.gl = l
    · rw [if_pos ⟨hml, rfl⟩, if_pos ⟨hml, rfl⟩]; rfl
    · rw [if_neg fun h => hml h.1, if_neg fun h => hml h.1]
      exact ih (by rw [lencStep_kept e m o ho (by simpa using hw)]; exact Ne.symm hml)

theorem lookupLines_kept (ms : List Mapping) (l : Nat) (hl : 0 < l) : lookupLines (keptLines {} ms) l = lookupLines ms l :=
  keptLines_lookup l ms {} (Nat.ne_of_gt hl)

theorem keptLines_increasing : ∀ (ms : List Mapping) (e : LEncSt), linesOK e.lastWritten ms →
    (∀ x ∈ keptLines e ms, e.lastWritten < x.gl) ∧ (keptLines e ms).Pairwise (fun a b => a.gl < b.gl) := by
  intro ms e
  fun_induction keptLines e ms with
  | case1 => intro _; exact ⟨fun _ h => (nomatch h), List.Pairwise.nil⟩
  | case2 e m ms ho ih => exact fun ⟨h1, h2⟩ => ih (linesOK_mono h1 ms h2)
  | case3 e m ms o ho hw ih => exact fun ⟨h1, h2⟩ => ih (linesOK_mono h1 ms h2)
  | case4 e m ms o ho hw ih =>
    intro ⟨h1, h2⟩
    have hlt : e.lastWritten < m.gl := Nat.lt_of_le_of_ne h1 (by simpa using hw)
    rw [lencStep_kept e m o ho (Nat.ne_of_lt hlt)] at ih ⊢
    obtain ⟨a, b⟩ := ih h2
    exact ⟨List.forall_mem_cons.2 ⟨hlt, fun x hx => Nat.lt_trans hlt (a x hx)⟩, List.pairwise_cons.2 ⟨a, b⟩⟩

end Rs
