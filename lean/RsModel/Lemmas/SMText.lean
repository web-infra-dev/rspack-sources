import RsModel.Lemmas.Lines
import RsModel.Lemmas.CharStarts
import RsModel.Lemmas.SMWalk
import RsModel.Lemmas.Text
/-!
# the map-driven splitters reassemble the text, for ANY map (C01)

`emitted lines l c` is the text before the cursor `(l, c)`.  Every move of the splitter with columns runs over a stretch of the
cursor's line and delivers it (`Stretch`, `Move.stretch`: the one fact about a move that text, positions and attribution read), so
what has been delivered is always `emitted` at the walker (`TextInv`), and the closing sentinel takes the walker to the end.
Columns are char indices: `cpos ln a` is the byte offset of char `a` of a line, as `WithIndices` finds it.  The splitter with
columns needs of the text what a `String` guarantees (`TextOK`; `WFLines` for its lines): no line begins inside a character, and
lengths fit `usize`.
-/
namespace Rs

theorem charStartsFrom_noncont : ∀ (t : Text) (i : Nat), ∀ x ∈ charStartsFrom i t, ∃ k b, x = i + k ∧ t[k]? = some b ∧ isCont b = false := by
  intro t i
  fun_induction charStartsFrom i t with
  | case1 => nofun
  | case2 i b bs _ ih =>
    intro x hx
    obtain ⟨k, c, e, hc⟩ := ih x hx
    exact ⟨k + 1, c, e.trans (Nat.add_right_comm i 1 k), hc⟩
  | case3 i b bs hb ih =>
    intro x hx
    rcases List.mem_cons.1 hx with rfl | hx
    · exact ⟨0, b, rfl, rfl, by simpa using hb⟩
    · obtain ⟨k, c, e, hc⟩ := ih x hx
      exact ⟨k + 1, c, e.trans (Nat.add_right_comm i 1 k), hc⟩

/-- the byte offsets `WithIndices` computes are char boundaries: the precondition of the unchecked slicing (C19) -/
theorem cpos_boundary (t : Text) (k : Nat) : isBoundary t (cpos t k) = true := by
  unfold cpos
  by_cases hk : k < (charStarts t).length
  · rw [getD_of_lt _ hk]
    obtain ⟨j, b, e, hb1, hb2⟩ := charStartsFrom_noncont t 0 _ (List.getElem_mem hk)
    unfold isBoundary
    split
    · rfl
    · rw [e, Nat.zero_add, hb1]; simp [hb2]
  · rw [getD_of_le _ (Nat.le_of_not_lt hk)]
    exact isBoundary_len t

/-- the line does not begin inside a character (true of every line of a valid UTF-8 text); the rope proofs say the same of a
piece with the test `Rope.pieceOK` -/
def startsOK (ln : Text) : Prop := ∀ b rest, ln = b :: rest → isCont b = false

theorem cpos_zero (ln : Text) (h : startsOK ln) : cpos ln 0 = 0 := by
  unfold cpos charStarts
  cases ln with
  | nil => rfl
  | cons b bs => simp [charStartsFrom, h b bs rfl]

theorem csub_eq (ln : Text) (a b : Nat) (h : a ≤ b) : csub ln a b = (ln.take (cpos ln b)).drop (cpos ln a) := by
  unfold csub
  rcases Nat.eq_or_lt_of_le h with rfl | hlt
  · simp
  · have : ¬ b ≤ a := by omega
    simp only [this, if_false, bsub]
    show (ln.drop (cpos ln a)).take (cpos ln b - cpos ln a) = _
    rw [List.drop_take]

theorem take_csub (ln : Text) (a b : Nat) (h : a ≤ b) : ln.take (cpos ln a) ++ csub ln a b = ln.take (cpos ln b) := by
  rw [csub_eq ln a b h]
  have hm := cpos_mono ln a b h
  conv => rhs; rw [← List.take_append_drop (cpos ln a) (ln.take (cpos ln b))]
  congr 1
  rw [List.take_take]; congr 1; omega

theorem take_csub_max (ln : Text) (a : Nat) (hl : ln.length ≤ USIZE_MAX) : ln.take (cpos ln a) ++ csub ln a USIZE_MAX = ln := by
  by_cases h : a ≤ USIZE_MAX
  · rw [take_csub ln a USIZE_MAX h, cpos_big ln _ hl]; simp
  · have h2 : USIZE_MAX ≤ a := by omega
    simp only [csub, h2, if_true, List.append_nil]
    rw [cpos_big ln a (by omega)]; simp

def emitted (lines : List Text) (line col : Nat) : Text :=
  (lines.take (line - 1)).flatten ++ (lineAt lines line).take (cpos (lineAt lines line) col)

theorem emitted_beyond (lines : List Text) (line col : Nat) (h : lines.length < line) : emitted lines line col = lines.flatten := by
  have hl : lines.length ≤ line - 1 := Nat.le_sub_one_of_lt h
  rw [emitted, lineAt, getD_of_le _ hl, List.take_of_length_le hl, List.take_nil, List.append_nil]

structure WFLines (lines : List Text) : Prop where
  starts : ∀ ln ∈ lines, startsOK ln
  small : ∀ ln ∈ lines, ln.length ≤ USIZE_MAX

theorem lineAt_small (lines : List Text) (h : WFLines lines) (line : Nat) : (lineAt lines line).length ≤ USIZE_MAX :=
  forall_getD (P := fun ln : Text => ln.length ≤ USIZE_MAX) (Nat.zero_le _) h.small _

theorem lineAt_startsOK (lines : List Text) (h : WFLines lines) (line : Nat) : startsOK (lineAt lines line) :=
  forall_getD (P := startsOK) (d := []) (fun _ _ e => nomatch e) h.starts _

theorem emitted_next_line (lines : List Text) (h : WFLines lines) (line : Nat) (h1 : 1 ≤ line) :
    (lines.take (line - 1)).flatten ++ lineAt lines line = emitted lines (line + 1) 0 := by
  obtain ⟨k, rfl⟩ : ∃ k, line = k + 1 := ⟨line - 1, by omega⟩
  rw [emitted, cpos_zero _ (lineAt_startsOK lines h _), List.take_zero, List.append_nil, Nat.add_sub_cancel, Nat.add_sub_cancel,
    List.take_add_one, List.flatten_append, lineAt, Nat.add_sub_cancel, List.getD_eq_getElem?_getD]
  cases lines[k]? <;> simp

theorem emitted_begin (lines : List Text) (h : WFLines lines) : emitted lines 1 0 = [] := by
  rw [emitted, cpos_zero _ (lineAt_startsOK lines h 1)]; rfl

theorem emitted_rest_of_line (lines : List Text) (h : WFLines lines) (line col : Nat) (h1 : 1 ≤ line) :
    emitted lines line col ++ csub (lineAt lines line) col USIZE_MAX = emitted lines (line + 1) 0 := by
  rw [← emitted_next_line lines h line h1, emitted, List.append_assoc]
  exact congrArg _ (take_csub_max _ col (lineAt_small lines h line))

theorem emitted_upto (lines : List Text) (line a b : Nat) (hab : a ≤ b) :
    emitted lines line a ++ csub (lineAt lines line) a b = emitted lines line b := by
  rw [emitted, List.append_assoc]
  exact congrArg _ (take_csub _ a b hab)

theorem csub_whole (ln : Text) (hs : startsOK ln) (hl : ln.length ≤ USIZE_MAX) : csub ln 0 USIZE_MAX = ln := by
  have h := take_csub_max ln 0 hl
  rwa [cpos_zero ln hs, List.take_zero, List.nil_append] at h

theorem csub_beyond (lines : List Text) {l : Nat} (h : ¬ l ≤ lines.length) (a b : Nat) : csub (lineAt lines l) a b = [] := by
  rw [lineAt, getD_of_le _ (Nat.le_sub_one_of_lt (Nat.lt_of_not_le h)), csub]
  split
  · rfl
  · simp only [bsub, List.drop_nil, List.take_nil]

/-- `evs` delivers the stretch of the walker's line from its column up to column `b`: as one chunk on a line of the text, at the
walker's place and with what the walker holds as its location, or as nothing when the stretch is empty -/
def Stretch (lines : List Text) (s : FullSt) (b : Nat) (evs : List Ev) : Prop :=
  (evs = [] ∧ csub (lineAt lines s.line) s.col b = []) ∨ (s.line ≤ lines.length ∧
    evs = [.chunk (some (csub (lineAt lines s.line) s.col b)) ⟨s.line, s.col, if s.active then s.orig else none⟩])

section stretch
variable {lines : List Text} {s : FullSt}

theorem Stretch.text {b : Nat} {evs : List Ev} (h : Stretch lines s b evs) : evsText evs = csub (lineAt lines s.line) s.col b := by
  rcases h with ⟨rfl, e⟩ | ⟨_, rfl⟩
  · exact e.symm
  · exact evsText_singleton _

theorem Stretch.close (ha : s.active = true) (hn : s.line ≤ lines.length) (b : Nat) :
    Stretch lines s b (if (csub (lineAt lines s.line) s.col b).isEmpty then []
      else [.chunk (some (csub (lineAt lines s.line) s.col b)) ⟨s.line, s.col, s.orig⟩]) := by
  rw [Stretch, if_pos ha]
  split
  · exact .inl ⟨rfl, List.isEmpty_iff.1 ‹_›⟩
  · exact .inr ⟨hn, rfl⟩

theorem Stretch.unmapped (hq : s.closed lines) (b : Nat) :
    Stretch lines s b (if s.line ≤ lines.length then [.chunk (some (csub (lineAt lines s.line) s.col b)) ⟨s.line, s.col, none⟩] else []) := by
  split
  · exact .inr ⟨‹_›, by rw [hq.inactive fun _ => ‹_›]; rfl⟩
  · exact .inl ⟨rfl, csub_beyond lines ‹_› _ _⟩

end stretch

/-- **the five moves in one shape**: the cursor runs along its line from its column up to some column `b`: to the end of the line
and on to the start of the next when `m` lies on a later line, to `m`'s column on `m`'s line, and the stretch run over is delivered.
A walker still active afterwards was so before, beyond the text.  Text (`textMoves`), positions (`posMoves`) and attribution
(`attrMoves`) read this. -/
theorem Move.stretch {lines : List Text} (hw : WFLines lines) {m : Mapping} {s s' : FullSt} {evs : List Ev} (hv : Move lines m s evs s') :
    ∃ b, ((s.line < m.gl ∧ b = USIZE_MAX ∧ s'.line = s.line + 1 ∧ s'.col = 0) ∨ (s.line = m.gl ∧ s.col ≤ b ∧ b = m.gc ∧ s'.line = s.line ∧ s'.col = b))
      ∧ (s'.active = true → s.active = true ∧ lines.length < s.line) ∧ Stretch lines s b evs := by
  cases hv with
  | closeEol ha hn hl => exact ⟨USIZE_MAX, .inl ⟨hl, rfl, rfl, rfl⟩, nofun, .close ha hn _⟩
  | closeUpto ha hn he hc => exact ⟨m.gc, .inr ⟨he, hc, rfl, rfl, rfl⟩, nofun, .close ha hn _⟩
  | restEol hq hl => exact ⟨USIZE_MAX, .inl ⟨hl, rfl, rfl, rfl⟩, fun ha => ⟨ha, hq ha⟩, .unmapped hq _⟩
  | whole hq hl hc =>
    -- the whole line is the stretch from its column 0
    have := Stretch.unmapped hq USIZE_MAX
    rw [hc, csub_whole (lineAt lines s.line) (lineAt_startsOK lines hw s.line) (lineAt_small lines hw s.line)] at this
    exact ⟨USIZE_MAX, .inl ⟨hl, rfl, rfl, hc⟩, fun ha => ⟨ha, hq ha⟩, this⟩
  | gap hq he hc => exact ⟨m.gc, .inr ⟨he, Nat.le_of_lt hc, rfl, rfl, rfl⟩, fun ha => ⟨ha, hq ha⟩, .unmapped hq _⟩

def TextInv (lines : List Text) (pre : Text) (acc : List Ev) (s : FullSt) : Prop :=
  pre ++ evsText acc = emitted lines s.line s.col ∧ 1 ≤ s.line

theorem textMoves (lines : List Text) (h : WFLines lines) (pre : Text) (fl fc : Nat) (m : Mapping) :
    MoveOK (TextInv lines pre) (TextInv lines pre) lines fl fc m where
  move := fun acc s evs s' hi hv => by
    obtain ⟨b, hd, _, he⟩ := hv.stretch h
    unfold TextInv
    rw [evsText_append, ← List.append_assoc, hi.1, he.text]
    rcases hd with ⟨_, rfl, hl, hc⟩ | ⟨_, hcb, _, hl, hc⟩ <;> rw [hl, hc]
    · exact ⟨emitted_rest_of_line lines h s.line s.col hi.2, Nat.le_succ_of_le hi.2⟩
    · exact ⟨emitted_upto lines s.line s.col b hcb, hi.2⟩
  activate := fun _ s hi _ _ _ => by
    obtain ⟨e1, e2⟩ := smStep5_pos fl fc s m
    exact ⟨by rw [e1, e2]; exact hi.1, e1 ▸ hi.2⟩

theorem smFullGo_spec (lines : List Text) (h : WFLines lines) (fl fc : Nat) (ms : List Mapping) (s : FullSt) (h1 : 1 ≤ s.line) :
    emitted lines s.line s.col ++ evsText (smFullGo lines fl fc s ms)
        = emitted lines (smFullState lines fl fc s ms).line (smFullState lines fl fc s ms).col
    ∧ 1 ≤ (smFullState lines fl fc s ms).line := by
  have := smFullGo_walk lines fl fc ms (fun m _ acc s' hi hb => smFullStep_walk (textMoves lines h (emitted lines s.line s.col) fl fc m) acc s' hi hb)
    [] s ⟨by rw [evsText_nil, List.append_nil], h1⟩
  rwa [List.nil_append] at this

theorem emitted_final (lines : List Text) (h : WFLines lines) (s : FullSt) (h1 : 1 ≤ s.line)
    (hr : reached s ⟨if endsWithNL (lines.getLast?.getD []) then lines.length + 1 else lines.length,
                     if endsWithNL (lines.getLast?.getD []) then 0 else (lines.getLast?.getD []).length, none⟩) :
    emitted lines s.line s.col = lines.flatten := by
  by_cases hnl : endsWithNL (lines.getLast?.getD []) = true
  · simp only [hnl, if_true, reached] at hr
    exact emitted_beyond lines s.line s.col (by omega)
  · simp only [hnl, Bool.false_eq_true, if_false, reached] at hr
    rcases hr with hr | ⟨hl, hc⟩
    · exact emitted_beyond lines s.line s.col hr
    · -- the walker stands in the last line, at or beyond its end
      have hlast : lines.getLast?.getD [] = lineAt lines s.line := by
        rw [List.getLast?_eq_getElem?, hl, lineAt, List.getD_eq_getElem?_getD]
      rw [emitted, cpos_big _ _ (hlast ▸ hc), List.take_length, emitted_next_line lines h s.line h1,
        emitted_beyond _ _ _ (by omega)]

def TextOK (t : Text) : Prop := (∀ ln ∈ splitLines t, startsOK ln) ∧ t.length ≤ USIZE_MAX

theorem length_le_flatten (ls : List Text) : ∀ ln ∈ ls, ln.length ≤ ls.flatten.length :=
  fun _ h => (List.sublist_flatten_of_mem h).length_le

theorem wfLines_of_textOK (t : Text) (h : TextOK t) : WFLines (splitLines t) :=
  ⟨h.1, fun ln hln => by have := length_le_flatten _ ln hln; rw [splitLines_join] at this; exact Nat.le_trans this h.2⟩

theorem splitLines_isEmpty_iff (t : Text) : (splitLines t).isEmpty = true ↔ t = [] := by
  refine ⟨fun h => ?_, fun h => by subst h; rfl⟩
  have hj := splitLines_join t
  rw [List.isEmpty_iff.1 h] at hj; exact hj.symm

theorem smSourceEvs_notext (m : SMap) : evsText (smSourceEvs m) = [] := evsText_anns (smSourceEvs_noChunk m)

theorem smNameEvs_notext (m : SMap) : evsText (smNameEvs m) = [] := evsText_anns (smNameEvs_noChunk m)

/-- C01 for a SourceMapSource streamed with columns: the chunks reassemble to the text, for ANY attached map -/
theorem streamSMFull_text (t : Text) (sm : SMap) (h : TextOK t) : evsText (streamSMFull t sm).evs = t := by
  unfold streamSMFull
  by_cases he : (splitLines t).isEmpty = true
  · rw [if_pos he]; exact ((splitLines_isEmpty_iff t).1 he).symm
  · simp only [he, Bool.false_eq_true, if_false, evsText_append, smSourceEvs_notext, smNameEvs_notext, List.nil_append]
    have hw := wfLines_of_textOK t h
    obtain ⟨e, l⟩ := smFullGo_spec (splitLines t) hw _ _ (decode sm.mappings ++ [⟨_, _, none⟩]) {} (by decide)
    rw [show emitted (splitLines t) ({} : FullSt).line ({} : FullSt).col = [] from emitted_begin _ hw, List.nil_append] at e
    rw [e, emitted_final (splitLines t) hw _ l (smFullState_reached _ _ _ _ _ _), splitLines_join]

/-- C01 for a SourceMapSource streamed without columns: for ANY text and ANY attached map -/
theorem streamSMLinesFull_text (t : Text) (sm : SMap) : evsText (streamSMLinesFull t sm).evs = t := by
  obtain ⟨hd, hnc, e⟩ := streamSMLinesFull_eq t sm
  rw [e, evsText_append, evsText_anns hnc, lineEvs_text, List.nil_append, splitLines_join]

/-- C01 for a SourceMapSource leaf without inner map, both column settings -/
theorem streamSM_text (t : Text) (sm : SMap) (c : Bool) (h : TextOK t) : evsText (streamSM t sm ⟨c, false⟩).evs = t := by
  cases c
  · exact streamSMLinesFull_text t sm
  · exact streamSMFull_text t sm h

instance (ln : Text) : Decidable (startsOK ln) :=
  match ln with
  | [] => isTrue (fun _ _ h => nomatch h)
  | b :: _ => decidable_of_iff (isCont b = false) ⟨fun h _ _ e => by cases e; exact h, fun h => h _ _ rfl⟩
instance (t : Text) : Decidable (TextOK t) := by unfold TextOK; infer_instance

end Rs
