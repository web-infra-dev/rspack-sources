import RsModel.Lemmas.Codec
/-!
# The decoder on *any* string of the source-map v3 `mappings` grammar

`mappings  ::= line (';' line)*`, `line ::= (segment (',' segment)*)?`, `segment ::= field*`,
`field ::= (continuation digit)* final digit`.  A field may be written with any number of digits (also with
redundant leading-zero groups, which other producers emit); segments may have any number of fields.
-/
namespace Rs

/-- a field: the 5-bit groups carried by continuation digits (least significant first) and the final group -/
structure VField where
  groups : List Nat
  last : Nat

def VField.chars (f : VField) : Text := f.groups.map (fun g => b64At (g % 32 + 32)) ++ [b64At (f.last % 32)]

def VField.raw (f : VField) : Nat := undigits (f.groups ++ [f.last])

theorem undigits_append_single (gs : List Nat) (l : Nat) : undigits (gs ++ [l]) = undigits gs + 32 ^ gs.length * (l % 32) := by
  induction gs with
  | nil => simp [undigits]
  | cons g gs ih => simp only [List.cons_append, undigits, ih, List.length_cons, Nat.pow_succ]; rw [Nat.mul_add]; ac_rfl

theorem undigits_groups (gs : List Nat) (l : Nat) :
    undigits (gs.map (· % 32 + 32) ++ [l % 32]) = undigits (gs ++ [l]) := by
  induction gs with
  | nil => simp only [List.map_nil, List.nil_append, undigits, Nat.mod_mod]
  | cons g gs ih => simp only [List.map_cons, List.cons_append, undigits, ih, Nat.add_mod_right, Nat.mod_mod]

theorem dec_vfield (f : VField) (s : DecSt) (h0 : s.value = 0) (h1 : s.valuePos = 0) :
    decBytes s f.chars = (s.setField f.raw, []) := by
  have h := dec_digitList (f.last % 32) (Nat.mod_lt _ (by decide)) (f.groups.map (· % 32 + 32)) s (by
    intro d hd
    obtain ⟨g, _, rfl⟩ := List.mem_map.1 hd
    omega)
  rw [undigits_groups, h0, h1, Nat.pow_zero, Nat.mul_one, Nat.zero_add, List.map_append, List.map_map] at h
  exact h

def DecSt.Idle (s : DecSt) : Prop := s.value = 0 ∧ s.valuePos = 0

def segFields (s : DecSt) (seg : List VField) : DecSt := seg.foldl (fun s f => s.setField f.raw) s

def segChars (seg : List VField) : Text := (seg.map VField.chars).flatten

theorem dec_segment : ∀ (seg : List VField) (s : DecSt), s.Idle → decBytes s (segChars seg) = (segFields s seg, []) ∧ (segFields s seg).Idle := by
  intro seg
  induction seg with
  | nil => intro s h; exact ⟨rfl, h⟩
  | cons f fs ih =>
    intro s h
    obtain ⟨i1, i2⟩ := ih (s.setField f.raw) ⟨rfl, rfl⟩
    simp only [segChars, List.map_cons, List.flatten_cons, segFields, List.foldl_cons] at i1 i2 ⊢
    rw [decBytes_append, dec_vfield f s h.1 h.2]
    exact ⟨by simp only [i1, List.nil_append], i2⟩

/-- the segments of one line, separated by commas: state after the last segment (still pending) and the mappings emitted -/
def lineSegs : DecSt → List (List VField) → DecSt × List Mapping
  | s, [] => (s, [])
  | s, [seg] => (segFields s seg, [])
  | s, seg :: rest =>
    let s1 := segFields s seg
    let r := lineSegs { s1 with dataPos := 0 } rest
    (r.1, s1.pending ++ r.2)

def lineChars : List (List VField) → Text
  | [] => []
  | [seg] => segChars seg
  | seg :: rest => segChars seg ++ [COMMA] ++ lineChars rest

theorem dec_line : ∀ (segs : List (List VField)) (s : DecSt), s.Idle →
    decBytes s (lineChars segs) = lineSegs s segs ∧ (lineSegs s segs).1.Idle := by
  intro segs
  induction segs with
  | nil => intro s h; exact ⟨rfl, h⟩
  | cons seg rest ih =>
    intro s h
    obtain ⟨a, b⟩ := dec_segment seg s h
    cases rest with
    | nil => exact ⟨a, b⟩
    | cons seg2 rest2 =>
      obtain ⟨i1, i2⟩ := ih { segFields s seg with dataPos := 0 } b
      simp only [lineChars, lineSegs]
      rw [List.append_assoc, decBytes_append, a, List.singleton_append, decBytes, decByte_comma, i1]
      exact ⟨rfl, i2⟩

def allLines : DecSt → List (List (List VField)) → DecSt × List Mapping
  | s, [] => (s, [])
  | s, [ln] => lineSegs s ln
  | s, ln :: rest =>
    let r1 := lineSegs s ln
    let r := allLines { r1.1 with dataPos := 0, genLine := r1.1.genLine + 1, d0 := 0 } rest
    (r.1, r1.2 ++ r1.1.pending ++ r.2)

def allChars : List (List (List VField)) → Text
  | [] => []
  | [ln] => lineChars ln
  | ln :: rest => lineChars ln ++ [SEMI] ++ allChars rest

theorem dec_all : ∀ (lns : List (List (List VField))) (s : DecSt), s.Idle →
    decBytes s (allChars lns) = allLines s lns ∧ (allLines s lns).1.Idle := by
  intro lns
  induction lns with
  | nil => intro s h; exact ⟨rfl, h⟩
  | cons ln rest ih =>
    intro s h
    obtain ⟨a, b⟩ := dec_line ln s h
    cases rest with
    | nil => exact ⟨a, b⟩
    | cons ln2 rest2 =>
      obtain ⟨i1, i2⟩ := ih { (lineSegs s ln).1 with dataPos := 0, genLine := (lineSegs s ln).1.genLine + 1, d0 := 0 } b
      simp only [allChars, allLines]
      rw [List.append_assoc, decBytes_append, a, List.singleton_append, decBytes, decByte_semi, i1]
      exact ⟨by simp only [List.append_assoc], i2⟩

/-! ## what a v3 string means: signed deltas added to running absolute values

The reference decoder below is the textbook reading of the format (zig-zag sign in bit 0, deltas relative to the previous
segment, the generated column reset at every `;`, segments of 1, 4 or 5 fields) with explicit range checks instead of machine
arithmetic.  Whenever it accepts a string, the crate's decoder returns the same mappings. -/

/-- add a delta; reject values that leave `0 .. 2^32` or VLQs beyond 63 bits -/
def addD (cur raw : Nat) : Option Nat :=
  if raw < 2 ^ 63 ∧ 0 ≤ (cur : Int) + zz raw ∧ (cur : Int) + zz raw < 2 ^ 32 then some ((cur : Int) + zz raw).toNat else none

theorem addField_of_addD (cur raw x : Nat) (h : addD cur raw = some x) : addField cur raw = x := by
  unfold addD at h
  split at h
  · rename_i hc
    cases h
    exact addField_zz cur raw _ hc.1 (Int.toNat_of_nonneg hc.2.1).symm (by rw [Int.toNat_of_nonneg hc.2.1]; exact hc.2.2)
  · cases h

structure RefSt where
  col : Nat := 0
  src : Nat := 0
  line : Nat := 1
  ocol : Nat := 0
  name : Nat := 0

def refSeg (st : RefSt) (g : Nat) (seg : List VField) : Option (RefSt × List Mapping) :=
  match seg with
  | [] => some (st, [])
  | [c] => (addD st.col c.raw).map fun col => ({ st with col }, [⟨g, col, none⟩])
  | [c, s, l, oc] =>
    (addD st.col c.raw).bind fun col => (addD st.src s.raw).bind fun src => (addD st.line l.raw).bind fun line =>
    (addD st.ocol oc.raw).map fun ocol => ({ st with col, src, line, ocol }, [⟨g, col, some ⟨src, line, ocol, none⟩⟩])
  | [c, s, l, oc, n] =>
    (addD st.col c.raw).bind fun col => (addD st.src s.raw).bind fun src => (addD st.line l.raw).bind fun line =>
    (addD st.ocol oc.raw).bind fun ocol => (addD st.name n.raw).map fun name =>
      ({ col, src, line, ocol, name }, [⟨g, col, some ⟨src, line, ocol, some name⟩⟩])
  | _ => none

def refLine : RefSt → Nat → List (List VField) → Option (RefSt × List Mapping)
  | st, _, [] => some (st, [])
  | st, g, seg :: rest =>
    (refSeg st g seg).bind fun r => (refLine r.1 g rest).map fun r2 => (r2.1, r.2 ++ r2.2)

def refAll : RefSt → Nat → List (List (List VField)) → Option (List Mapping)
  | _, _, [] => some []
  | st, g, ln :: rest =>
    (refLine st g ln).bind fun r => (refAll { r.1 with col := 0 } (g + 1) rest).map fun ms => r.2 ++ ms

/-- the decoder between two segments of line `g`, as the running values of the reference decoder determine it: no VLQ in progress,
`dp` fields of the last segment read -/
def RefSt.dec (st : RefSt) (g dp : Nat) : DecSt := ⟨st.col, st.src, st.line, st.ocol, st.name, dp, 0, 0, g⟩

theorem RefSt.dec_comma (st : RefSt) (g dp : Nat) : ({ st.dec g dp with dataPos := 0 } : DecSt) = st.dec g 0 := rfl

theorem RefSt.dec_semi (st : RefSt) (g dp : Nat) :
    ({ st.dec g dp with dataPos := 0, genLine := (st.dec g dp).genLine + 1, d0 := 0 } : DecSt)
      = RefSt.dec { st with col := 0 } (g + 1) 0 := rfl

theorem ref_segment (st : RefSt) (g : Nat) (seg : List VField) (st' : RefSt) (ms : List Mapping)
    (h : refSeg st g seg = some (st', ms)) : ∃ dp, segFields (st.dec g 0) seg = st'.dec g dp ∧ (st'.dec g dp).pending = ms := by
  match seg, h with
  | [], h => cases h; exact ⟨0, rfl, rfl⟩
  | [c], h =>
    simp only [refSeg, Option.map_eq_some_iff] at h
    obtain ⟨col, hc, he⟩ := h
    cases he
    exact ⟨1, by simp only [segFields, List.foldl, RefSt.dec, setField_0, addField_of_addD _ _ _ hc], rfl⟩
  | [c, sf, l, oc], h =>
    simp only [refSeg, Option.bind_eq_some_iff, Option.map_eq_some_iff] at h
    obtain ⟨col, hc, src, hs, line, hl, ocol, ho, he⟩ := h
    cases he
    exact ⟨4, by simp only [segFields, List.foldl, RefSt.dec, setField_0, setField_1, setField_2, setField_3,
      addField_of_addD _ _ _ hc, addField_of_addD _ _ _ hs, addField_of_addD _ _ _ hl, addField_of_addD _ _ _ ho], rfl⟩
  | [c, sf, l, oc, n], h =>
    simp only [refSeg, Option.bind_eq_some_iff, Option.map_eq_some_iff] at h
    obtain ⟨col, hc, src, hs, line, hl, ocol, ho, name, hn, he⟩ := h
    cases he
    exact ⟨5, by simp only [segFields, List.foldl, RefSt.dec, setField_0, setField_1, setField_2, setField_3, setField_4,
      addField_of_addD _ _ _ hc, addField_of_addD _ _ _ hs, addField_of_addD _ _ _ hl, addField_of_addD _ _ _ ho,
      addField_of_addD _ _ _ hn], rfl⟩

theorem ref_line (segs : List (List VField)) : ∀ (st : RefSt) (g : Nat) (st' : RefSt) (ms : List Mapping),
    refLine st g segs = some (st', ms) →
    ∃ dp, (lineSegs (st.dec g 0) segs).1 = st'.dec g dp ∧ (lineSegs (st.dec g 0) segs).2 ++ (st'.dec g dp).pending = ms := by
  induction segs with
  | nil => intro st g st' ms h; cases h; exact ⟨0, rfl, rfl⟩
  | cons seg rest ih =>
    intro st g st' ms h
    simp only [refLine, Option.bind_eq_some_iff, Option.map_eq_some_iff] at h
    obtain ⟨⟨st1, m1⟩, h1, ⟨st2, m2⟩, h2, he⟩ := h
    cases he
    obtain ⟨dp, a, b⟩ := ref_segment st g seg st1 m1 h1
    cases rest with
    | nil => cases h2; exact ⟨dp, a, by rw [List.append_nil]; exact b⟩
    | cons seg2 rest2 =>
      obtain ⟨dp2, i1, i2⟩ := ih st1 g st2 m2 h2
      simp only [lineSegs, a, RefSt.dec_comma]
      exact ⟨dp2, i1, by rw [List.append_assoc, i2, b]⟩

theorem ref_all (lns : List (List (List VField))) : ∀ (st : RefSt) (g : Nat) (ms : List Mapping),
    refAll st g lns = some ms →
    (allLines (st.dec g 0) lns).2 ++ (allLines (st.dec g 0) lns).1.pending = ms := by
  induction lns with
  | nil => intro _ _ _ h; cases h; rfl
  | cons ln rest ih =>
    intro st g ms h
    simp only [refAll, Option.bind_eq_some_iff, Option.map_eq_some_iff] at h
    obtain ⟨⟨st1, m1⟩, h1, m2, h2, he⟩ := h
    subst he
    obtain ⟨dp, a, b⟩ := ref_line ln st g st1 m1 h1
    cases rest with
    | nil => cases h2; simp only [allLines, a, List.append_nil, b]
    | cons ln2 rest2 =>
      have := ih { st1 with col := 0 } (g + 1) m2 h2
      simp only [allLines, a, RefSt.dec_semi]
      rw [List.append_assoc, this, b]

end Rs
