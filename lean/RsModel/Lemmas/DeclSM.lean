import RsModel.Lemmas.Decl
import RsModel.Lemmas.SMWalk
/-! # DeclOK for the map-driven splitters (all four modes)

The stream is the announcements of the map's tables, in order, and then chunks only (`declOK_header`; without columns no names
are announced and the chunks carry none, `declOK_header_lines`), so all that is asked is that the segments of the map use indices
inside its tables (`MapIdxOK`). -/
namespace Rs

def MapIdxOK (sm : SMap) : Prop := ∀ m ∈ decode sm.mappings, ∀ o, m.orig = some o → IdxLt sm.sources.length sm.names.length o

theorem sourceEvs_decl (f : Nat → Text) (g : Nat → Option Text) : ∀ (n s nn : Nat),
    DeclOK s nn ((List.range' s n).map fun i => Ev.source i (f i) (g i)) ∧ cntS ((List.range' s n).map fun i => Ev.source i (f i) (g i)) = n
    ∧ cntN ((List.range' s n).map fun i => Ev.source i (f i) (g i)) = 0 := by
  intro n
  induction n with
  | zero => intro s nn; exact ⟨trivial, rfl, rfl⟩
  | succ n ih =>
    intro s nn
    obtain ⟨a, b, c⟩ := ih (s + 1) nn
    simp only [List.range'_succ, List.map_cons, DeclOK, cntS, cntN]
    exact ⟨⟨trivial, a⟩, by omega, c⟩

theorem nameEvs_decl (f : Nat → Text) : ∀ (n ns s : Nat),
    DeclOK ns s ((List.range' s n).map fun i => Ev.name i (f i)) ∧ cntS ((List.range' s n).map fun i => Ev.name i (f i)) = 0
    ∧ cntN ((List.range' s n).map fun i => Ev.name i (f i)) = n := by
  intro n
  induction n with
  | zero => intro ns s; exact ⟨trivial, rfl, rfl⟩
  | succ n ih =>
    intro ns s
    obtain ⟨a, b, c⟩ := ih ns (s + 1)
    simp only [List.range'_succ, List.map_cons, DeclOK, cntS, cntN]
    exact ⟨⟨trivial, a⟩, b, by omega⟩

theorem smSourceEvs_decl (sm : SMap) (nn : Nat) :
    DeclOK 0 nn (smSourceEvs sm) ∧ cntS (smSourceEvs sm) = sm.sources.length ∧ cntN (smSourceEvs sm) = 0 := by
  unfold smSourceEvs
  rw [List.range_eq_range']
  exact sourceEvs_decl _ _ _ 0 nn

theorem smNameEvs_decl (sm : SMap) (ns : Nat) :
    DeclOK ns 0 (smNameEvs sm) ∧ cntS (smNameEvs sm) = 0 ∧ cntN (smNameEvs sm) = sm.names.length := by
  unfold smNameEvs
  rw [List.range_eq_range']
  exact nameEvs_decl _ _ ns 0


theorem smWholeLines_origs (P : Orig → Prop) (lines : List Text) (a b : Nat) : ChunkOrigs P (smWholeLines lines a b) := by
  intro e he
  simp only [smWholeLines, List.mem_flatten, List.mem_map, List.mem_range] at he
  obtain ⟨l, ⟨k, _, rfl⟩, he⟩ := he
  split at he
  · simp only [List.mem_singleton] at he
    exact ⟨_, _, he, fun o ho => by cases ho⟩
  · simp at he

theorem smFullGo_origs (P : Orig → Prop) (lines : List Text) (fl fc : Nat) : ∀ (ms : List Mapping) (s : FullSt),
    (∀ o, s.orig = some o → P o) → (∀ m ∈ ms, ∀ o, m.orig = some o → P o) → ChunkOrigs P (smFullGo lines fl fc s ms) := by
  intro ms s hs hm e he
  obtain ⟨l, c, t, o, rfl, _, _, ho⟩ := smFullGo_mem lines (fun o => ∀ x, o = some x → P x) fl fc ms s hs hm e he
  refine ⟨_, _, rfl, fun x hx => ?_⟩
  rcases ho with rfl | ⟨_, ho⟩
  · cases hx
  · exact ho x hx

theorem smFinalGo_origs (P : Orig → Prop) (r : Info) (ms : List Mapping) (act : Nat)
    (h : ∀ m ∈ ms, ∀ o, m.orig = some o → P o) : ChunkOrigs P (smFinalGo r act ms) := fun _ he =>
  let ⟨m, hm, e, _⟩ := smFinalGo_mem he
  ⟨_, _, e, h m hm⟩

theorem declOK_header (sm : SMap) (evs : List Ev) (h : ChunkOrigs (IdxLt sm.sources.length sm.names.length) evs) :
    DeclOK 0 0 (smSourceEvs sm ++ smNameEvs sm ++ evs) := by
  obtain ⟨s1, s2, s3⟩ := smSourceEvs_decl sm 0
  obtain ⟨n1, n2, n3⟩ := smNameEvs_decl sm sm.sources.length
  rw [declOK_append, declOK_append, cntS_append, cntN_append, s2, s3, n2, n3]
  exact ⟨⟨s1, by rw [Nat.zero_add]; exact n1⟩, by simp only [Nat.zero_add, Nat.add_zero]; exact declOK_chunks _ _ _ h⟩

theorem declOK_header_lines (sm : SMap) (evs : List Ev) (h : ChunkOrigs (IdxLt sm.sources.length 0) evs) :
    DeclOK 0 0 (smSourceEvs sm ++ evs) := by
  obtain ⟨s1, s2, s3⟩ := smSourceEvs_decl sm 0
  rw [declOK_append, s2, s3]
  exact ⟨s1, by rw [Nat.zero_add]; exact declOK_chunks _ _ _ h⟩

theorem streamSM_declOK (t : Text) (sm : SMap) (o : Opts) (h : MapIdxOK sm) : DeclOK 0 0 (streamSM t sm o).evs := by
  have hidx : ∀ m ∈ decode sm.mappings, ∀ o, m.orig = some o → IdxLt sm.sources.length 0 { o with name := none } :=
    fun m hm o ho => ⟨(h m hm o ho).1, nofun⟩
  unfold streamSM
  rcases o with ⟨c, f⟩
  cases c <;> cases f <;> dsimp only
  · unfold streamSMLinesFull
    dsimp only
    split
    · trivial
    · rw [List.append_assoc, smLinesFull_eq _ _ 1 (Nat.le_refl 1)]
      exact declOK_header_lines sm _ (lineEvs_origs _ (fun _ _ hg => (smLineOrig_some _ hidx hg).2.2) _ _)
  · unfold streamSMLinesFinal
    dsimp only
    split
    · trivial
    · rw [smLinesFinalGo_eq]
      exact declOK_header_lines sm _ (mappedLines_origs _ (fun _ _ hg => (smLineOrig_some _ hidx hg).2.2) _ _)
  · unfold streamSMFull
    dsimp only
    split
    · trivial
    · refine declOK_header sm _ (smFullGo_origs _ _ _ _ _ _ (fun _ ho => nomatch ho) fun m hm => ?_)
      rcases List.mem_append.1 hm with hm | hm
      · exact h m hm
      · rw [List.mem_singleton.1 hm]; exact fun _ ho => nomatch ho
  · unfold streamSMFinal
    dsimp only
    split
    · trivial
    · exact declOK_header sm _ (smFinalGo_origs _ _ _ _ h)

instance (sm : SMap) : Decidable (MapIdxOK sm) := by unfold MapIdxOK; infer_instance

end Rs
