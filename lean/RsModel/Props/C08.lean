import RsModel.Model.Stream
import RsModel.Lemmas.AttrSM
import RsModel.Lemmas.ModeLeaves
import RsModel.Lemmas.LinesSM
import RsModel.Lemmas.SMNames
import RsModel.Lemmas.AttrConcat
/-!
# C08 — a SourceMapSource reproduces the attribution of the map it was given
-/
namespace Rs

/-- `sourceRoot` is applied in exactly three ways: absent or empty → unchanged, ending in '/' → prefixed,
otherwise → prefixed with a '/' in between -/
theorem c08_apply_root (root source : Text) :
    applyRoot none source = source ∧ applyRoot (some []) source = source
    ∧ (root ≠ [] → root.getLast? = some 47 → applyRoot (some root) source = root ++ source)
    ∧ (root ≠ [] → root.getLast? ≠ some 47 → applyRoot (some root) source = root ++ [47] ++ source) :=
  -- `applyRoot.eq_3`: the defining clause for a root that is not empty
  ⟨rfl, rfl, fun h1 h2 => by rw [applyRoot.eq_3 _ _ h1, h2, if_pos (beq_self_eq_true _)],
    fun h1 h2 => by rw [applyRoot.eq_3 _ _ h1, if_neg (mt beq_iff_eq.1 h2)]⟩

/-- the sources announced are exactly those of the map, in order, with `sourceRoot` applied and with the
map's `sourcesContent` entry (absent when the map has none for that index) -/
theorem c08_declared_sources (m : SMap) :
    (smSourceEvs m).length = m.sources.length ∧
    ∀ i, i < m.sources.length →
      (smSourceEvs m)[i]? = some (.source i (applyRoot m.sourceRoot (m.sources.getD i [])) (m.sourcesContent[i]?)) :=
  ⟨by rw [smSourceEvs, List.length_map, List.length_range],
    fun i hi => by rw [smSourceEvs, List.getElem?_map, List.getElem?_range hi]; rfl⟩

/-- the names announced are exactly those of the map, in order -/
theorem c08_declared_names (m : SMap) :
    (smNameEvs m).length = m.names.length ∧
    ∀ i, i < m.names.length → (smNameEvs m)[i]? = some (.name i (m.names.getD i [])) :=
  ⟨by rw [smNameEvs, List.length_map, List.length_range],
    fun i hi => by rw [smNameEvs, List.getElem?_map, List.getElem?_range hi]; rfl⟩

/-- the user-defined source served by `stream_chunks_default` takes the very same code path -/
theorem c08_custom_source (t : Text) (m : SMap) (o : Opts) : streamDefault t (some m) o = streamSM t m o := rfl

example : applyRoot (some [114]) [97] = [114, 47, 97] := by decide +kernel


/-- **C08, columns = true**: streaming a SourceMapSource (no inner map) built from an ASCII text `T` and a map `M` whose segments are
sorted and lie inside `T` attributes *every byte* of `T` — through the `orig` of the chunk that covers it — to exactly the original
location (source index, line, column, name index) that looking the byte's position up in `M` gives ("greatest segment at or before
the position on that line"; unmapped 1-field segments, several segments per line or per position, empty lines, maps covering only
part of `T` and zero-width segments at the end of a line included).  Together with `c08_declared_sources` / `c08_declared_names`
(the indices are announced exactly as `M` declares them, `sourceRoot` applied) this is the attribution clause of the property. -/
theorem c08_attribution (t : Text) (sm : SMap) (ha : IsAscii t) (hl : t.length ≤ USIZE_MAX) (hsorted : sortedFrom 1 0 (decode sm.mappings))
    (hseg : ∀ m ∈ decode sm.mappings, SegOK (splitLines t) (adv startPos t).line (adv startPos t).col m) :
    attrOf (streamSM t sm ⟨true, false⟩).evs = attrFrom (decode sm.mappings) startPos t :=
  streamSMFull_attr t sm ha hl hsorted hseg

/-- non-vacuity: `"ab;cd\nef"` with `AAAA,GAAG;AACA`: the hypotheses hold and the middle segment attributes `cd` -/
example : let t : Text := [97, 98, 59, 99, 100, 10, 101, 102]
    sortedFrom 1 0 (decode [65, 65, 65, 65, 44, 71, 65, 65, 71, 59, 65, 65, 67, 65])
    ∧ (∀ m ∈ decode [65, 65, 65, 65, 44, 71, 65, 65, 71, 59, 65, 65, 67, 65], SegOK (splitLines t) (adv startPos t).line (adv startPos t).col m)
    ∧ attrFrom (decode [65, 65, 65, 65, 44, 71, 65, 65, 71, 59, 65, 65, 67, 65]) startPos t
        = [some ⟨0, 1, 0, none⟩, some ⟨0, 1, 0, none⟩, some ⟨0, 1, 0, none⟩, some ⟨0, 1, 3, none⟩, some ⟨0, 1, 3, none⟩, some ⟨0, 1, 3, none⟩,
           some ⟨0, 2, 3, none⟩, some ⟨0, 2, 3, none⟩] := by
  decide +kernel


/-- **C08, columns = true, final_source = true**: in the text-less stream (what `map()` of the source itself and of every
enclosing source consumes) the chunk mappings, read as segments, resolve the position of *every character* of `T` to exactly what
looking that position up in `M` gives.  Segments at or beyond the end of `T` are not delivered; an unmapped segment is delivered
only after a mapped one on its line — neither changes any lookup.  Only sortedness of `M` is needed. -/
theorem c08_final_attribution (t : Text) (sm : SMap) (hs : sortedFrom 1 0 (decode sm.mappings)) :
    ∀ j, j < t.length →
      lookupCols (chunkMs (streamSM t sm ⟨true, true⟩).evs) (adv startPos (t.take j)).line (adv startPos (t.take j)).col
        = lookupCols (decode sm.mappings) (adv startPos (t.take j)).line (adv startPos (t.take j)).col :=
  streamSMFinal_lookEq t sm hs

/-- text-less and normal stream of a SourceMapSource attribute every character alike (columns = true) -/
theorem c08_modes_agree (t : Text) (sm : SMap) (ha : IsAscii t) (hl : t.length ≤ USIZE_MAX) (hs : sortedFrom 1 0 (decode sm.mappings))
    (hseg : ∀ m ∈ decode sm.mappings, SegOK (splitLines t) (adv startPos t).line (adv startPos t).col m) :
    LookEq t (chunkMs (streamSM t sm ⟨true, true⟩).evs) (chunkMs (streamSM t sm ⟨true, false⟩).evs) :=
  streamSM_lookEq t sm ha hl hs hseg


/-- **C08, columns = false, both modes**: for every generated line `L` of the text, the first mapped chunk the splitter delivers on
`L` points to the source index and original line of the first mapped segment of `M` on `L` — and no chunk on `L` is mapped when
`M` has no mapped segment there; for every sorted map, whatever its columns. -/
theorem c08_lines (t : Text) (sm : SMap) (final : Bool) (hs : sortedFrom 1 0 (decode sm.mappings)) (L : Nat) (h1 : 1 ≤ L) (hL : L ≤ (splitLines t).length) :
    lookupLines (chunkMs (streamSM t sm ⟨false, final⟩).evs) L = lookupLines (decode sm.mappings) L := by
  cases final
  · exact streamSMLinesFull_lines t sm hs L h1 hL
  · exact streamSMLinesFinal_lines t sm hs L h1 hL

/-- … and names are dropped -/
theorem c08_lines_no_names (t : Text) (sm : SMap) (final : Bool) :
    ∀ m ∈ chunkMs (streamSM t sm ⟨false, final⟩).evs, ∀ o, m.orig = some o → o.name = none :=
  smLines_noNames t sm final


/-- **C08 at name level** (columns = true, normal mode): every byte of the stream of a SourceMapSource resolves — through the
sources and names the stream itself announces — to the file name with `sourceRoot` applied, the file's content, the original line
and column and the name that looking the byte's position up in `M` and resolving the indices through `M`'s own tables gives -/
theorem c08_names (t : Text) (sm : SMap) (ha : IsAscii t) (hl : t.length ≤ USIZE_MAX) (hsorted : sortedFrom 1 0 (decode sm.mappings))
    (hseg : ∀ m ∈ decode sm.mappings, SegOK (splitLines t) (adv startPos t).line (adv startPos t).col m) (hidx : MapIdxOK sm) :
    attrN emptyS emptyN (streamSM t sm ⟨true, false⟩).evs = (attrFrom (decode sm.mappings) startPos t).map (Option.map (resolveSM sm)) :=
  streamSM_attrN t sm ha hl hsorted hseg hidx

/-- **… and through an enclosing ConcatSource**: in the stream of a ConcatSource whose children are `pre`, the SourceMapSource,
and `post` (any streams, each announcing before use, one content per file name), the bytes contributed by the SourceMapSource are
attributed — file name, content, line, column, name — exactly as looking their positions up in `M` gives, and the bytes of the
other children as those children attribute them.  (C06 ∘ `c08_names`; `map()` of the ConcatSource then resolves them alike: C03,
`getMap_names`.) -/
theorem c08_through_concat (cons : Text → Option Text) (pre post : List SResult) (t : Text) (sm : SMap)
    (ha : IsAscii t) (hl : t.length ≤ USIZE_MAX) (hsorted : sortedFrom 1 0 (decode sm.mappings))
    (hseg : ∀ m ∈ decode sm.mappings, SegOK (splitLines t) (adv startPos t).line (adv startPos t).col m) (hidx : MapIdxOK sm)
    (hwd : ∀ c ∈ pre ++ [streamSM t sm ⟨true, false⟩] ++ post, WellDecl cons emptyS emptyN c.evs ∧ evsTL c.evs = false) :
    attrN emptyS emptyN (concatStream false (pre ++ [streamSM t sm ⟨true, false⟩] ++ post)).evs
      = (pre.map fun c => attrN emptyS emptyN c.evs).flatten
        ++ (attrFrom (decode sm.mappings) startPos t).map (Option.map (resolveSM sm))
        ++ (post.map fun c => attrN emptyS emptyN c.evs).flatten := by
  rw [concatStream_attrN cons _ hwd]
  simp only [List.map_append, List.map_cons, List.map_nil, List.flatten_append, List.flatten_cons, List.flatten_nil, List.append_nil]
  rw [streamSM_attrN t sm ha hl hsorted hseg hidx]

end Rs
