import RsModel.Lemmas.Replace
/-!
# C05 — ReplaceSource text equals the reference replacement model
-/
namespace Rs

/-- the order in which replacements are applied: (start, end, enforce), ties by insertion order
(Lean's stable `mergeSort`; `List.mergeSort_zipIdx` says breaking ties by index changes nothing) -/
theorem c05_sort (rs : List Repl) : sortRepls rs = rs.mergeSort Repl.le := sortRepls_eq_mergeSort rs

/-- `source()` of a ReplaceSource over inner text `inner` with replacements `rs` (in call order) is the
reference model applied to `inner` -/
theorem c05_source (inner : Text) (rs : List Repl) : replaceSource inner rs = applyRepls inner rs :=
  replaceSource_eq_applyRepls inner rs

/-- history independence: after any sequence of mutating calls, observer calls and clones,
`source()` is the reference model applied to the mutating calls alone -/
theorem c05_history (inner : Text) (ops : List ROp) :
    (ops.foldl RState.step {}).source inner = applyRepls inner (histRepls ops) := by
  have hinit : ({} : RState).Inv := fun _ => rfl
  obtain ⟨h1, h2⟩ := RState.run_inv ops {} hinit
  rw [RState.source_of_inv inner _ h1, h2, replaceSource_eq_applyRepls]
  rfl

/-- in particular two histories with the same mutating calls give the same text -/
theorem c05_observers_irrelevant (inner : Text) (ops₁ ops₂ : List ROp) (h : histRepls ops₁ = histRepls ops₂) :
    (ops₁.foldl RState.step {}).source inner = (ops₂.foldl RState.step {}).source inner := by
  rw [c05_history, c05_history, h]

/-! non-vacuity: colliding keys, an observer between two mutators, a clone -/
def c05_r1 : Repl := ⟨1, 2, [88], none, 1⟩
def c05_r2 : Repl := ⟨1, 2, [89], none, 0⟩
example : histRepls [.replace c05_r1, .observe, .replace c05_r2, .clone, .observe] = [c05_r1, c05_r2] := by decide +kernel
example : sortRepls [c05_r1, c05_r2] = [c05_r2, c05_r1] := by decide +kernel
example : replaceSource [97, 98, 99] [c05_r1, c05_r2] = [97, 89, 88, 99] := by decide +kernel

end Rs
