import RsModel.Model.Tree
import RsModel.Lemmas.RopeTree
/-!
# C07 — all content views of a source agree

Clause of the property → theorem:
* `rope()` renders to `source()` → `c07_rope`
* `size()` is `buffer().len()` → `c07_size`
* `to_writer()` writes `buffer()`; a writer that fails gets a prefix of it → `c07_to_writer`, `c07_failing_writer` (from `Src.toWriter_eq`)
* valid UTF-8 in every leaf: `buffer()` is the bytes of `source()` → `c07_utf8`; a binary leaf → `c07_binary`
* ConcatSource concatenates its children's views → `c07_concat`
-/
namespace Rs

mutual
/-- `size()` equals `buffer().len()` for every tree -/
theorem Src.size_eq_buffer : (s : Src) → s.size = s.buffer.length
  | .raw .. | .rawStr .. | .rawBuf .. | .orig .. | .sms .. | .replace .. => rfl
  | .concat cs => SrcList.sizes_eq_buffers cs
  | .cached _ inner => Src.size_eq_buffer inner
theorem SrcList.sizes_eq_buffers : (l : SrcList) → l.sizes = l.buffers.length
  | .nil => rfl
  | .cons s r => by
    rw [SrcList.sizes, SrcList.buffers, List.length_append, Src.size_eq_buffer s, SrcList.sizes_eq_buffers r]
end

theorem c07_size (s : Src) : s.size = s.buffer.length := Src.size_eq_buffer s

theorem writeAll_ok (b : Nat) (w d : Text) (h : d.length ≤ b) : writeAll b w d = (true, b - d.length, w ++ d) := by
  simp [writeAll, h]

theorem writeAll_fail (b : Nat) (w d : Text) (h : b < d.length) : (writeAll b w d).1 = false := by
  unfold writeAll
  rw [if_neg (Nat.not_le.2 h)]

theorem writeAll_prefix (b : Nat) (w d : Text) : ∃ x, (writeAll b w d).2.2 = w ++ x ∧ x <+: d := by
  unfold writeAll; split
  · exact ⟨d, rfl, List.prefix_refl d⟩
  · exact ⟨d.take b, rfl, List.take_prefix b d⟩

theorem writeAll_append (b : Nat) (w d e : Text) :
    (match writeAll b w d with
      | (true, b', w') => writeAll b' w' e
      | x => x) = writeAll b w (d ++ e) := by
  unfold writeAll
  by_cases h : d.length ≤ b
  · rw [if_pos h]
    simp only [List.length_append, List.append_assoc]
    by_cases h2 : e.length ≤ b - d.length
    · rw [if_pos h2, if_pos (by omega), Nat.sub_sub]
    · rw [if_neg h2, if_neg (by omega), List.take_append, List.take_of_length_le h]
  · rw [if_neg h, if_neg (by rw [List.length_append]; omega), List.take_append_of_le_length (by omega)]

mutual
/-- **`to_writer` is one `write_all` of `buffer()`**, whatever the writer's budget: on success and on failure the flag,
the remaining budget and the bytes written are those of writing `buffer()` at once -/
theorem Src.toWriter_eq : (s : Src) → (b : Nat) → (w : Text) → s.toWriter b w = writeAll b w s.buffer
  | .raw .. | .rawStr .. | .rawBuf .. | .orig .. | .sms .. | .replace .. => fun _ _ => rfl
  | .concat cs => SrcList.toWriters_eq cs
  | .cached _ inner => Src.toWriter_eq inner
theorem SrcList.toWriters_eq : (l : SrcList) → (b : Nat) → (w : Text) → l.toWriters b w = writeAll b w l.buffers
  | .nil => fun b w => by simp [SrcList.toWriters, SrcList.buffers, writeAll]
  | .cons s r => fun b w => by
    rw [SrcList.toWriters, SrcList.buffers, ← writeAll_append, Src.toWriter_eq s b w]
    rcases writeAll b w s.buffer with ⟨ok, b', w'⟩
    cases ok
    · rfl
    · exact SrcList.toWriters_eq r b' w'
end

theorem Src.toWriter_ok (s : Src) (b : Nat) (w : Text) (h : s.buffer.length ≤ b) :
    s.toWriter b w = (true, b - s.buffer.length, w ++ s.buffer) := by
  rw [Src.toWriter_eq, writeAll_ok b w _ h]

theorem SrcList.toWriters_ok : (l : SrcList) → (b : Nat) → (w : Text) → l.buffers.length ≤ b →
    l.toWriters b w = (true, b - l.buffers.length, w ++ l.buffers) := by
  intro l b w h
  rw [SrcList.toWriters_eq, writeAll_ok b w _ h]

/-- `to_writer` into a writer that does not fail writes exactly `buffer()` -/
theorem c07_to_writer (s : Src) (b : Nat) (h : s.buffer.length ≤ b) :
    (s.toWriter b []).1 = true ∧ (s.toWriter b []).2.2 = s.buffer := by
  rw [Src.toWriter_ok s b [] h]; simp

theorem Src.toWriter_prefix (s : Src) (b : Nat) (w : Text) : ∃ x, (s.toWriter b w).2.2 = w ++ x ∧ x <+: s.buffer := by
  rw [Src.toWriter_eq]; exact writeAll_prefix b w _

theorem SrcList.toWriters_prefix : (l : SrcList) → (b : Nat) → (w : Text) →
    ∃ x, (l.toWriters b w).2.2 = w ++ x ∧ x <+: l.buffers := by
  intro l b w
  rw [SrcList.toWriters_eq]; exact writeAll_prefix b w _

theorem Src.toWriter_fail (s : Src) (b : Nat) (w : Text) (h : b < s.buffer.length) : (s.toWriter b w).1 = false := by
  rw [Src.toWriter_eq]; exact writeAll_fail b w _ h

theorem SrcList.toWriters_fail : (l : SrcList) → (b : Nat) → (w : Text) → b < l.buffers.length → (l.toWriters b w).1 = false := by
  intro l b w h
  rw [SrcList.toWriters_eq]; exact writeAll_fail b w _ h

/-- a writer failing after `k < len` bytes: `to_writer` returns the error having written a prefix of `buffer()` -/
theorem c07_failing_writer (s : Src) (k : Nat) (h : k < s.buffer.length) :
    (s.toWriter k []).1 = false ∧ (s.toWriter k []).2.2 <+: s.buffer := by
  refine ⟨Src.toWriter_fail s k [] h, ?_⟩
  obtain ⟨x, hx, px⟩ := Src.toWriter_prefix s k []
  rw [hx]; simpa using px

/-- a ConcatSource's source and buffer are the concatenations of its children's, in order -/
theorem c07_concat (cs : SrcList) : (Src.concat cs).src = cs.srcs ∧ (Src.concat cs).buffer = cs.buffers :=
  ⟨by simp [Src.src], by simp [Src.buffer]⟩

/-- binary leaf: `buffer()` is the exact bytes, `source()` their lossy decoding (std's, a parameter of the model) -/
theorem c07_binary (b l : Text) : (Src.rawBuf b l).buffer = b ∧ (Src.rawBuf b l).src = l := ⟨by simp [Src.buffer], by simp [Src.src]⟩

example : (Src.concat (.cons (.rawStr [97]) (.cons (.rawBuf [255] [239, 191, 189]) .nil))).size = 2 := by decide +kernel


/-- **`rope()` renders to `source()`** for every tree (all node kinds, any depth): it does not panic, and the rope it
returns stands for exactly the string `source()` returns.  `Src.RopeOK` = every text is a `&str` (does not start inside
a character) and the ends of every replacement, clamped to the wrapped text, are char boundaries of it — the property's
domain.  The proof goes through the binary searches and the piece cutting of `Rope::byte_slice` (`byteSlice_spec`). -/
theorem c07_rope (s : Src) (h : s.RopeOK) : ∃ r, s.rope = .ok r ∧ r.render = s.src :=
  let ⟨r, h1, h2, _⟩ := Src.rope_spec s h
  ⟨r, h1, h2⟩

/-- non-vacuity: a replacement across a two-child concat with a multi-byte character, one end beyond the text -/
example : (Src.replace (.concat (.cons (.rawStr [97, 0xC3, 0xA9]) (.cons (.orig [98, 99] [102]) .nil)))
    [⟨1, 3, [120], none, 1⟩, ⟨4, 99, [], none, 1⟩]).RopeOK := by
  simp only [Src.RopeOK, SrcList.RopeOKs]
  decide +kernel


mutual
/-- every leaf holds valid UTF-8: the lossy decoding of a buffer leaf is the buffer itself -/
def Src.Utf8Leaves : Src → Prop
  | .raw _ bytes lossy => bytes = lossy
  | .rawStr _ => True
  | .rawBuf bytes lossy => bytes = lossy
  | .orig _ _ => True
  | .sms _ _ _ _ _ _ => True
  | .concat cs => cs.Utf8Leavess
  | .replace inner _ => inner.Utf8Leaves
  | .cached _ inner => inner.Utf8Leaves
def SrcList.Utf8Leavess : SrcList → Prop
  | .nil => True
  | .cons s r => s.Utf8Leaves ∧ r.Utf8Leavess
end

mutual
theorem Src.buffer_eq_src : (s : Src) → s.Utf8Leaves → s.buffer = s.src
  | .raw .. | .rawBuf .. => id
  | .rawStr .. | .orig .. | .sms .. | .replace .. => fun _ => rfl
  | .concat cs => SrcList.buffers_eq_srcs cs
  | .cached _ inner => Src.buffer_eq_src inner
theorem SrcList.buffers_eq_srcs : (l : SrcList) → l.Utf8Leavess → l.buffers = l.srcs
  | .nil => fun _ => rfl
  | .cons s r => fun h => by
    rw [SrcList.buffers, Src.buffer_eq_src s h.1, SrcList.buffers_eq_srcs r h.2]
    rfl
end

/-- when every leaf holds valid UTF-8, `buffer()` is the bytes of `source()` -/
theorem c07_utf8 (s : Src) (h : s.Utf8Leaves) : s.buffer = s.src := Src.buffer_eq_src s h

end Rs
