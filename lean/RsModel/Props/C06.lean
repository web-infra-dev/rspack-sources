import RsModel.Model.Composite
import RsModel.Lemmas.AttrTree
import RsModel.Lemmas.ReplaceKeeps
import RsModel.Lemmas.ReplaceAdvance
import RsModel.Lemmas.ReplaceNames
import RsModel.Lemmas.EraseContent
/-!
# C06 — composites preserve what their children attribute
-/
namespace Rs

/-- `LinearMap::insert` then `get` of the same key returns the inserted value -/
theorem c06_linear_map_get_insert {α} (d : α) (m : List α) (k : Nat) (v : α) : (lmInsert d m k v)[k]? = some v :=
  lmInsert_get_self d m k v

/-- … and leaves every other declared key as it was -/
theorem c06_linear_map_get_other {α} (d : α) (m : List α) (k j : Nat) (v : α) (hj : j < m.length) (hne : j ≠ k) :
    (lmInsert d m k v)[j]? = m[j]? :=
  lmInsert_get_other d m k j v hj hne

/-- an index that was never declared is not translated (`get` beyond the table is `None`): the chunk then
counts as unmapped instead of aliasing source 0 -/
theorem c06_undeclared_is_none (m : List Nat) (j : Nat) (h : m.length ≤ j) : m[j]? = none := by
  simp [h]

/-- ConcatSource forwards a child's chunk text unchanged in normal mode -/
theorem c06_concat_chunk_text (st : CSt) (text : Option Text) (m : Mapping) :
    ∃ close out, (concatEv false st (.chunk text m)).2 = close ++ [out] ∧ out.text = (Ev.chunk text m).text
      ∧ (∀ e ∈ close, e.text = []) := by
  rw [concatEv_chunk]
  exact ⟨_, _, rfl, by cases text <;> rfl, fun e he => (CSt.mem_pending he).1 ▸ rfl⟩

/-! ## ConcatSource: attribution of every byte is the child's own (PARTIAL: ConcatSource only, normal mode)

`attrN` resolves, for every byte of the delivered text, the chunk's original location through the tables the stream
itself announced (`on_source` / `on_name` events): file name, embedded content, original line and column, and name.
The hypothesis `WellDecl` is C11's "announced before used" for the child streams together with "one content per
file name" (`cons`): a ConcatSource deduplicates sources by name and keeps the first content. -/

/-- stream level: every byte contributed by child k is attributed exactly as child k attributes it on its own
(file name, embedded content, line, column and name), and nothing else is added. -/
theorem c06_concat (cons : Text → Option Text) (children : List SResult)
    (h : ∀ c ∈ children, WellDecl cons emptyS emptyN c.evs ∧ evsTL c.evs = false) :
    attrN emptyS emptyN (concatStream false children).evs = (children.map fun c => attrN emptyS emptyN c.evs).flatten :=
  concatStream_attrN cons children h

/-- … and what the ConcatSource delivers is again well declared, so the law composes through nesting -/
theorem c06_concat_well_declared (cons : Text → Option Text) (children : List SResult)
    (h : ∀ c ∈ children, WellDecl cons emptyS emptyN c.evs ∧ evsTL c.evs = false) :
    WellDecl cons emptyS emptyN (concatStream false children).evs :=
  concatStream_wellDecl cons children h

/-- tree level, any nesting of ConcatSource over Raw / Original / (well-declared) SourceMapSource leaves -/
theorem c06_concat_tree (cons : Text → Option Text) (c : Bool) (cs : SrcList) (h : SrcList.WD cons c cs) (σ : Store) :
    (Src.concat cs).attr c σ = ((cs.streams ⟨c, false⟩ σ).1.map fun r => attrN emptyS emptyN r.evs).flatten :=
  Src.attr_concat cons c cs h σ

/-- a ReplaceSource child is covered by the law: it keeps "announced before use, densely" (C11) and passes the announcements of its
inner stream through unchanged, so it is well declared whenever its inner tree is -/
theorem c06_replace_well_declared (cons : Text → Option Text) (sorted : List Repl) (inner : SResult)
    (hw : WellDecl cons emptyS emptyN inner.evs) (hd : DeclOK 0 0 inner.evs) :
    WellDecl cons emptyS emptyN (replaceStream sorted inner).evs :=
  replaceStream_wellDecl cons sorted inner hw hd

/-- the hypotheses are satisfiable: two OriginalSources with different names and a RawSource -/
example : SrcList.WD (fun n => if n = [97] then some [120, 10, 121] else some [122]) true
    (.cons (.orig [120, 10, 121] [97]) (.cons (.rawStr [59]) (.cons (.orig [122] [98]) .nil))) := by
  simp [SrcList.WD, Src.WD]


/-! ## ReplaceSource: what survives of the inner attribution -/

/-- per inner chunk: everything delivered while the inner chunk `(chunk, m)` is processed — pieces of its text and replacement
content spliced into it — is unmapped if `m` is unmapped and otherwise keeps `m`'s source index and original line; its column is
never before `m`'s column and equals it when no content is recorded for that source (the column advances only where the recorded
original content equals the preceding text) -/
theorem c06_replace_chunk (st : RSt) (chunk : Text) (m : Mapping) :
    ∀ t mm, Ev.chunk t mm ∈ (rOnChunk st chunk m).2 →
      (m.orig = none → mm.orig = none) ∧ ∀ y, mm.orig = some y → ∃ x, m.orig = some x ∧ y.src = x.src ∧ y.line = x.line ∧ x.col ≤ y.col
        ∧ ((∀ c, st.contents[x.src]? ≠ some (some c)) → y.col = x.col) :=
  rOnChunk_keeps st chunk m

/-- whole stream, any inner stream, any sorted replacement list: every delivered chunk is unmapped (trailing replacement content,
or text of an unmapped inner chunk) or keeps source index and original line of an inner chunk with a column not before it; the
sources are announced exactly as the inner stream announces them, so the index means the same file with the same content -/
theorem c06_replace_stream (sorted : List Repl) (inner : SResult) :
    (∀ t' mm, Ev.chunk t' mm ∈ (replaceStream sorted inner).evs → mm.orig = none ∨ ∃ t m, Ev.chunk t m ∈ inner.evs ∧ KeepsW m.orig mm.orig)
    ∧ ∀ i s c, Ev.source i s c ∈ (replaceStream sorted inner).evs ↔ Ev.source i s c ∈ inner.evs :=
  replaceStream_keeps sorted inner


/-- **the advance rule** ("advanced by the length of the preceding text of that segment where the recorded original content
equals that text"): while the inner chunk `(chunk, m)` with original location `a` is processed and `check_original_content`
succeeds wherever it is asked (`FM`: the recorded content, read from `a`, spells out the chunk), every delivered chunk — the piece
`chunk[p..q)` of the inner text, or a line of the content of one of the pending replacements, spliced in at `p` — reports `a`'s source index and original line and exactly the column
`a.col + p`, `p < |chunk|` being the byte offset in the inner chunk at which the piece was cut or the content spliced in.
Together with `c06_replace_chunk` (no recorded content ⇒ no advance at all; never before `a.col`) this is the column rule. -/
theorem c06_replace_advance (st : RSt) (chunk : Text) (hne : chunk ≠ []) (m : Mapping) (a : Orig) (hm : m.orig = some a) (hfm : FM st.contents a chunk) :
    ∀ t mm, Ev.chunk t mm ∈ (rOnChunk st chunk m).2 →
      ∃ p, p < chunk.length ∧ (∃ y, mm.orig = some y ∧ y.src = a.src ∧ y.line = a.line ∧ y.col = a.col + p)
        ∧ ((∃ q, p < q ∧ q ≤ chunk.length ∧ t = some (bsub chunk p q))
           ∨ (∃ r ∈ st.rest, ∃ cl ∈ splitLines r.content, t = some cl)) :=
  rOnChunk_adv st chunk hne m a hm hfm

/-- **C06, ReplaceSource, names**: a chunk a ReplaceSource delivers with a name carries — through the names the ReplaceSource itself
announces — either the name the inner stream announced for the inner chunk it was cut from (or its replacement content was spliced
into), or the name given with one of the replacements.  (Invariant `RN` on `name_mapping` / `name_index_mapping`; the inner stream
announces its names before use, densely: C11.) -/
theorem c06_replace_names (sorted : List Repl) (inner : SResult) (hd : DeclOK 0 0 inner.evs) :
    ∀ t' mm, Ev.chunk t' mm ∈ (replaceStream sorted inner).evs → ∀ y, mm.orig = some y → ∀ k, y.name = some k →
      (∃ t m a i, Ev.chunk t m ∈ inner.evs ∧ m.orig = some a ∧ a.name = some i
          ∧ (annN (replaceStream sorted inner).evs)[k]? = (annN inner.evs)[i]? ∧ i < (annN inner.evs).length)
      ∨ (∃ r ∈ sorted, ∃ nm, r.name = some nm ∧ (annN (replaceStream sorted inner).evs)[k]? = some nm) :=
  replaceStream_names sorted inner hd

/-- non-vacuity: replacing `b` in `a b` (an OriginalSource has no names) by `X` with the name `nm` delivers `X` under a name index that the
ReplaceSource announces as `nm` -/
example : annN (replaceStream (sortRepls [⟨2, 3, [88], some [110, 109], 1⟩]) (streamOriginal [97, 32, 98] [102] ⟨true, false⟩)).evs = [[110, 109]] := by decide +kernel


/-- **C06, ReplaceSource, the exact name of replacement content**: the first line of a replacement's content carries the name
given with the replacement — resolved through the ReplaceSource's own announcements — whenever the replacement has one and the
spot it is spliced into is mapped; otherwise it carries the name of the inner segment it is spliced into (the walker's
`l.orig.name`, which is the inner chunk's name: `Moved`), translated by `name_index_mapping` (which `RN`
shows resolves to the inner stream's name).  (`rName` is the code that computes `replacement_name_index` in replace_source.rs.) -/
theorem c06_replacement_name_exact (RNs : List Text) (r : Repl) (st : RSt) (l : LSt) (N IN : List Text) (h : RN RNs st N IN) :
    (∀ nm x, r.name = some nm → l.orig = some x →
        (N ++ annN (rName r st l).2.1)[(rName r st l).2.2.getD 0]? = some nm ∧ ((rName r st l).2.2).isSome = true)
    ∧ ((r.name = none ∨ l.orig = none) → (rName r st l).2.2 = (l.orig.bind (·.name)).bind fun n => st.nim[n]?) := by
  constructor
  · intro nm x hnm hx
    unfold rName
    rw [hnm, hx]
    simp only []
    rw [h.nm]
    exact ⟨(globalName_spec N nm 0).2.2.2, rfl⟩
  · intro hno
    unfold rName
    rcases hno with hno | hno
    · rw [hno]
    · rw [hno]; cases r.name <;> rfl

/-- … and only that first line carries it: the following lines of the content are delivered without a name (as in
webpack-sources; the property's "carries the name" is read for the segment the content starts with, which is what the oracle
evaluates) -/
theorem c06_replacement_name_first_line (gc : Nat) (orig : Option Orig) (cls : List Text) (nameIdx : Option Nat) (st : RSt) (line : Int) :
    (chunkMs (emitContent gc orig cls nameIdx st line).2.1).map (fun m => m.orig.bind (·.name))
      = match cls with
        | [] => []
        | _ :: rest => (orig.bind fun _ => nameIdx) :: rest.map fun _ => none :=
  emitContent_names gc orig cls nameIdx st line


/-- **C06, ConcatSource at name level, no assumption on contents**: for *any* children — SourceMapSource, CachedSource replays,
ReplaceSource, nested ConcatSource — that merely announce their sources and names before use (C11) and deliver text, every byte
contributed by child k resolves, through the ConcatSource's announcements, to the same file name, original line, original column
and name as child k resolves it to on its own.  (`c06_concat` says the same *with* the embedded contents and needs "one content
per file name"; dropping the contents from the announcements commutes with ConcatSource, whose tables are keyed by name only:
`EraseContent.lean`.) -/
theorem c06_concat_names (cs : List SResult) (h : ∀ c ∈ cs, DeclOK 0 0 c.evs ∧ evsTL c.evs = false) :
    NA (concatStream false cs).evs = (cs.map fun c => NA c.evs).flatten :=
  concatStream_NA cs h

end Rs
