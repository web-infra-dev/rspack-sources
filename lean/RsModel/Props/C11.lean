import RsModel.Lemmas.Codec
import RsModel.Lemmas.DeclMap
import RsModel.Lemmas.ModeTree
import RsModel.Lemmas.StrictIn
import RsModel.Lemmas.StrictOrder
import RsModel.Lemmas.LinesTree
import RsModel.Lemmas.ReplaceOrig
import RsModel.Lemmas.WarmStrict
import RsModel.Lemmas.HistoryAnswers
import RsModel.Lemmas.WarmLinesF
import RsModel.Lemmas.Histories
/-!
# C11 — produced source maps and chunk streams are well-formed

Clause of the property → theorem:
* the mappings string has base64 characters, `,` and `;` only → `c11_encode_charset`
* streams announce before use, densely from zero → `c11_stream_decl` (trees, four modes), `c11_every_history_decl`; node by node
  `c11_concat_decl`, `c11_replace_decl`, `c11_sourcemap_decl`, `c11_combined_decl`
* source and name indices of a map lie inside its tables → `c11_map_indices`
* segments on lines ≥ 1, sorted, on positions of `source()`, before its end → `c11_map_positions`, `c11_map_before_end`
* strictly increasing → `c11_map_strict`; on warm caches `c11_map_twice_strict`, `c11_every_history_map_strict`
* columns = false → `c11_map_lines_strict`, `c11_every_history_map_lines_strict`
-/
namespace Rs

def isMapChar (b : UInt8) : Bool := Generated.b64Chars.contains b || b == COMMA || b == SEMI

theorem b64At_isMapChar : ∀ d, d < 64 → isMapChar (b64At d) = true := fun d h => by
  rw [isMapChar, List.contains_iff_mem.2 (b64At_mem h)]; rfl

theorem isMapChar_sep {x : UInt8} (h : x = COMMA ∨ x = SEMI) : isMapChar x = true := by
  simp only [isMapChar, Bool.or_eq_true, beq_iff_eq]
  exact h.elim (fun h => .inl (.inr h)) .inr

theorem vlqChars_charset (a b : Nat) : ∀ x ∈ vlqChars a b, isMapChar x = true := by
  intro x hx
  simp only [vlqChars, List.mem_map] at hx
  obtain ⟨d, hd, rfl⟩ := hx
  exact b64At_isMapChar d (vlqDigits_lt _ d hd)

theorem encFields_charset (e : EncSt) (m : Mapping) : ∀ x ∈ encFields e m, isMapChar x = true := by
  -- every field is written by `vlqChars`, whether the segment has 1, 4 or 5 of them
  have v := fun a b => List.all_eq_true.2 (vlqChars_charset a b)
  refine List.all_eq_true.1 ?_
  rw [encFields_eq, encFields']
  rcases m with ⟨_, _, _ | ⟨_, _, _, _ | _⟩⟩ <;> simp only [List.all_append, v, List.all_nil, Bool.and_self]

theorem encSep_charset (e : EncSt) (m : Mapping) : ∀ x ∈ encSep e m, isMapChar x = true := by
  fun_cases encSep e m with
  | case1 => exact fun x hx => isMapChar_sep (.inr (List.mem_replicate.1 hx).2)
  | case2 => nofun
  | case3 => exact fun x hx => isMapChar_sep (.inl (List.mem_singleton.1 hx))

/-- the mappings string written by the full encoder consists of base64 characters, ',' and ';' only -/
theorem c11_encode_charset (ms : List Mapping) : ∀ e, ∀ x ∈ encodeFrom e ms, isMapChar x = true := by
  intro e
  fun_induction encodeFrom e ms with
  | case1 => nofun
  | case2 e m ms _ ih => exact ih
  | case3 e m ms _ ih => exact List.forall_mem_append.2 ⟨List.forall_mem_append.2 ⟨encSep_charset e m, encFields_charset e m⟩, ih⟩


/-! ## the stream clause: announced before use, densely from zero

`DeclOK ns nn evs`: with `ns` sources and `nn` names announced so far, every source / name event of `evs` announces exactly the
next index (so the announced indices are 0, 1, 2, … without gaps or repeats), and every chunk uses only indices announced
earlier in the same stream. -/

/-- **C11, stream clause, every source tree, all four modes** (`columns × final_source`).  Hypotheses = the property's
quantifier: attached maps reference existing sources and names (`IdxHyp`: "consistent leaf maps"), and so do the maps an earlier
call left in the caches of this tree (`StoreIdx`; vacuous on cold caches); distinct CachedSource nodes own distinct caches.
A SourceMapSource *with an inner map* (the combinator of C09) is covered like every other node (`c11_combined_decl`). -/
theorem c11_stream_decl (s : Src) (o : Opts) (σ : Store) (hp : s.IdxHyp) (hn : s.ids.Nodup) (hs : StoreIdx σ s.cachedNodes) :
    DeclOK 0 0 (s.stream o σ).1.evs := Src.stream_declOK s o σ hp hn hs

/-- a ConcatSource needs nothing from its children: an index a child never announced is reported as unmapped, and the gaps of
its translation tables alias only announced entries -/
theorem c11_concat_decl (final : Bool) (children : List SResult) : DeclOK 0 0 (concatStream final children).evs :=
  concatStream_declOK final children

/-- a ReplaceSource keeps the property of its inner stream (names are renumbered densely, also those added by replacements) -/
theorem c11_replace_decl (sorted : List Repl) (inner : SResult) (h : DeclOK 0 0 inner.evs) : DeclOK 0 0 (replaceStream sorted inner).evs :=
  replaceStream_declOK sorted inner h

/-- the map-driven splitters, all four modes, for every map that references existing sources / names -/
theorem c11_sourcemap_decl (t : Text) (sm : SMap) (o : Opts) (h : MapIdxOK sm) : DeclOK 0 0 (streamSM t sm o).evs :=
  streamSM_declOK t sm o h

/-- the combinator (a SourceMapSource with an inner map), all four modes: its nine translation tables keep "announced densely,
once, before use" whenever the outer and the inner map reference existing entries of their own tables.  The proof is the table
invariant `KInv` (CombTables.lean); it needs the de-duplication key of the inner source to be its name (fix F15) -/
theorem c11_combined_decl (t : Text) (sm : SMap) (n : Text) (os : Option Text) (im : SMap) (rm : Bool) (o : Opts)
    (h1 : MapIdxOK sm) (h2 : MapIdxOK im) : DeclOK 0 0 (streamCombined t sm n os im rm o).evs :=
  streamCombined_declOK t sm n os im rm o h1 h2

/-- **every source and name index of a map built by `get_map` lies inside its `sources` / `names` tables**, for any stream that
announces before use (hence, by `c11_stream_decl`, for the final-mode stream of every tree); `small` / `linesOK` are the value
range and line monotonicity under which the codec round trip of C12 holds. -/
theorem c11_map_indices (evs : List Ev) (hd : DeclOK 0 0 evs) (hs : ∀ m ∈ chunkMs evs, m.small) (hl : linesOK 1 (chunkMs evs))
    (sm : SMap) (h : mapOfEvs true evs = some sm) :
    ∀ m ∈ decode sm.mappings, ∀ o, m.orig = some o → o.src < sm.sources.length ∧ ∀ k, o.name = some k → k < sm.names.length :=
  mapOfEvs_idxOK evs hd hs hl sm h

/-- non-vacuity: a stream that announces one source and one name and uses them; and one that uses a name it never announced -/
example : DeclOK 0 0 [.source 0 [97] none, .name 0 [110], .chunk (some [120]) ⟨1, 0, some ⟨0, 1, 0, some 0⟩⟩] := by
  simp [DeclOK]
example : ¬ DeclOK 0 0 [.source 0 [97] none, .chunk (some [120]) ⟨1, 0, some ⟨0, 1, 0, some 0⟩⟩] := by
  simp [DeclOK]


/-- **segments of `map()` are sorted by generated position and lie on positions of `source()`** (columns = true): for every tree of
the domain of C03 (`ModeHypC`, cold caches) the decoded segments of the SourceMap `get_map` returns are in non-decreasing
generated position — on lines ≥ 1 — and each stands at a position of `source()` (reached after some prefix of it: never beyond the
end of a line or of the text).  *Strictly* increasing needs strictly sorted leaf maps: `c11_map_strict`. -/
theorem c11_map_positions (s : Src) (h : s.ModeHypC) (hn : s.ids.Nodup) (σ : Store) (hc : Cold σ s.ids) (final : Bool)
    (hsmall : ∀ m ∈ chunkMs (s.stream ⟨true, true⟩ σ).1.evs, m.small) (sm : SMap) (hm : (getMap s ⟨true, final⟩ σ).1 = some sm) :
    sortedFrom 1 0 (decode sm.mappings) ∧ ∀ m ∈ decode sm.mappings, IsPos s.src ⟨m.gl, m.gc⟩ := by
  rw [getMap_decode s h hn σ hc final hsmall sm hm]
  have hsub := keptFrom_sublist (chunkMs (s.stream ⟨true, true⟩ σ).1.evs) {}
  exact ⟨sortedFrom_sublist _ _ 1 0 (Src.m3c s h hn σ σ hc hc).sorted hsub,
    fun m hmem => finOK_ms _ _ (Src.base_factsC s h hn σ σ hc hc).fin m (hsub.subset hmem)⟩


/-- **mapped segments of `map()` lie strictly before the end of `source()`** (columns = true, domain of C03, cold caches): every
decoded segment that carries an original location stands at the position of a *character* of `source()` — the position reached
after a proper prefix — so it governs at least one character and none stands at or after the end.  (Unmapped 1-field segments
only close a mapping; for them `c11_map_positions` gives a position of `source()`, possibly its end.) -/
theorem c11_map_before_end (s : Src) (h : s.ModeHypC) (hn : s.ids.Nodup) (σ : Store) (hc : Cold σ s.ids) (final : Bool)
    (hsmall : ∀ m ∈ chunkMs (s.stream ⟨true, true⟩ σ).1.evs, m.small) (sm : SMap) (hm : (getMap s ⟨true, final⟩ σ).1 = some sm) :
    ∀ m ∈ decode sm.mappings, m.orig.isSome = true → ∃ k, k < s.src.length ∧ adv startPos (s.src.take k) = ⟨m.gl, m.gc⟩ := by
  rw [getMap_decode s h hn σ hc final hsmall sm hm]
  intro m hmem ho
  obtain ⟨t, ht⟩ := chunk_of_mem_chunkMs _ m ((keptFrom_sublist _ {}).subset hmem)
  exact Src.strictC s h hn σ hc t m ht ho


/-- **segments of `map()` are in *strictly* increasing generated position, each on a character of `source()`** (columns = true):
for every tree of the domain of C03 on cold caches whose attached maps (outside ReplaceSource nodes, which re-chunk what they
wrap) are strictly sorted (`Src.StrictMaps`), the decoded segments of the SourceMap `get_map` returns — mapped and unmapped
alike — stand at the positions of characters `k₁ < k₂ < …` of `source()`: strictly increasing, all before the end.
Chain: the text-less stream delivers its chunks at increasing characters (`Src.incC`: OriginalSource tokens; the map-driven
splitter forwards a sublist of a strictly sorted map and drops what lies at or beyond the end; ConcatSource shifts each child and
closes a mapping only where the next child does not begin with a chunk; ReplaceSource delivers only non-empty chunks at their
true positions; the combinator keeps the outer positions) ∘ the encoder writes a sublist (`keptFrom`) ∘ C12 (decode ∘ encode). -/
theorem c11_map_strict (s : Src) (h : s.ModeHypC) (hs : s.StrictMaps) (hn : s.ids.Nodup) (σ : Store) (hc : Cold σ s.ids) (final : Bool)
    (hsmall : ∀ m ∈ chunkMs (s.stream ⟨true, true⟩ σ).1.evs, m.small) (sm : SMap) (hm : (getMap s ⟨true, final⟩ σ).1 = some sm) :
    (decode sm.mappings).Pairwise mlt
    ∧ ∀ m ∈ decode sm.mappings, ∃ k, k < s.src.length ∧ adv startPos (s.src.take k) = ⟨m.gl, m.gc⟩ :=
  getMap_strict s h hs hn σ hc final hsmall sm hm

/-- non-vacuity: an OriginalSource in front of a SourceMapSource with a strictly sorted two-segment map -/
example : (Src.concat (.cons (.orig [97, 59, 10, 98] [102]) (.cons (.sms [120, 32, 121] [103] ⟨[65, 65, 65, 65, 44, 69, 65, 65, 69], [[115]], [], [], none, none, none⟩ none none false) .nil))).StrictMaps := by
  simp only [Src.StrictMaps, SrcList.StrictMapsL]
  decide +kernel


/-- **… and on warm caches** (the two-call history `map(); map()`, columns = true): `s` is a tree of the domain of C03 with
CachedSource nodes at any depth and in any number (none beneath a ReplaceSource — K5), attached maps strictly sorted, the first
`get_map` running on cold caches.  The second `get_map` — every outermost CachedSource answering from the map the first call stored,
replayed through the map-driven splitter — returns a map whose decoded segments again stand at the positions of characters
`k₁ < k₂ < …` of `source()`: strictly increasing, all before the end.  Chain: the second call is the `get_map` of the replay tree
(`getMap_second`) ∘ the stored maps are strictly sorted because they were produced by `c11_map_strict` on the subtrees
(`Src.warm_strict`) ∘ the replay tree is in the domain of C03 (`Src.warmF_NA`) ∘ `c11_map_strict` on the replay tree. -/
theorem c11_map_twice_strict (s : Src) (σ : Store) (h : s.ModeHypC) (hst : s.StrictMaps) (hk : s.CachedOK) (hs : s.SmallF)
    (hn : s.ids.Nodup) (hc : Cold σ s.ids) (f1 f2 : Bool)
    (hsmall2 : ∀ m ∈ chunkMs ((s.warm ⟨true, true⟩).stream ⟨true, true⟩ []).1.evs, m.small)
    (sm2 : SMap) (h2 : (getMap s ⟨true, f2⟩ (getMap s ⟨true, f1⟩ σ).2).1 = some sm2) :
    (decode sm2.mappings).Pairwise mlt
    ∧ ∀ m ∈ decode sm2.mappings, ∃ k, k < s.src.length ∧ adv startPos (s.src.take k) = ⟨m.gl, m.gc⟩ :=
  getMap_twice_strict s σ h hst hk hs hn hc f1 f2 hsmall2 sm2 h2

/-- non-vacuity: `ConcatSource[CachedSource(OriginalSource("a;b", "f")), RawSource("x")]` meets the structural hypotheses -/
example : (Src.concat (.cons (.cached 0 (.orig [97, 59, 98] [102])) (.cons (.rawStr [120]) .nil))).ModeHypC
    ∧ (Src.concat (.cons (.cached 0 (.orig [97, 59, 98] [102])) (.cons (.rawStr [120]) .nil))).StrictMaps
    ∧ (Src.concat (.cons (.cached 0 (.orig [97, 59, 98] [102])) (.cons (.rawStr [120]) .nil))).CachedOK
    ∧ (Src.concat (.cons (.cached 0 (.orig [97, 59, 98] [102])) (.cons (.rawStr [120]) .nil))).SmallF := by
  simp only [Src.ModeHypC, SrcList.ModeHypsC, Src.StrictMaps, SrcList.StrictMapsL, Src.CachedOK, SrcList.CachedOKs, Src.SmallF, SrcList.SmallFs]
  decide +kernel


/-- **… and for every `get_map` of every call history** (columns = true): in any history of streaming / `get_map` calls — any
length, options in any order, cold caches at the start — on a tree with CachedSource nodes (none beneath a ReplaceSource) and
strictly sorted attached maps, the map every `get_map` of the history returns has its decoded segments at strictly increasing
characters of `source()`, all before the end.  `c10_every_history` ∘ `c11_map_strict` on the cache-free tree and on the replay tree. -/
theorem c11_every_history_map_strict (s : Src) (hk : s.NoCR) (hn : s.ids.Nodup) (σ : Store) (hc : Cold σ s.ids)
    (h : s.ModeHypC) (hst : s.StrictMaps) (hs : s.SmallF)
    (hsmall1 : ∀ m ∈ chunkMs (s.strip.stream ⟨true, true⟩ []).1.evs, m.small)
    (hsmall2 : ∀ m ∈ chunkMs ((s.warm ⟨true, true⟩).stream ⟨true, true⟩ []).1.evs, m.small)
    (calls : List Opts) (k : Nat) (hcall : calls[k]? = some ⟨true, true⟩) :
    ∃ r, (runCalls s calls σ).1[k]? = some r ∧ ∀ sm, mapOfEvs true r.evs = some sm →
      (decode sm.mappings).Pairwise mlt
      ∧ ∀ m ∈ decode sm.mappings, ∃ j, j < s.src.length ∧ adv startPos (s.src.take j) = ⟨m.gl, m.gc⟩ := by
  refine ⟨_, runCalls_results s hk hn σ hc calls k _ hcall, ?_⟩
  have hck := Src.noCR_cachedOK s hk
  obtain ⟨t, ha, hnc, hsrc, htm, hts, hsmall⟩ := answerOf_cases s hck (calls.take k) ⟨true, true⟩
    (fun t => t.ModeHypC ∧ t.StrictMaps ∧ ∀ m ∈ chunkMs (t.stream ⟨true, true⟩ []).1.evs, m.small)
    ⟨(Src.warmF_NA s h hck hs).2, Src.warm_strict s h hst hs, hsmall2⟩ ⟨Src.strip_modeHypC s h, Src.strip_strict s hst, hsmall1⟩
  rw [ha, ← hsrc]
  exact fun sm hsm => getMap_strict t htm hts (Src.nc_nodup t hnc) [] (cold_nil _) true hsmall sm hsm


/-- **segments of `map()` with columns = false**: for every tree of the domain of C03 (lines variant, cold caches) the decoded
segments of the SourceMap `get_map` returns stand on *strictly increasing generated lines* ≥ 1, each at column 0, each on a line on
which the text-less stream delivers a mapped chunk — a line of `source()` (`c02_final`: that chunk stands at a position of
`source()`).  Chain: C03 lines (`Src.m3l`: the stream is sorted) ∘ the lines-only encoder writes the first mapped chunk of each
line once (`keptLines`) ∘ C12 lines (`decode_lencode`). -/
theorem c11_map_lines_strict (s : Src) (h : s.ModeHypL) (hn : s.ids.Nodup) (σ : Store) (hc : Cold σ s.ids) (final : Bool)
    (hsmall : ∀ m ∈ chunkMs (s.stream ⟨false, true⟩ σ).1.evs, ∀ o, m.orig = some o → o.src < U31 ∧ o.line < U31)
    (sm : SMap) (hm : (getMap s ⟨false, final⟩ σ).1 = some sm) :
    (decode sm.mappings).Pairwise (fun a b => a.gl < b.gl)
    ∧ ∀ x ∈ decode sm.mappings, x.gc = 0 ∧ 1 ≤ x.gl
        ∧ ∃ m ∈ chunkMs (s.stream ⟨false, true⟩ σ).1.evs, m.orig.isSome = true ∧ x.gl = m.gl ∧ IsPos s.src ⟨m.gl, m.gc⟩ := by
  have hlo := linesOK_of_sorted _ 1 0 (Src.m3l s h hn σ σ hc hc).sorted
  simp only [getMap] at hm
  rw [mapOfEvs_decode_lines _ hsmall hlo sm hm]
  obtain ⟨a, b⟩ := keptLines_increasing _ {} (linesOK_mono (Nat.zero_le 1) _ hlo)
  refine ⟨b, fun x hx => ?_⟩
  obtain ⟨m, hm', o, ho, rfl⟩ := keptLines_mem _ {} x hx
  exact ⟨rfl, a _ hx, m, hm', by rw [ho]; rfl, rfl, finOK_ms s.src _ (Src.base_factsL s h hn σ σ hc hc).fin m hm'⟩

/-- **… and for every `get_map(columns = false)` of every call history**: on a tree with CachedSource nodes (none beneath a
ReplaceSource), cold at the start, the map every `get_map(columns = false)` of any history returns has its decoded segments on
strictly increasing generated lines ≥ 1, each at column 0, each on a line on which the text-less stream that built it delivers a
mapped chunk at a position of `source()`.  `c10_every_history` ∘ `c11_map_lines_strict` on the cache-free tree and on the replay
tree (which is again in the domain: `Src.warmFL`). -/
theorem c11_every_history_map_lines_strict (s : Src) (hk : s.NoCR) (hn : s.ids.Nodup) (σ : Store) (hc : Cold σ s.ids)
    (h : s.ModeHypL) (hs : s.SmallFL)
    (hsmall1 : ∀ m ∈ chunkMs (s.strip.stream ⟨false, true⟩ []).1.evs, ∀ o, m.orig = some o → o.src < U31 ∧ o.line < U31)
    (hsmall2 : ∀ m ∈ chunkMs ((s.warm ⟨false, true⟩).stream ⟨false, true⟩ []).1.evs, ∀ o, m.orig = some o → o.src < U31 ∧ o.line < U31)
    (calls : List Opts) (k : Nat) (hcall : calls[k]? = some ⟨false, true⟩) :
    ∃ r, (runCalls s calls σ).1[k]? = some r ∧ ∀ sm, mapOfEvs false r.evs = some sm →
      (decode sm.mappings).Pairwise (fun a b => a.gl < b.gl)
      ∧ ∀ x ∈ decode sm.mappings, x.gc = 0 ∧ 1 ≤ x.gl
          ∧ ∃ m ∈ chunkMs r.evs, m.orig.isSome = true ∧ x.gl = m.gl ∧ IsPos s.src ⟨m.gl, m.gc⟩ := by
  refine ⟨_, runCalls_results s hk hn σ hc calls k _ hcall, ?_⟩
  have hck := Src.noCR_cachedOK s hk
  obtain ⟨t, ha, hnc, hsrc, htm, hsmall⟩ := answerOf_cases s hck (calls.take k) ⟨false, true⟩
    (fun t => t.ModeHypL ∧ ∀ m ∈ chunkMs (t.stream ⟨false, true⟩ []).1.evs, ∀ o, m.orig = some o → o.src < U31 ∧ o.line < U31)
    ⟨(Src.warmFL s h hck hs).2, hsmall2⟩ ⟨Src.strip_modeHypL s h, hsmall1⟩
  rw [ha, ← hsrc]
  exact fun sm hsm => c11_map_lines_strict t htm (Src.nc_nodup t hnc) [] (cold_nil _) true hsmall sm hsm

/-- **the stream clause over every call history**: on a tree with CachedSource nodes (none beneath a ReplaceSource), cold at the
start, every call of every history of streaming calls — all four option sets, replays from stored maps included — announces every
source and name index before use and densely (`DeclOK`): a stored map's indices lie inside its own tables
(`mapOfEvs_idxOK`, `mapOfEvs_idxOK_lines`), so the replay announces what it uses.  Hypotheses per option set as in the
every-history theorems of C10. -/
theorem c11_every_history_decl (s : Src) (hk : s.NoCR) (hn : s.ids.Nodup) (σ : Store) (hc : Cold σ s.ids)
    (calls : List Opts) (k : Nat) (o : Opts) (hcall : calls[k]? = some o) :
    ∃ r, (runCalls s calls σ).1[k]? = some r
      ∧ (o = ⟨true, false⟩ → s.WarmHyp → DeclOK 0 0 r.evs)
      ∧ (o = ⟨true, true⟩ → s.ModeHypC → s.SmallF → DeclOK 0 0 r.evs)
      ∧ (o = ⟨false, false⟩ → s.WF → s.WarmHypL → DeclOK 0 0 r.evs)
      ∧ (o = ⟨false, true⟩ → s.ModeHypL → s.SmallFL → DeclOK 0 0 r.evs) := by
  have hck := Src.noCR_cachedOK s hk
  have key : (s.warm o).IdxHyp → s.strip.IdxHyp → DeclOK 0 0 (answerOf s (calls.take k) o).evs := by
    intro hwarm hstrip
    obtain ⟨t, ha, hnc, _, hi⟩ := answerOf_cases s hck (calls.take k) o Src.IdxHyp hwarm hstrip
    rw [ha]
    exact stream_declOK_nc t o hnc hi
  refine ⟨_, runCalls_results s hk hn σ hc calls k o hcall, ?_, ?_, ?_, ?_⟩
  · intro ho hw
    subst ho
    obtain ⟨_, a2, a3⟩ := Src.warm_NA s hw hck
    exact key a2 a3
  · intro ho hm hs
    subst ho
    exact key (Src.modeHypC_base _ (Src.warmF_NA s hm hck hs).2).2.2 (Src.modeHypC_base _ (Src.strip_modeHypC s hm)).2.2
  · intro ho hw hwl
    subst ho
    obtain ⟨_, a2, a3⟩ := Src.warmG_LN false s hw (Src.warmHypL_leafOK s hwl) hck
    exact key a2 a3
  · intro ho hm hs
    subst ho
    exact key (Src.modeHypL_base _ (Src.warmFL s hm hck hs).2).2.2 (Src.modeHypL_base _ (Src.strip_modeHypL s hm)).2.2

end Rs
