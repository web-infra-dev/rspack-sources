import RsModel.Lemmas.Rope
import RsModel.Lemmas.RopeSlice
import RsModel.Lemmas.RopeStarts
import RsModel.Lemmas.RopeLines
import RsModel.Lemmas.RopeChars
/-!
# C16 — Rope behaves exactly like the string it represents
`render r` is the flat string a rope stands for.
-/
namespace Rs
open Rope

/-- construction programs without slicing -/
inductive RProg where
  | new | from_ (t : Text) | iter (ts : List Text) | add (p : RProg) (t : Text) | append (a b : RProg)

def RProg.eval : RProg → Rope
  | .new => Rope.new
  | .from_ t => .light t
  | .iter ts => Rope.fromIter ts
  | .add p t => p.eval.add t
  | .append a b => a.eval.append b.eval

def RProg.flat : RProg → Text
  | .new => []
  | .from_ t => t
  | .iter ts => ts.flatten
  | .add p t => p.flat ++ t
  | .append a b => a.flat ++ b.flat

/-- every rope built by new / from / from_iter / add / append renders to the concatenation of its pieces,
whatever the grouping -/
theorem c16_render (p : RProg) : p.eval.render = p.flat := by
  induction p with
  | new => rfl
  | from_ t => rfl
  | iter ts => exact render_fromIter ts
  | add p t ih => simp [RProg.eval, RProg.flat, render_add, ih]
  | append a b iha ihb => simp [RProg.eval, RProg.flat, render_append, iha, ihb]

/-- … and satisfies the offset invariant (recorded offsets are the prefix sums of the piece lengths) -/
theorem c16_invariant (p : RProg) : p.eval.Inv := by
  induction p with
  | new => exact inv_new
  | from_ t => trivial
  | iter ts => exact inv_fromIter ts
  | add p t ih => exact inv_add _ t ih
  | append a b iha ihb => exact inv_append _ _ iha ihb

/-- `len`, `is_empty`, `to_bytes`/`to_string` answer as the flat string does -/
theorem c16_len_empty_bytes (p : RProg) :
    p.eval.len = p.flat.length ∧ p.eval.isEmpty = p.flat.isEmpty ∧ p.eval.toBytes = p.flat := by
  refine ⟨?_, ?_, ?_⟩
  · rw [len_eq_render _ (c16_invariant p), c16_render]
  · rw [isEmpty_eq, c16_render]
  · exact c16_render p

/-- independence of the division into pieces: two programs denoting the same string agree on these observers -/
theorem c16_chunking_irrelevant (p q : RProg) (h : p.flat = q.flat) :
    p.eval.len = q.eval.len ∧ p.eval.isEmpty = q.eval.isEmpty ∧ p.eval.toBytes = q.eval.toBytes := by
  obtain ⟨a1, a2, a3⟩ := c16_len_empty_bytes p
  obtain ⟨b1, b2, b3⟩ := c16_len_empty_bytes q
  rw [h] at a1 a2 a3
  exact ⟨a1.trans b1.symm, a2.trans b2.symm, a3.trans b3.symm⟩

/-! non-vacuity: an empty piece in the middle, a multi-piece append -/
example : (RProg.append (.add .new [97]) (.iter [[98], [], [99]])).eval = .full [([], 0), ([97], 0), ([98], 1), ([99], 2)] := by decide +kernel
example : (RProg.append (.add .new [97]) (.iter [[98], [], [99]])).flat = [97, 98, 99] := by decide +kernel


/-- `str` slicing `&t[a..b]` with its three panics -/
def strSlice (t : Text) (a b : Nat) : Except SliceErr Text :=
  if a > b then .error .reversed
  else if b > t.length then .error .endOOB
  else if isBoundary t a && isBoundary t b then .ok (bsub t a b) else .error .boundary

/-- construction programs with `byte_slice` at any place -/
inductive RProgS where
  | new | from_ (t : Text) | iter (ts : List Text) | add (p : RProgS) (t : Text) | append (a b : RProgS)
  | slice (p : RProgS) (a b : Nat)

/-- the literals are `&str`s -/
def RProgS.TextsOK : RProgS → Prop
  | .new => True
  | .from_ t => pieceOK t = true
  | .iter ts => ∀ t ∈ ts, pieceOK t = true
  | .add p t => p.TextsOK ∧ pieceOK t = true
  | .append a b => a.TextsOK ∧ b.TextsOK
  | .slice p _ _ => p.TextsOK

def RProgS.eval : RProgS → Except SliceErr Rope
  | .new => .ok Rope.new
  | .from_ t => .ok (.light t)
  | .iter ts => .ok (Rope.fromIter ts)
  | .add p t => p.eval.map (·.add t)
  | .append a b => a.eval.bind fun x => b.eval.map fun y => x.append y
  | .slice p a b => p.eval.bind fun x => x.byteSlice a b

/-- the same program over plain strings -/
def RProgS.flat : RProgS → Except SliceErr Text
  | .new => .ok []
  | .from_ t => .ok t
  | .iter ts => .ok ts.flatten
  | .add p t => p.flat.map (· ++ t)
  | .append a b => a.flat.bind fun x => b.flat.map fun y => x ++ y
  | .slice p a b => p.flat.bind fun x => strSlice x a b

/-- `byte_slice` on a well-formed rope is `str` slicing of the flat string: same result text, same panic -/
theorem c16_slice (r : Rope) (h : r.WF) (a b : Nat) :
    (r.byteSlice a b).map Rope.render = strSlice r.render a b ∧ ∀ r', r.byteSlice a b = .ok r' → r'.WF := by
  unfold strSlice
  by_cases h1 : a > b
  · rw [byteSlice_reversed r a b h1, if_pos h1]; exact ⟨rfl, nofun⟩
  · by_cases h2 : b > r.render.length
    · rw [byteSlice_endOOB r h.inv a b (Nat.le_of_not_lt h1) h2, if_neg h1, if_pos h2]; exact ⟨rfl, nofun⟩
    · obtain ⟨s1, s2⟩ := byteSlice_spec r h a b (Nat.le_of_not_lt h1) (Nat.le_of_not_lt h2)
      rw [if_neg h1, if_neg h2]
      cases hb : isBoundary r.render a && isBoundary r.render b
      · rw [s2 hb]; exact ⟨rfl, nofun⟩
      · obtain ⟨r', e1, e2, e3⟩ := s1 hb
        rw [e1]; exact ⟨congrArg Except.ok e2, fun x hx => Except.ok.inj hx ▸ e3⟩

/-- a rope computation that mirrors a string computation (it fails with it, or yields a well-formed rope that renders to
the string) still does so after a step on well-formed ropes that mirrors a step on strings -/
theorem mirror_bind {x : Except SliceErr Rope} {y : Except SliceErr Text} {f : Rope → Except SliceErr Rope}
    {g : Text → Except SliceErr Text} (h : x.map Rope.render = y ∧ ∀ r, x = .ok r → r.WF)
    (hf : ∀ r, r.WF → (f r).map Rope.render = g r.render ∧ ∀ r', f r = .ok r' → r'.WF) :
    (x.bind f).map Rope.render = y.bind g ∧ ∀ r', x.bind f = .ok r' → r'.WF := by
  obtain ⟨rfl, hw⟩ := h
  cases x with
  | error e => exact ⟨rfl, nofun⟩
  | ok r => exact hf r (hw r rfl)

theorem mirror_map {x : Except SliceErr Rope} {y : Except SliceErr Text} {f : Rope → Rope} {g : Text → Text}
    (h : x.map Rope.render = y ∧ ∀ r, x = .ok r → r.WF) (hf : ∀ r, r.WF → (f r).render = g r.render ∧ (f r).WF) :
    (x.map f).map Rope.render = y.map g ∧ ∀ r', x.map f = .ok r' → r'.WF :=
  mirror_bind (f := fun r => .ok (f r)) (g := fun t => .ok (g t)) h fun r hr =>
    ⟨congrArg Except.ok (hf r hr).1, fun _ e => Except.ok.inj e ▸ (hf r hr).2⟩

/-- **every program of constructors and slices behaves like the same program over strings**: it fails with the
same panic or yields a well-formed rope that renders to the string result -/
theorem c16_program (p : RProgS) (h : p.TextsOK) :
    p.eval.map Rope.render = p.flat ∧ ∀ r, p.eval = .ok r → r.WF := by
  induction p with
  | new => exact ⟨rfl, fun r hr => Except.ok.inj hr ▸ wf_new⟩
  | from_ t => exact ⟨rfl, fun r hr => Except.ok.inj hr ▸ h⟩
  | iter ts => exact ⟨congrArg Except.ok (render_fromIter ts), fun r hr => Except.ok.inj hr ▸ wf_fromIter ts h⟩
  | add p t ih => exact mirror_map (ih h.1) fun x hx => ⟨render_add x t, wf_add x t hx h.2⟩
  | append a b iha ihb =>
    exact mirror_bind (iha h.1) fun x hx => mirror_map (ihb h.2) fun y hy => ⟨render_append x y, wf_append x y hx hy⟩
  | slice p a b ih => exact mirror_bind (ih h) fun x hx => c16_slice x hx a b

/-- `get_byte(i)` of any such rope is the `i`-th byte of the string (no panic) -/
theorem c16_get_byte (p : RProgS) (h : p.TextsOK) (r : Rope) (hr : p.eval = .ok r) (t : Text) (ht : p.flat = .ok t) (i : Nat) :
    r.getByte i = .ok t[i]? := by
  obtain ⟨e1, e2⟩ := c16_program p h
  rw [hr, ht] at e1
  cases e1
  exact getByte_spec r (e2 r hr).inv i

/-- the hypotheses are satisfiable and slicing is exercised across pieces, inside a multi-byte char (error) and at borders -/
example : (match (RProgS.slice (.append (.from_ [97, 0xC3, 0xA9]) (.iter [[98], [], [99, 100]])) 1 5).eval with
      | .ok r => r.render == [0xC3, 0xA9, 98, 99] | .error _ => false) = true
    ∧ (match (RProgS.slice (.append (.from_ [97, 0xC3, 0xA9]) (.iter [[98], [], [99, 100]])) 2 5).eval with
      | .ok _ => false | .error e => e == .boundary) = true := by
  decide +kernel


/-- `ends_with`, equality with a string, equality of ropes, `starts_with` and the offsets of `char_indices` answer as the
flat strings do, whatever the division into pieces — and none of them panics -/
theorem c16_observers (p q : RProgS) (hp : p.TextsOK) (hq : q.TextsOK) (r v : Rope) (hr : p.eval = .ok r) (hv : q.eval = .ok v)
    (c : UInt8) (o : Text) :
    r.endsWith c = (r.render.getLast? == some c)
    ∧ r.eqStr o = .ok (r.render == o)
    ∧ r.eqRope v = .ok (r.render == v.render)
    ∧ r.startsWith v = v.render.isPrefixOf r.render
    ∧ (r.charIndices.map (·.1)) = charStarts r.render := by
  have wr := (c16_program p hp).2 r hr
  have wv := (c16_program q hq).2 v hv
  exact ⟨endsWith_spec r c, eqStr_spec r wr.inv o, eqRope_spec r v wr.inv wv.inv, startsWith_spec r v, charIndices_offsets r wr.inv⟩

/-- the shape of defect F14 (argument ending with an empty piece) answers like the flat strings -/
example : (Rope.full [([97], 0)]).startsWith (.full [([97], 0), ([], 1)]) = true := by decide +kernel


/-- **`lines()` / `lines_impl(trailing)`**: on every rope a program can build, the items the `Lines` iterator yields render to
the lines of the flat string — `split_inclusive('\n')`, plus a final empty item when `trailing` and the text is empty or
ends with a line break — whatever the division into pieces (a line may span any number of pieces, pieces may be empty) -/
theorem c16_lines (p : RProgS) (hp : p.TextsOK) (r : Rope) (hr : p.eval = .ok r) (trailing : Bool) :
    (r.linesR trailing).map Rope.render = Rope.linesSpec r.render trailing := by
  rw [linesR_spec r ((c16_program p hp).2 r hr).inv trailing, lines_eq_spec]

example : ((Rope.full [([97, 10], 0), ([], 2), ([98], 2), ([99, 10], 3)]).linesR true).map Rope.render = [[97, 10], [98, 99, 10], []] := by decide +kernel


/-- the literals are valid UTF-8 (`&str`): besides starting on a char boundary, every lead byte is followed inside the literal by
the continuation bytes it announces -/
def RProgS.TextsV : RProgS → Prop
  | .new => True
  | .from_ t => Rope.Utf8V t ∧ pieceOK t = true
  | .iter ts => ∀ t ∈ ts, Rope.Utf8V t ∧ pieceOK t = true
  | .add p t => p.TextsV ∧ Rope.Utf8V t ∧ pieceOK t = true
  | .append a b => a.TextsV ∧ b.TextsV
  | .slice p _ _ => p.TextsV

theorem RProgS.TextsV.ok : ∀ (p : RProgS), p.TextsV → p.TextsOK
  | .new, _ => trivial
  | .from_ _, h => h.2
  | .iter _, h => fun t ht => (h t ht).2
  | .add p _, h => ⟨RProgS.TextsV.ok p h.1, h.2.2⟩
  | .append a b, h => ⟨RProgS.TextsV.ok a h.1, RProgS.TextsV.ok b h.2⟩
  | .slice p _ _, h => RProgS.TextsV.ok p h

theorem bind_ok {ε α β} {x : Except ε α} {f : α → Except ε β} {P : α → Prop} {Q : β → Prop}
    (hx : ∀ a, x = .ok a → P a) (hf : ∀ a, P a → ∀ b, f a = .ok b → Q b) : ∀ b, x.bind f = .ok b → Q b := by
  cases x with
  | error e => nofun
  | ok a => exact hf a (hx a rfl)

theorem map_ok {ε α β} {x : Except ε α} {f : α → β} {P : α → Prop} {Q : β → Prop}
    (hx : ∀ a, x = .ok a → P a) (hf : ∀ a, P a → Q (f a)) : ∀ b, x.map f = .ok b → Q b :=
  bind_ok (f := fun a => .ok (f a)) hx fun a ha _ hb => Except.ok.inj hb ▸ hf a ha

theorem strSlice_ok {t u : Text} {a b : Nat} (h : strSlice t a b = .ok u) :
    a ≤ b ∧ b ≤ t.length ∧ isBoundary t a = true ∧ isBoundary t b = true ∧ u = bsub t a b := by
  unfold strSlice at h
  split at h
  · cases h
  · split at h
    · cases h
    · split at h
      · rename_i h1 h2 h3
        exact ⟨Nat.le_of_not_lt h1, Nat.le_of_not_lt h2, (Bool.and_eq_true_iff.1 h3).1, (Bool.and_eq_true_iff.1 h3).2,
          (Except.ok.inj h).symm⟩
      · cases h

/-- the string a program denotes is valid UTF-8 (slicing off a boundary fails instead) -/
theorem c16_flat_valid : ∀ (p : RProgS), p.TextsV → ∀ t, p.flat = .ok t → Rope.Utf8V t ∧ pieceOK t = true
  | .new, _ => fun _ ht => Except.ok.inj ht ▸ ⟨Rope.utf8V_nil, rfl⟩
  | .from_ _, h => fun _ ht => Except.ok.inj ht ▸ h
  | .iter ts, h => fun _ ht => Except.ok.inj ht ▸ Rope.utf8V_flatten ts h
  | .add p _, h => map_ok (c16_flat_valid p h.1) fun _ v => ⟨Rope.utf8V_append _ _ v.1 h.2.1, Rope.pieceOK_append _ _ v.2 h.2.2⟩
  | .append a b, h =>
    bind_ok (c16_flat_valid a h.1) fun _ va => map_ok (c16_flat_valid b h.2) fun _ vb =>
      ⟨Rope.utf8V_append _ _ va.1 vb.1, Rope.pieceOK_append _ _ va.2 vb.2⟩
  | .slice p a b, h => bind_ok (c16_flat_valid p h) fun x v _ hu => by
    obtain ⟨h1, _, h3, h4, rfl⟩ := strSlice_ok hu
    exact Rope.utf8V_bsub x a b v.1 v.2 h1 h3 h4

/-- **`char_indices()`** of every rope a program can build yields exactly the (byte offset, scalar value) pairs of
`str::char_indices` on the flat string, whatever the division into pieces -/
theorem c16_char_indices (p : RProgS) (hp : p.TextsV) (r : Rope) (hr : p.eval = .ok r) :
    r.charIndices = Rope.strCharIndices 0 0 r.render := by
  obtain ⟨e1, e2⟩ := c16_program p (RProgS.TextsV.ok p hp)
  rw [hr] at e1
  exact Rope.charIndices_spec r (e2 r hr) (c16_flat_valid p hp r.render e1.symm).1

/-- non-vacuity: "aé" + "b€" split into pieces; the two-byte and three-byte chars decode to U+00E9 and U+20AC -/
example : (Rope.full [([97, 0xC3, 0xA9], 0), ([], 3), ([98, 0xE2, 0x82, 0xAC], 3)]).charIndices
    = [(0, 97), (1, 0xE9), (3, 98), (4, 0x20AC)] := by decide +kernel

end Rs
