import RsModel.Lemmas.PosTree
import RsModel.Lemmas.PosFinalTree
import RsModel.Lemmas.HistoryPos
import RsModel.Lemmas.Histories
/-!
# C02 — reported generated positions are the true positions

`posOKT pre evs`: every chunk of `evs` that carries text is reported at the position (1-based line, 0-based byte column) reached
after writing `pre` and the texts of the chunks before it.  `PosOK r` = `posOKT [] r.evs` and `r.info` is the position after the
last character.
-/
namespace Rs

/-- the line/column calculus every position claim rests on -/
theorem c02_adv_append (p : Pos) (a b : Text) : adv p (a ++ b) = adv (adv p a) b := adv_append p a b

/-- **C02, normal mode, every source tree** (all eight node kinds, any depth, either column setting).  Every streamed chunk is
reported at the line and column at which its text really starts in the reassembled output, and the returned generated-end
information is the position just after the last character — which, by C01, is the end of `source()`.

Hypotheses = the property's quantifier:
* `s.WF`: replacements have `start ≤ end`; texts of SourceMapSource / CachedSource nodes are Rust `String`s;
* `s.PosHyp c`: SourceMapSource texts (and the texts a CachedSource replays) are ASCII, so that byte, char and UTF-16 columns
  coincide, and with columns the segments of an attached map lie inside its text ("maps consistent with their text"); the output
  of each ReplaceSource is shorter than `2^32` bytes (positions are `u32`);
* the cache contents `σ` are arbitrary except that a map already cached for a node of this tree lies inside the text it will be
  replayed on (`StoreHyp`), and distinct CachedSource nodes own distinct caches (`Nodup`).
Replacement sets are arbitrary (overlapping, nested, deleting or inserting line breaks, beyond the end). -/
theorem c02 (s : Src) (c : Bool) (σ : Store) (hw : s.WF) (hp : s.PosHyp c) (hn : s.ids.Nodup) (hs : StoreHyp c σ s.cachedNodes) :
    posOKT [] (s.stream ⟨c, false⟩ σ).1.evs
    ∧ (s.stream ⟨c, false⟩ σ).1.info = adv startPos (evsText (s.stream ⟨c, false⟩ σ).1.evs)
    ∧ (s.stream ⟨c, false⟩ σ).1.info = adv startPos s.src := by
  obtain ⟨h1, h2⟩ := Src.stream_posOK s c σ hw hp hn hs
  refine ⟨h1, h2, ?_⟩
  rw [h2, Src.stream_text s c σ hw]

/-- the ReplaceSource case: whatever the inner stream (any tokens, any mappings), if it reports true
positions then so does the spliced stream (output shorter than `2^32` bytes) -/
theorem c02_replace (sorted : List Repl) (inner : SResult) (hp : PosOK inner) (hT : ChunksTok inner.evs) (hTL : evsTL inner.evs = false)
    (hb : (evsText (replaceStream sorted inner).evs).length + 1 < 2 ^ 32) : PosOK (replaceStream sorted inner) :=
  replaceStream_posOK sorted inner hp hT hTL hb

/-- a ConcatSource shifts each child's positions by the position where the child starts -/
theorem c02_concat (children : List SResult) (hc : ∀ c ∈ children, PosOK c) : PosOK (concatStream false children) :=
  concatStream_posOK children hc

/-- the map-driven splitters report true positions for every map whose segments lie inside the (ASCII) text; without columns for
every map whatsoever -/
theorem c02_sourcemap (t : Text) (sm : SMap) (c : Bool) (ha : IsAscii t) (hl : t.length ≤ USIZE_MAX) (hm : c = true → MapInside t sm) :
    PosOK (streamSM t sm ⟨c, false⟩) := streamSM_posOK t sm c ha hl hm

/-- non-vacuity: the hypotheses of `c02` are met by a tree with a SourceMapSource (map `AAAA;AACA` on a two-line text), a
concatenation, a replacement deleting a line break and a CachedSource, on a cold cache -/
example : let t : Src := .cached 0 (.replace (.concat (.cons (.sms [97, 10, 98, 99] [102] (SMap.mk [65, 65, 65, 65, 59, 65, 65, 67, 65] [[120]] [] [] none none none) none none false)
      (.cons (.orig [99, 59, 100] [103]) .nil))) [⟨1, 2, [], none, 1⟩])
    t.PosHyp true ∧ t.ids.Nodup ∧ StoreHyp true [] t.cachedNodes := by
  intro t
  refine ⟨?_, by decide +kernel, fun p _ m hm => by simp [Store.get?] at hm⟩
  simp only [t, Src.PosHyp, SrcList.PosHyps]
  decide +kernel

/-! ## text-less (final_source) mode

`IsPos T p`: `p` is the (line, column) reached after writing some prefix of `T` — "a position of the text".
`FinOK T r`: every chunk of `r` is reported at a position of `T` and `r.info` is the position after the whole of `T`. -/

/-- **C02, text-less mode, every source tree**: with `final_source = true` (what `map()` and enclosing sources use) every
reported position is a position of `source()`, and the returned generated-end information is the position after its last
character.  Same hypotheses as `c02`; `StoreHypB` is `StoreHyp` for the cache entries of either mode (a ReplaceSource streams
its child with text even in this mode). -/
theorem c02_final (s : Src) (c : Bool) (σ : Store) (hw : s.WF) (hp : s.PosHyp c) (hn : s.ids.Nodup) (hs : StoreHypB c σ s.cachedNodes) :
    (∀ k ∈ evsKeys (s.stream ⟨c, true⟩ σ).1.evs, IsPos s.src ⟨k.2.1, k.2.2⟩)
    ∧ (s.stream ⟨c, true⟩ σ).1.info = adv startPos s.src :=
  Src.stream_finOK s c σ hw hp hn hs

/-- … and it is the same end information the normal mode returns (whatever the two cache states) -/
theorem c02_same_info (s : Src) (c : Bool) (σ σ' : Store) (hw : s.WF) (hp : s.PosHyp c) (hn : s.ids.Nodup)
    (hs : StoreHypB c σ s.cachedNodes) (hs' : StoreHypB c σ' s.cachedNodes) :
    (s.stream ⟨c, true⟩ σ).1.info = (s.stream ⟨c, false⟩ σ').1.info := by
  rw [(Src.stream_finOK s c σ hw hp hn hs).2, (Src.stream_posOK s c σ' hw hp hn (storeHypB_normal c σ' _ hs')).2,
    Src.stream_text s c σ' hw]

/-- on cold caches there is no hypothesis about the store: both modes, one statement -/
theorem c02_cold (s : Src) (c : Bool) (hw : s.WF) (hp : s.PosHyp c) (hn : s.ids.Nodup) :
    PosOK (s.stream ⟨c, false⟩ []).1
    ∧ FinOK s.src (s.stream ⟨c, true⟩ []).1
    ∧ (s.stream ⟨c, true⟩ []).1.info = (s.stream ⟨c, false⟩ []).1.info := by
  have h0 : StoreHypB c [] s.cachedNodes := fun p _ f m hm => by simp [Store.get?] at hm
  exact ⟨Src.stream_posOK s c [] hw hp hn (storeHypB_normal c [] _ h0), Src.stream_finOK s c [] hw hp hn h0,
    c02_same_info s c [] [] hw hp hn h0 h0⟩

/-- ConcatSource in either mode, from the children's contracts -/
theorem c02_concat_final (final : Bool) (children : List SResult) (Ts : List Text) (h : FinAll children Ts) :
    FinOK Ts.flatten (concatStream final children) := concatStream_finOK final children Ts h

/-- non-vacuity of `IsPos`: (2, 1) is a position of "a\nbc" and (2, 3) is not -/
example : IsPos [97, 10, 98, 99] ⟨2, 1⟩ := ⟨3, by decide, by decide⟩
example : ¬ IsPos [97, 10, 98, 99] ⟨2, 3⟩ := by decide

/-- **C02 over every call history**: `s` is any tree with CachedSource nodes (none beneath a ReplaceSource — `Src.NoCR`; distinct
caches), cold at the start; `runCalls s calls σ` threads the store through ANY history `calls` of streaming calls (any length, the
four option sets in any order; a `get_map` is the text-less call).  Whatever the `k`-th call is, the positions it reports are true:
in normal mode every chunk stands where its text starts in `source()` and the returned end information is the position after the
last character (`PosOK`, `info = adv startPos s.src`); in text-less mode every reported position is a position of `source()` and
the end information likewise (`FinOK`).  No hypothesis on the store: that every map a CachedSource stored lies inside the text it
is replayed on is proved (`stored_inside_normal`, `stored_map_ok`), not assumed as in `c02` / `c02_final` (`StoreHyp`).
Hypotheses per option set as in the two-call theorems: columns = false needs `PosHyp false` only; (true, false) the domain of C02
and of `c10_warm_tree` (`WarmHyp`); (true, true) the domain of C03 (`ModeHypC`, values below 2³¹ in cached subtrees). -/
theorem c02_every_history (s : Src) (hk : s.NoCR) (hn : s.ids.Nodup) (σ : Store) (hc : Cold σ s.ids) (hw : s.WF)
    (calls : List Opts) (k : Nat) (o : Opts) (hcall : calls[k]? = some o) :
    ∃ r, (runCalls s calls σ).1[k]? = some r
      ∧ (o.columns = false → s.PosHyp false →
          (o.final = false → PosOK r ∧ r.info = adv startPos s.src) ∧ (o.final = true → FinOK s.src r))
      ∧ (o = ⟨true, false⟩ → s.PosHyp true → s.WarmHyp → PosOK r ∧ r.info = adv startPos s.src)
      ∧ (o = ⟨true, true⟩ → s.ModeHypC → s.SmallF → FinOK s.src r) :=
  history_positions s hk hn σ hc hw calls k o hcall

end Rs
