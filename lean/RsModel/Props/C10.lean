import RsModel.Model.Tree
import RsModel.Props.C01
import RsModel.Lemmas.Replay
import RsModel.Lemmas.PosTree
import RsModel.Lemmas.ReplayLines
import RsModel.Lemmas.MappedNE
import RsModel.Lemmas.ReplayMap
import RsModel.Lemmas.ColdStrip
import RsModel.Lemmas.WarmTree
import RsModel.Lemmas.WarmMap
import RsModel.Lemmas.HistoryAnswers
import RsModel.Lemmas.WarmLinesF
import RsModel.Lemmas.RootHistory
import RsModel.Lemmas.RootHistoryL
import RsModel.Lemmas.RootNested
/-!
# C10 — CachedSource is transparent for every call history

Clause of the property → theorem:
* text, buffer, size; the streamed text whatever the cache holds → `c10_views`, `c10_stream_text`, `c10_stream_text_repeat`
* one entry per option set, written once → `c10_keys`, `c10_write_once`; `map()` cold and warm → `c10_map_cold`, `c10_map_warm`
* the wrapper called twice, the cache filled by streaming or by `map()` → `c10_replay_attribution`, `c10_replay_names`,
  `c10_replay_lines`, `c10_replay_after_map`, `c10_replay_final`
* CachedSource nodes inside a tree: cold → `c10_cold_transparent`; second call → `c10_warm_tree`, `c10_map_twice`; every call of
  every history → `c10_every_history` and its `_stream`, `_map`, `_stream_lines`, `_map_lines`
* every history of an outside caller on the wrapper and its clones → `c10_root_history`, `_lines`, `_nested`, `_full`
* where it fails (a CachedSource beneath a ReplaceSource) → `c10_k5_witness`
-/
namespace Rs

/-- text, buffer and size never touch the cache -/
theorem c10_views (id : Nat) (s : Src) :
    (Src.cached id s).src = s.src ∧ (Src.cached id s).buffer = s.buffer ∧ (Src.cached id s).size = s.size :=
  ⟨rfl, rfl, rfl⟩

/-- results cached for one option set are never served for another: filling the entry for `(id, o)` leaves
the entry of every other key — in particular the other column setting — as it was -/
theorem c10_keys (σ : Store) (id : Nat) (o o' : Opts) (v : Option SMap) (h : o ≠ o') :
    (σ.insertNew (id, o) v).get? (id, o') = σ.get? (id, o') :=
  get_insertNew_other σ _ _ v (by intro e; exact h (by injection e))

/-- once stored, an entry is never replaced (`entry().or_insert`) -/
theorem c10_write_once (σ : Store) (k : Nat × Opts) (v w : Option SMap) (h : σ.get? k = some v) :
    (σ.insertNew k w).get? k = some v :=
  insertNew_mono σ k k v w h

/-- a cold `map()` on a CachedSource returns what the wrapped source's `map()` returns -/
theorem c10_map_cold (id : Nat) (s : Src) (o : Opts) (σ : Store) (h : σ.get? (id, o) = none) :
    ((Src.cached id s).map o σ).1 = (s.map o σ).1 := by
  rw [Src.cached_map_cold id s o σ h]

/-- a repeated `map()` returns the stored answer -/
theorem c10_map_warm (id : Nat) (s : Src) (o : Opts) (σ : Store) (m : Option SMap) (h : σ.get? (id, o) = some m) :
    (Src.cached id s).map o σ = (m, σ) :=
  Src.cached_map_hit id s o σ m h

/-- whatever earlier calls have left in the cache (any history, any store `σ`), a stream of the wrapper delivers
exactly the text of the wrapped source, in both column settings -/
theorem c10_stream_text (id : Nat) (s : Src) (c : Bool) (σ : Store) (h : (Src.cached id s).WF) :
    evsText ((Src.cached id s).stream ⟨c, false⟩ σ).1.evs = s.src :=
  (c01 (.cached id s) c σ h).1

/-- repeating a stream never changes the delivered text: after the first call has filled the cache (store `σ'`),
the second call delivers the same text -/
theorem c10_stream_text_repeat (id : Nat) (s : Src) (c : Bool) (σ : Store) (h : (Src.cached id s).WF) :
    evsText ((Src.cached id s).stream ⟨c, false⟩ ((Src.cached id s).stream ⟨c, false⟩ σ).2).1.evs
      = evsText ((Src.cached id s).stream ⟨c, false⟩ σ).1.evs := by
  rw [c10_stream_text id s c _ h, c10_stream_text id s c σ h]


/-- **the cache filled by streaming replays the same attribution** (columns = true).  Let `r` be what the wrapped source streams
the first time (cold cache).  That call stores `get_map`'s result; every later stream of the wrapper replays `inner.src` through the
map-driven splitter with the stored map (or as raw text when nothing was mapped).  The replay gives *every byte* the original
location (source, line, column, name indices) the first stream gave it.

The proof composes C02 (the first stream reports true positions), the bridge `attr_of_stream` (chunk attribution = lookup in the
chunk mappings), C12 (`decode ∘ encode` keeps exactly what lookup sees) and C08 (the splitter attributes like a lookup).
Hypotheses: the tree satisfies the domain of C02; mapping values are below `2^31`.  That mapped chunks carry text is a theorem
(`Src.stream_mappedNE'`, `Lemmas/MappedNE.lean`) for every tree, the combinator included. -/
theorem c10_replay_attribution (id : Nat) (inner : Src) (σ : Store)
    (hw : inner.WF) (hp : inner.PosHyp true) (hn : inner.ids.Nodup) (hs : StoreHyp true σ inner.cachedNodes)
    (ha : IsAscii inner.src) (hl : inner.src.length ≤ USIZE_MAX)
    (hsmall : ∀ m ∈ chunkMs (inner.stream ⟨true, false⟩ σ).1.evs, m.small)
    (hcold : σ.get? (id, ⟨true, false⟩) = none) (hfresh : id ∉ inner.ids) :
    let first := (Src.cached id inner).stream ⟨true, false⟩ σ
    let second := (Src.cached id inner).stream ⟨true, false⟩ first.2
    attrOf second.1.evs = attrOf first.1.evs ∧ evsText second.1.evs = evsText first.1.evs := by
  intro first second
  refine ⟨?_, c10_stream_text_repeat id inner true σ ⟨hw, textOK_of_ascii _ ha hl⟩⟩
  obtain ⟨e1, e2⟩ := Src.cached_stream_twice id inner ⟨true, false⟩ σ hcold hfresh
  rw [show second.1 = _ from e2, show first.1 = _ from e1]
  exact Src.replay_stream_attr inner σ hw (Src.stream_posOK inner true σ hw hp hn hs) ha hl hsmall


/-- **… and the same file names and names** (columns = true): resolved through the announcements of each stream — the replay
announces the `sources` / `names` of the stored map, the first stream announced them itself — every byte of the replay resolves to
the same file name, original line, original column and name as in the first stream. -/
theorem c10_replay_names (id : Nat) (inner : Src) (σ : Store)
    (hw : inner.WF) (hp : inner.PosHyp true) (hi : inner.IdxHyp) (hn : inner.ids.Nodup) (hs : StoreHyp true σ inner.cachedNodes)
    (hsi : StoreIdx σ inner.cachedNodes)
    (ha : IsAscii inner.src) (hl : inner.src.length ≤ USIZE_MAX)
    (hsmall : ∀ m ∈ chunkMs (inner.stream ⟨true, false⟩ σ).1.evs, m.small)
    (hcold : σ.get? (id, ⟨true, false⟩) = none) (hfresh : id ∉ inner.ids)
    (sm : SMap) (hm : mapOfEvs true (inner.stream ⟨true, false⟩ σ).1.evs = some sm) :
    let first := (Src.cached id inner).stream ⟨true, false⟩ σ
    let second := (Src.cached id inner).stream ⟨true, false⟩ first.2
    (attrN emptyS emptyN second.1.evs).map (Option.map RLoc.toN) = (attrN emptyS emptyN first.1.evs).map (Option.map RLoc.toN) := by
  intro first second
  obtain ⟨e1, e2⟩ := Src.cached_stream_twice id inner ⟨true, false⟩ σ hcold hfresh
  dsimp only at e2
  rw [hm] at e2
  rw [show second.1 = _ from e2, show first.1 = _ from e1]
  rw [← Src.stream_text inner true σ hw] at ha hl ⊢
  exact replay_names _ (Src.stream_posOK inner true σ hw hp hn hs) (Src.stream_tok inner true σ) (Src.stream_tl inner true σ)
    (Src.stream_mappedNE' inner true σ) ha hl hsmall (Src.stream_declOK inner ⟨true, false⟩ σ hi hn hsi) sm hm


/-- **the cache filled by streaming replays the same attribution, columns = false**: for every generated line that carries text,
the first mapped chunk of the replay points to the same source index and original line as the first mapped chunk of the first
stream on that line (file and line granularity, as the property demands for columns=false) -/
theorem c10_replay_lines (id : Nat) (inner : Src) (σ : Store)
    (hw : inner.WF) (hp : inner.PosHyp false) (hn : inner.ids.Nodup) (hs : StoreHyp false σ inner.cachedNodes)
    (hsmall : ∀ m ∈ chunkMs (inner.stream ⟨false, false⟩ σ).1.evs, ∀ o, m.orig = some o → o.src < U31 ∧ o.line < U31)
    (hcold : σ.get? (id, ⟨false, false⟩) = none) (hfresh : id ∉ inner.ids)
    (sm : SMap) (hm : mapOfEvs false (inner.stream ⟨false, false⟩ σ).1.evs = some sm)
    (L : Nat) (h1 : 1 ≤ L) (hL : L ≤ (splitLines inner.src).length) :
    let first := (Src.cached id inner).stream ⟨false, false⟩ σ
    let second := (Src.cached id inner).stream ⟨false, false⟩ first.2
    lookupLines (chunkMs second.1.evs) L = lookupLines (chunkMs first.1.evs) L := by
  intro first second
  obtain ⟨e1, e2⟩ := Src.cached_stream_twice id inner ⟨false, false⟩ σ hcold hfresh
  dsimp only at e2
  rw [hm] at e2
  rw [show second.1 = _ from e2, show first.1 = _ from e1]
  rw [← Src.stream_text inner false σ hw] at hL ⊢
  exact replay_lines _ (Src.stream_posOK inner false σ hw hp hn hs) (Src.stream_tl inner false σ) hsmall sm hm L h1 hL


/-- **C10, cache filled by `map()`** (columns = true): let `inner` be a tree of the domain of C03 whose `map()` is `get_map`
(OriginalSource, ConcatSource, ReplaceSource with replacements), wrapped in a CachedSource with a cold cache.  After `map()` has
filled the cache, streaming the wrapper replays the text through the stored map — and attributes every byte to exactly the
original location the wrapped source's own stream attributes it to. -/
theorem c10_replay_after_map (id : Nat) (inner : Src) (σ σN : Store) (h : inner.ModeHypC) (hn : inner.ids.Nodup) (hc : Cold σ inner.ids) (hcN : Cold σN inner.ids)
    (ha : IsAscii inner.src) (hl : inner.src.length ≤ USIZE_MAX)
    (hsmall : ∀ m ∈ chunkMs (inner.stream ⟨true, true⟩ σ).1.evs, m.small)
    (hmap : inner.map ⟨true, false⟩ σ = getMap inner ⟨true, false⟩ σ)
    (hcold : σ.get? (id, ⟨true, false⟩) = none) (hfresh : id ∉ inner.ids)
    (sm : SMap) (hm : (getMap inner ⟨true, false⟩ σ).1 = some sm) :
    let first := (Src.cached id inner).map ⟨true, false⟩ σ
    let second := (Src.cached id inner).stream ⟨true, false⟩ first.2
    first.1 = some sm ∧ attrOf second.1.evs = attrOf (inner.stream ⟨true, false⟩ σN).1.evs := by
  intro first second
  obtain ⟨a1, a2⟩ := Src.cached_map_fills id inner ⟨true, false⟩ σ hcold hfresh hmap
  refine ⟨a1.trans hm, ?_⟩
  rw [show second = _ from Src.cached_stream_hit id inner _ first.2 _ a2]
  exact Src.replay_map_attr inner h hn σ σN hc hcN ha hl hsmall



/-- **C10, text-less replay** (columns = true, `final_source = true` — what `map()` of an enclosing source consumes): let `inner` be a
tree of the domain of C03 wrapped in a CachedSource with a cold cache.  The first text-less stream of the wrapper fills the cache
with the map built from it; every later text-less stream replays the text through the stored map with the text-less splitter —
and its chunk mappings resolve the position of *every character* of the text to exactly the original location the wrapped
source's own (normal) stream attributes that character to.  So an enclosing source's `map()` sees the same attribution whether the
wrapper answers from its cache or not.  Chain: C08 text-less (`streamSMFinal_lookEq`) ∘ C12 (decode ∘ encode, lookup kept) ∘
C03-T3 (text-less = normal mode) ∘ `attr_of_stream`. -/
theorem c10_replay_final (id : Nat) (inner : Src) (σ σN : Store) (h : inner.ModeHypC) (hn : inner.ids.Nodup) (hc : Cold σ inner.ids) (hcN : Cold σN inner.ids)
    (hsmall : ∀ m ∈ chunkMs (inner.stream ⟨true, true⟩ σ).1.evs, m.small)
    (hcold : σ.get? (id, ⟨true, true⟩) = none) (hfresh : id ∉ inner.ids)
    (sm : SMap) (hm : mapOfEvs true (inner.stream ⟨true, true⟩ σ).1.evs = some sm) :
    let first := (Src.cached id inner).stream ⟨true, true⟩ σ
    let second := (Src.cached id inner).stream ⟨true, true⟩ first.2
    attrFrom (chunkMs second.1.evs) startPos inner.src = attrOf (inner.stream ⟨true, false⟩ σN).1.evs := by
  intro first second
  obtain ⟨_, e2⟩ := Src.cached_stream_twice id inner ⟨true, true⟩ σ hcold hfresh
  dsimp only at e2
  rw [hm] at e2
  rw [show second.1 = _ from e2]
  have b := Src.base_factsC inner h hn σ σN hc hcN
  have hm3 := Src.m3c inner h hn σ σN hc hcN
  have s1 := (stored_domain inner.src _ hm3.sorted hsmall (final_segOK _ _ b.fin (Src.strictC inner h hn σ hc)) sm (mapOfEvs_mappings _ sm hm)).1
  exact ((lookEq_iff _ _ _).1 (streamSMFinal_lookEq inner.src sm s1)).trans ((hm3.map_attr b.pos b.tok b.tl b.text hsmall).1 sm hm)


/-- **C10, cold caches at any depth**: a tree whose CachedSource nodes (any number, anywhere — also beneath ReplaceSource and
ConcatSource nodes) all have cold caches streams, in every mode, exactly what the same tree without the CachedSource wrappers
streams; `get_map` returns the same map; `source()` is the same text.  (Distinct CachedSource nodes own distinct caches.) -/
theorem c10_cold_transparent (s : Src) (o : Opts) (σ : Store) (hn : s.ids.Nodup) (hc : Cold σ s.ids) :
    (s.stream o σ).1 = (s.strip.stream o []).1 ∧ (getMap s o σ).1 = (getMap s.strip o []).1 ∧ s.src = s.strip.src ∧ s.strip.NoCached :=
  ⟨Src.stream_strip s o σ hn hc, getMap_strip s o σ hn hc, (Src.strip_src s).symm, Src.strip_nc s⟩


/-- **C10, warm caches inside a tree** (columns = true, normal mode): `s` is any tree — leaves, ConcatSource at any nesting,
ReplaceSource, any number of CachedSource nodes at any depth, also nested in one another — in which no CachedSource sits beneath a
ReplaceSource (that case is the known finding K5), every cached subtree is in the domain of C02 with ASCII text and mapping values
below 2³¹ (`Src.WarmHyp`), and distinct CachedSource nodes own distinct caches.  Stream it on cold caches: every CachedSource
stores the map built from its subtree's stream.  Stream it again with the store the first call left: every outermost CachedSource
now answers from its entry, replaying its text through the stored map, and nothing beneath it is visited.  The second stream
delivers the same text and resolves *every byte* — through its own announcements — to the same file name, original line, original
column and name as the first.  Chain: the store only grows and the first call fills every node's entry with the map of its
cache-free stream (`Src.stream_fills`, `Src.stream_strip`) ∘ the second call is the stream of the replay tree (`Src.stream_warm`) ∘ the
replay of a subtree attributes like the subtree (`replay_leaf_NA`, the instance of `replayLeaf_cols` for a fill by streaming:
C02 ∘ C12 ∘ C08) ∘ ConcatSource composes attributions at name level whatever the children's contents (`concatStream_NA`). -/
theorem c10_warm_tree (s : Src) (σ : Store) (hn : s.ids.Nodup) (hc : Cold σ s.ids) (hk : s.CachedOK) (h : s.WarmHyp) (hw : s.WF) :
    let first := s.stream ⟨true, false⟩ σ
    let second := s.stream ⟨true, false⟩ first.2
    NA second.1.evs = NA first.1.evs ∧ evsText second.1.evs = evsText first.1.evs := by
  intro first second
  exact ⟨Src.second_stream_NA s σ hn hc hk h, by rw [Src.stream_text s true _ hw, Src.stream_text s true σ hw]⟩


/-- the chunk mappings of `OriginalSource("a;b", "f")` streamed with columns: two chunks, at columns 0 and 2, each mapped to itself -/
theorem c10_warm_example_ms : chunkMs ((Src.orig [97, 59, 98] [102]).stream { columns := true, final := false } []).fst.evs
    = [⟨1, 0, some ⟨0, 1, 0, none⟩⟩, ⟨1, 2, some ⟨0, 1, 2, none⟩⟩] := by decide
/-- non-vacuity: `ConcatSource[CachedSource(OriginalSource("a;b", "f")), RawSource("x")]` meets the hypotheses of `c10_warm_tree` -/
example : (Src.concat (.cons (.cached 0 (.orig [97, 59, 98] [102])) (.cons (.rawStr [120]) .nil))).WarmHyp
    ∧ (Src.concat (.cons (.cached 0 (.orig [97, 59, 98] [102])) (.cons (.rawStr [120]) .nil))).CachedOK := by
  simp only [Src.WarmHyp, SrcList.WarmHyps, Src.strip, Src.WF, Src.PosHyp, Src.IdxHyp, Src.CachedOK, SrcList.CachedOKs]
  decide +kernel


/-- **`map()` twice on a tree with warm caches** (columns = true): `s` is a tree of the domain of C03 with CachedSource nodes at any
depth and in any number (none beneath a ReplaceSource — K5), on cold caches.  The first `get_map` stores, in every CachedSource, the
map built from its subtree's text-less stream; the second `get_map` finds those entries, and every outermost CachedSource replays its
text through the stored map.  Resolving every position of `source()` through the second map and its own `sources` / `names` tables
gives the same file name, original line, original column and name as through the first.  Chain: C03 name level on the cold tree
(`getMap_names`) ∘ the second call is the stream of the replay tree (`Src.stream_fills`, `Src.stream_warm`) ∘ the replay tree is in
the domain of C03 (`stored_map_ok`: a stored map is sorted, inside its text, with indices inside its tables) ∘ C03 name level on the
replay tree ∘ the replay of a subtree attributes like the subtree (C08 name level `streamSM_attrN` ∘ C03 on the subtree) ∘
ConcatSource composes at name level (`concatStream_NA`).  Mapping values below 2³¹ (`SmallF`, `hsmall*`: the codec's domain). -/
theorem c10_map_twice (s : Src) (σ : Store) (h : s.ModeHypC) (hk : s.CachedOK) (hs : s.SmallF) (hn : s.ids.Nodup) (hc : Cold σ s.ids)
    (f1 f2 : Bool)
    (hsmall1 : ∀ m ∈ chunkMs (s.stream ⟨true, true⟩ σ).1.evs, m.small)
    (hsmall2 : ∀ m ∈ chunkMs ((s.warm ⟨true, true⟩).stream ⟨true, true⟩ []).1.evs, m.small)
    (sm1 sm2 : SMap) (h1 : (getMap s ⟨true, f1⟩ σ).1 = some sm1) (h2 : (getMap s ⟨true, f2⟩ (getMap s ⟨true, f1⟩ σ).2).1 = some sm2) :
    (attrFrom (decode sm2.mappings) startPos s.src).map (Option.map (resolveMF sm2))
      = (attrFrom (decode sm1.mappings) startPos s.src).map (Option.map (resolveMF sm1)) :=
  getMap_twice s σ h hk hs hn hc f1 f2 hsmall1 hsmall2 sm1 sm2 h1 h2

/-- **every call of every history** (any length, options in any order): `s` is any tree with no CachedSource beneath a
ReplaceSource (`Src.NoCR` — beneath one, K5), distinct caches, cold at the start.  `runCalls s calls σ` threads the store through
the streaming calls `calls` (a `get_map` is the text-less streaming call followed by the encoder).  The `k`-th call returns the
stream of the cache-free tree (`Src.strip`) if its options did not occur earlier in the history, and otherwise the stream of the
replay tree for its options (`Src.warm o`: every outermost CachedSource replays the map the first call with `o` stored) — always
one of the same two answers per option, whatever was called in between.  Invariant `HistInv`: the store is warm for the options
used so far and cold for the others; a call with options `o` reads and writes only entries keyed by `o`
(`Src.stream_store_opts`). -/
theorem c10_every_history (s : Src) (hk : s.NoCR) (hn : s.ids.Nodup) (σ : Store) (hc : Cold σ s.ids) (calls : List Opts) :
    ∀ k o, calls[k]? = some o → (runCalls s calls σ).1[k]? = some (answerOf s (calls.take k) o) :=
  runCalls_results s hk hn σ hc calls

/-- **… and what they answer, streams** (columns = true, normal mode): every such stream of every history delivers the text of
`source()` and resolves every byte to the same file name, original line, original column and name as the cache-free tree. -/
theorem c10_every_history_stream (s : Src) (hk : s.NoCR) (hn : s.ids.Nodup) (σ : Store) (hc : Cold σ s.ids) (h : s.WarmHyp) (hw : s.WF)
    (calls : List Opts) (k : Nat) (hcall : calls[k]? = some ⟨true, false⟩) :
    ∃ r, (runCalls s calls σ).1[k]? = some r ∧ NA r.evs = NA (s.strip.stream ⟨true, false⟩ []).1.evs ∧ evsText r.evs = s.src := by
  obtain ⟨r, h1, h2⟩ := history_stream_NA s hk hn σ hc h calls k hcall
  obtain ⟨σ', h3⟩ := runCalls_is_stream s calls σ k _ hcall
  rw [h1] at h3
  simp only [Option.some.injEq] at h3
  exact ⟨r, h1, h2, by rw [h3]; exact Src.stream_text s true σ' hw⟩

/-- **… and maps** (columns = true): the map built from every text-less stream of every history — what every `get_map` of the
history returns — resolves every byte of `source()`, through its own `sources` / `names` tables, to the same file name, original
line, original column and name as the cache-free tree's stream. -/
theorem c10_every_history_map (s : Src) (hk : s.NoCR) (hn : s.ids.Nodup) (σ : Store) (hc : Cold σ s.ids) (h : s.ModeHypC) (hs : s.SmallF)
    (hsmall1 : ∀ m ∈ chunkMs (s.strip.stream ⟨true, true⟩ []).1.evs, m.small)
    (hsmall2 : ∀ m ∈ chunkMs ((s.warm ⟨true, true⟩).stream ⟨true, true⟩ []).1.evs, m.small)
    (calls : List Opts) (k : Nat) (hcall : calls[k]? = some ⟨true, true⟩) :
    ∃ r, (runCalls s calls σ).1[k]? = some r ∧ ∀ sm, mapOfEvs true r.evs = some sm →
      (attrFrom (decode sm.mappings) startPos s.src).map (Option.map (resolveMF sm)) = NA (s.strip.stream ⟨true, false⟩ []).1.evs :=
  history_map_NA s hk hn σ hc h hs hsmall1 hsmall2 calls k hcall

/-- non-vacuity: the tree of `c10_warm_tree`'s example has no CachedSource beneath a ReplaceSource, and a five-call history on it
in mixed options returns five results -/
example : (Src.concat (.cons (.cached 0 (.orig [97, 59, 98] [102])) (.cons (.rawStr [120]) .nil))).NoCR
    ∧ (runCalls (Src.concat (.cons (.cached 0 (.orig [97, 59, 98] [102])) (.cons (.rawStr [120]) .nil)))
        [⟨true, false⟩, ⟨true, true⟩, ⟨false, false⟩, ⟨true, false⟩, ⟨true, true⟩] []).1.length = 5 := by
  refine ⟨by simp [Src.NoCR, SrcList.NoCRs], by decide +kernel⟩

/-- **… streams with columns = false** (file and line granularity, as the property demands): for every normal-mode stream with
columns = false of every history and every generated line `L`, the first mapped chunk on `L` resolves — through the stream's own
announcements (`LNameOf`) — to the same file name and original line as the first mapped chunk on `L` of the cache-free tree's
stream.  A CachedSource replays its text line by line through the stored lines-only map, so bytes are *not* attributed alike
(a whole line goes to its first mapped segment); what is preserved is exactly the line's first mapped chunk (`replayL_leaf`), and
that statement passes through ConcatSource nodes (`Lemmas/LineFirst.lean`: the first mapped byte of a line, `fsl_find`,
`fsl_append`; `Lemmas/WarmLines.lean`). -/
theorem c10_every_history_stream_lines (s : Src) (hk : s.NoCR) (hn : s.ids.Nodup) (σ : Store) (hc : Cold σ s.ids) (hw : s.WF)
    (hp : s.PosHyp false) (h : s.WarmHypL) (calls : List Opts) (k : Nat) (hcall : calls[k]? = some ⟨false, false⟩) :
    ∃ r, (runCalls s calls σ).1[k]? = some r ∧ ∀ L, LNameOf r.evs L = LNameOf (s.strip.stream ⟨false, false⟩ []).1.evs L :=
  history_stream_lname s hk hn σ hc hw hp h calls k hcall

/-- **… and maps with columns = false**: the map every `get_map(columns = false)` of every history returns resolves every generated
line `L ≥ 1` — first mapped segment of the line, through the map's own `sources` (`LNameM`) — to the same file name and original line
as the first mapped chunk on `L` of the cache-free tree's stream.  (`Lemmas/WarmLinesF.lean`: the replay tree of text-less fills
is again in the domain of C03 for columns = false.) -/
theorem c10_every_history_map_lines (s : Src) (hk : s.NoCR) (hn : s.ids.Nodup) (σ : Store) (hc : Cold σ s.ids) (h : s.ModeHypL) (hs : s.SmallFL)
    (hsmall1 : ∀ m ∈ chunkMs (s.strip.stream ⟨false, true⟩ []).1.evs, ∀ o, m.orig = some o → o.src < U31 ∧ o.line < U31)
    (hsmall2 : ∀ m ∈ chunkMs ((s.warm ⟨false, true⟩).stream ⟨false, true⟩ []).1.evs, ∀ o, m.orig = some o → o.src < U31 ∧ o.line < U31)
    (calls : List Opts) (k : Nat) (hcall : calls[k]? = some ⟨false, true⟩) :
    ∃ r, (runCalls s calls σ).1[k]? = some r ∧ ∀ sm, mapOfEvs false r.evs = some sm → ∀ L, 0 < L →
      LNameM sm L = LNameOf (s.strip.stream ⟨false, false⟩ []).1.evs L :=
  history_map_lname s hk hn σ hc h hs hsmall1 hsmall2 calls k hcall

/-- non-vacuity: on `ConcatSource[CachedSource(OriginalSource("a;b\nc", "f")), RawSource("x")]` the first stream with columns = false
resolves line 1 to file "f", original line 1, and line 2 to file "f", original line 2 -/
example : LNameOf ((Src.concat (.cons (.cached 0 (.orig [97, 59, 98, 10, 99] [102])) (.cons (.rawStr [120]) .nil))).stream ⟨false, false⟩ []).1.evs 1
      = some (some [102], 1)
    ∧ LNameOf ((Src.concat (.cons (.cached 0 (.orig [97, 59, 98, 10, 99] [102])) (.cons (.rawStr [120]) .nil))).stream ⟨false, false⟩ []).1.evs 2
      = some (some [102], 2) := by
  decide +kernel

/-- **every call of every history on the CachedSource wrapper and its clones** (columns = true): an outside caller calls `map()` and
`stream_chunks` (always `final_source = false`) in any order, any number of times; both use the cache entry keyed `(true, false)`,
shared by all clones (the model's store).  Whichever comes first fills it — `map()` with the wrapped source's own map (`mapFill`),
`stream_chunks` with the map re-encoded from the streamed chunks (`streamFill`).  For a cache-free wrapped tree of the domain of C03
whose `map()` is `get_map`: in every history from a store where the entry is absent (or holds one of the two fills),
* every `stream_chunks` answer attributes every byte to exactly the original location (source index, line, column, name index) the
  wrapped source's own stream gives it;
* every `map()` answer is one of the two fills, and each of them resolves every position of `source()` exactly as the wrapped
  source's stream does — and when it is absent nothing is mapped.
(`Lemmas/RootHistory.lean`: invariant `RootInv`; which of the two representations is returned depends on the history — known
finding K3 — the attribution does not.) -/
theorem c10_root_history (id : Nat) (inner : Src) (h : RootHyp inner) (hw : (Src.cached id inner).WF) (calls : List RCall) (σ : Store)
    (hi : RootInv id inner σ) :
    ∀ a ∈ (runRoot id inner calls σ).1,
      (match a with
       | .stream r => attrOf r.evs = attrOf (inner.stream ⟨true, false⟩ []).1.evs
       | .map m => (m = mapFill inner ∨ m = streamFill inner)
           ∧ (∀ sm, m = some sm → attrFrom (decode sm.mappings) startPos inner.src = attrOf (inner.stream ⟨true, false⟩ []).1.evs)
           ∧ (m = none → attrOf (inner.stream ⟨true, false⟩ []).1.evs = List.replicate inner.src.length none)) := by
  intro a ha
  have := runRoot_answers id inner h calls σ hi a ha
  cases a with
  | stream r => exact this
  | map m => exact ⟨this, fills_resolve inner h m this⟩

theorem c10_root_history_cold (id : Nat) (inner : Src) (σ : Store) (h : σ.get? (id, ⟨true, false⟩) = none) : RootInv id inner σ :=
  Or.inl h

/-- non-vacuity: a six-call history on `CachedSource(OriginalSource("a;b", "f"))` — `map()` first — returns six answers -/
example : (runRoot 0 (.orig [97, 59, 98] [102]) [.map, .stream, .map, .stream, .stream, .map] []).1.length = 6 := by decide +kernel

/-- **… and with columns = false** (file and line granularity, as the property demands): every call of every history of `map(false)` /
`stream_chunks(false)` calls on the wrapper and its clones, sharing the entry keyed `(false, false)`: every stream answer resolves
the first mapped chunk of every generated line to the same file name and original line as the wrapped source's own stream; every
`map()` answer is one of the two fills (`mapFillL`: the wrapped source's lines-only map; `streamFillL`: the lines-only map re-encoded
from the streamed chunks), and each resolves every generated line `L ≥ 1` — first mapped segment, through its own `sources` — alike.
Results stored for one column setting are never served for the other: the keys `(true, false)` and `(false, false)` differ
(`c10_keys`). -/
theorem c10_root_history_lines (id : Nat) (inner : Src) (h : RootHypL inner) (calls : List RCall) (σ : Store) (hi : RootInvL id inner σ) :
    ∀ a ∈ (runRootL id inner calls σ).1,
      (match a with
       | .stream r => ∀ L, LNameOf r.evs L = LNameOf (inner.stream ⟨false, false⟩ []).1.evs L
       | .map m => (m = mapFillL inner ∨ m = streamFillL inner)
           ∧ ∀ sm, m = some sm → ∀ L, 0 < L → LNameM sm L = LNameOf (inner.stream ⟨false, false⟩ []).1.evs L) := by
  intro a ha
  have := runRootL_answers id inner h calls σ hi a ha
  cases a with
  | stream r => exact this
  | map m => exact ⟨this, fills_resolve_lines inner h m this⟩

/-- **every history of `map(columns)` / `stream_chunks(columns)` calls of an outside caller on the wrapper and its clones, both column
settings interleaved, the wrapped tree itself containing CachedSource nodes** (none beneath a ReplaceSource; distinct caches; the
wrapper's own cache distinct from them; everything cold at the start).  The first call with a column setting is the only one that
reaches the caches inside the wrapped tree, and it finds them cold for the keys it uses, so it streams the cache-free tree
`inner.strip`; every later call with that setting is answered from the wrapper's entry.  Hence, for every call of every history:
* `stream_chunks(true)`: every byte attributed exactly as by the cache-free tree's stream;
* `stream_chunks(false)`: the first mapped chunk of every generated line names the same file and original line;
* `map(true)`: the answer resolves every position of `source()` exactly as that stream (and when it is absent nothing is mapped);
* `map(false)`: the answer resolves every generated line `L ≥ 1` to the same file name and original line.
(`Lemmas/RootNested.lean`: invariant `RootInv2`, per-option coldness `ColdAt`; the replay lemmas of `c10_root_history(_lines)` applied
to `inner.strip`.) -/
theorem c10_root_history_nested (id : Nat) (inner : Src) (h : RootHyp2 id inner) (hT : RootHyp inner.strip) (hL : RootHypL inner.strip)
    (calls : List RCall2) (σ : Store) (h0 : ∀ o, σ.get? (id, o) = none) (hc : Cold σ inner.ids) :
    ∀ p ∈ (runRoot2 id inner calls σ).1,
      (match p.2 with
       | .stream r =>
          (p.1.1 = true → attrOf r.evs = attrOf (inner.strip.stream ⟨true, false⟩ []).1.evs)
          ∧ (p.1.1 = false → ∀ L, LNameOf r.evs L = LNameOf (inner.strip.stream ⟨false, false⟩ []).1.evs L)
       | .map m =>
          (p.1.1 = true → (∀ sm, m = some sm → attrFrom (decode sm.mappings) startPos inner.src = attrOf (inner.strip.stream ⟨true, false⟩ []).1.evs)
              ∧ (m = none → attrOf (inner.strip.stream ⟨true, false⟩ []).1.evs = List.replicate inner.src.length none))
          ∧ (p.1.1 = false → ∀ sm, m = some sm → ∀ L, 0 < L → LNameM sm L = LNameOf (inner.strip.stream ⟨false, false⟩ []).1.evs L)) := by
  intro p hp
  have hans := runRoot2_answers id inner h calls σ (rootInv2_cold id inner σ h0 hc) p hp
  obtain ⟨⟨col, kind⟩, a⟩ := p
  cases a with
  | stream r => exact stream_ans_resolve inner hT hL col r hans
  | map m => exact map_ans_resolve inner hT hL col m hans

/-- non-vacuity: a six-call history with both column settings on `CachedSource(ConcatSource[CachedSource(OriginalSource("a;b\nc", "f")),
RawSource("x")])` returns six answers; the structural hypotheses hold -/
example : (runRoot2 0 (.concat (.cons (.cached 1 (.orig [97, 59, 98, 10, 99] [102])) (.cons (.rawStr [120]) .nil)))
      [(true, .map), (false, .stream), (true, .stream), (false, .map), (true, .map), (false, .stream)] []).1.length = 6
    ∧ RootHyp2 0 (.concat (.cons (.cached 1 (.orig [97, 59, 98, 10, 99] [102])) (.cons (.rawStr [120]) .nil))) := by
  refine ⟨by decide +kernel, ⟨by simp [Src.NoCR, SrcList.NoCRs], by decide, by decide, fun _ _ => rfl⟩⟩

/-- **the whole call alphabet of the property on the wrapper and its clones**: `source()` / `buffer()` / `size()` calls interleaved
with `map(columns)` / `stream_chunks(columns)` calls in any order, the wrapped tree containing CachedSource nodes of its own.  The
text views always answer as the wrapped source does (they never touch the caches); the `map` / `stream_chunks` answers are those of
`c10_root_history_nested`.  (`hash` feeds the hasher the wrapped source's hasher input — C14 / C20.) -/
theorem c10_root_history_full (id : Nat) (inner : Src) (h : RootHyp2 id inner) (hT : RootHyp inner.strip) (hL : RootHypL inner.strip)
    (calls : List RCall3) (σ : Store) (h0 : ∀ o, σ.get? (id, o) = none) (hc : Cold σ inner.ids) :
    ∀ p ∈ (runRoot3 id inner calls σ).1,
      (match p.1, p.2 with
       | .src, .text t => t = inner.src
       | .buffer, .text t => t = inner.buffer
       | .size, .num n => n = inner.size
       | .io c2, .io (.stream r) =>
          (c2.1 = true → attrOf r.evs = attrOf (inner.strip.stream ⟨true, false⟩ []).1.evs)
          ∧ (c2.1 = false → ∀ L, LNameOf r.evs L = LNameOf (inner.strip.stream ⟨false, false⟩ []).1.evs L)
       | .io c2, .io (.map m) =>
          (c2.1 = true → (∀ sm, m = some sm → attrFrom (decode sm.mappings) startPos inner.src = attrOf (inner.strip.stream ⟨true, false⟩ []).1.evs)
              ∧ (m = none → attrOf (inner.strip.stream ⟨true, false⟩ []).1.evs = List.replicate inner.src.length none))
          ∧ (c2.1 = false → ∀ sm, m = some sm → ∀ L, 0 < L → LNameM sm L = LNameOf (inner.strip.stream ⟨false, false⟩ []).1.evs L)
       | _, _ => False) := by
  intro p hp
  have hans := runRoot3_answers id inner h calls σ (rootInv2_cold id inner σ h0 hc) p hp
  obtain ⟨c, a⟩ := p
  -- one case per clause of `AnsOK3`
  unfold AnsOK3 at hans
  dsimp only at hans ⊢
  split at hans
  · exact hans
  · exact hans
  · exact hans
  · exact stream_ans_resolve inner hT hL _ _ hans
  · exact map_ans_resolve inner hT hL _ _ hans
  · exact hans.elim


/-! ## the boundary: a CachedSource beneath a ReplaceSource (known finding K5) -/

/-- the witness of K5: `ReplaceSource(CachedSource(ConcatSource[RawBufferSource(";"), SourceMapSource("b", "CAAC")]))` with `"\n"`
inserted at 0; `source()` is `"\n;b"` -/
def k5Witness : Src :=
  .replace (.cached 0 (.concat (.cons (.rawBuf [59] [59]) (.cons (.sms [98] [115] ⟨[67, 65, 65, 67], [[115]], [], [], none, none, none⟩ none none false) .nil))))
    [⟨0, 0, [10], none, 1⟩]

/-- **the hypothesis `Src.NoCR` of the every-history theorems cannot be dropped — the property itself fails there** (known finding
K5, same witness replayed against the crate on every run: `corpus/C03/k5.case`): on `k5Witness` the first
`get_map(columns = false)` leaves generated line 1 (the inserted line break) unmapped, the second — the CachedSource now answers its
normal-mode stream from the lines-only map the first call stored, which attributes whole lines — maps it to file "s", line 1. -/
theorem c10_k5_witness :
    k5Witness.src = [10, 59, 98] ∧ ¬ k5Witness.NoCR ∧ k5Witness.ids.Nodup
    ∧ ((getMap k5Witness ⟨false, false⟩ []).1.map fun m => LNameM m 1) = some none
    ∧ ((getMap k5Witness ⟨false, false⟩ (getMap k5Witness ⟨false, false⟩ []).2).1.map fun m => LNameM m 1) = some (some (some [115], 1)) := by
  refine ⟨by decide +kernel, by simp [k5Witness, Src.NoCR, Src.NoCached], by decide +kernel, by decide +kernel, by decide +kernel⟩

end Rs
