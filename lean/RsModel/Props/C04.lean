import RsModel.Model.Stream
import RsModel.Lemmas.ProvOrigTree
import RsModel.Lemmas.ReplaceOrig
import RsModel.Lemmas.ProvChunks
import RsModel.Lemmas.ProvBytes
import RsModel.Lemmas.SourcesOnce
import RsModel.Lemmas.ColdStrip
import RsModel.Lemmas.ProvRepl
import RsModel.Lemmas.ProvNest
import RsModel.Lemmas.HistoryAnswers
import RsModel.Lemmas.WarmLinesF
/-!
# C04 — mappings point to where the text really came from
(the OriginalSource leaf maps every token to its own position; trees of OriginalSource / raw leaves under ConcatSource and
ReplaceSource nodes, with CachedSource wrappers, are followed through `map()`; SourceMapSource nodes are tied by correspondence)
-/
namespace Rs

/-- every chunk an OriginalSource streams with columns is either unmapped (an empty line) or mapped to
exactly its own generated line and column in source 0, without name -/
theorem c04_original_identity (final : Bool) : ∀ (toks : List Text) (l c : Nat),
    ∀ e ∈ (origTokChunks final l c toks).1, ∀ t m, e = .chunk t m → m.orig = none ∨ m.orig = some ⟨0, m.gl, m.gc, none⟩ := by
  intro toks
  induction toks with
  | nil => intro l c e he; simp [origTokChunks] at he
  | cons tok toks ih =>
    intro l c e he t m hm
    simp only [origTokChunks, List.mem_append] at he
    rcases he with he | he
    · split at he
      · split at he
        · simp at he
        · simp at he; subst he; injection hm with h1 h2; subst h2; exact Or.inl rfl
      · simp at he; subst he; injection hm with h1 h2; subst h2; exact Or.inr rfl
    · split at he
      · exact ih _ _ e he t m hm
      · exact ih _ _ e he t m hm

/-- with `columns = false` every line is mapped to its own line at column 0 -/
theorem c04_original_lines : ∀ (ls : List Text) (l : Nat),
    ∀ e ∈ origLineChunks l ls, ∃ t k, e = .chunk (some t) ⟨k, 0, some ⟨0, k, 0, none⟩⟩ := by
  intro ls l e he
  rw [origLineChunks_eq] at he
  obtain ⟨t, _, k, rfl⟩ := lineEvs_mem he
  exact ⟨t, k, rfl⟩

/-- the OriginalSource announces exactly one source: its name with its full text as content -/
theorem c04_original_announces (t name : Text) (o : Opts) :
    (streamOriginal t name o).evs.head? = some (.source 0 name (some t)) := by
  obtain ⟨rest, e, _⟩ := streamOriginal_evs t name o
  rw [e]; rfl


/-! ## provenance: where every byte is attributed (columns = true)

`prov s` is computed from the tree alone: for every byte of `source()` the file it was copied from, that file's text and the
byte's offset in it (`none` for raw text).  `GoodN r p` says that the resolved attribution `r` (file name, embedded content, line,
column, name) is right for provenance `p`: raw text is unmapped; a byte copied from offset `k` of file `name` with text `t`
resolves to that file with that content, to the byte's own original line, and to the column at which the potential token that
contains the byte starts — never after the byte's own column, exactly its column when it starts a token — without name; the only
exception is the line break of an empty line, which is unmapped. -/

/-- OriginalSource leaf (columns = true): every byte `j` of the text is attributed to source 0 at its own line and at the start column
of the potential token it lies in (bytes `k .. k+len`, `tokOffs`) — never after the byte's own column, exactly that column when the
byte starts a token; the only exception are the line breaks of empty lines, which are unmapped. -/
theorem c04_original_attr (t name : Text) (j : Nat) (hj : j < t.length) :
    ((attrOf (streamOriginal t name ⟨true, false⟩).evs)[j]? = some none ∧ t[j]? = some NL ∧ (adv startPos (t.take j)).col = 0)
    ∨ ∃ k len, k ≤ j ∧ j < k + len ∧ (k, len) ∈ tokOffs 0 (tokens t) ∧ j - k ≤ (adv startPos (t.take j)).col
        ∧ (attrOf (streamOriginal t name ⟨true, false⟩).evs)[j]? = some (some ⟨0, (adv startPos (t.take j)).line, (adv startPos (t.take j)).col - (j - k), none⟩) :=
  original_attr t name j hj

/-- **C04, chunk stream**: for every tree of OriginalSource and raw leaves under ConcatSource (any nesting; one content per
file name), the stream an outside caller obtains attributes every byte rightly for its provenance -/
theorem c04_stream (cons : Text → Option Text) (s : Src) (hs : s.OrigTree) (hw : Src.WD cons true s) (σ : Store) :
    AllGood (s.attr true σ) s.prov := Src.prov_stream cons s hs hw σ

/-- **C04, through `map()`**: resolving the position of every byte of `source()` through the SourceMap `get_map` returns (= `map()`
for OriginalSource and ConcatSource roots) — greatest segment at or before the position on its line, then the map's own
`sources` / `sourcesContent` tables — is right for the byte's provenance.  Chain: codec round trip (C12) ∘ text-less = normal
mode (C03 T3) ∘ true positions (C02) ∘ ConcatSource attribution (C06) ∘ OriginalSource leaf: `getMap_resolveM` (the map read
through its own tables says what the normal stream says, for any tree of the domain of C03 whose files all carry content) ∘ `c04_stream`.
ReplaceSource and CachedSource nodes: `c04_bundle_map_bytes`, `c04_nested_map_bytes`, `c04_every_history_map_bytes` below. -/
theorem c04_map (cons : Text → Option Text) (s : Src) (hs : s.OrigTree) (hw : Src.WD cons true s) (final : Bool)
    (hsmall : ∀ m ∈ chunkMs (s.stream ⟨true, true⟩ []).1.evs, m.small) (sm : SMap) (hm : (getMap s ⟨true, final⟩ []).1 = some sm) :
    AllGood ((attrFrom (decode sm.mappings) startPos s.src).map (Option.map (resolveM sm))) s.prov := by
  rw [getMap_resolveM s (Src.origTree_mode s hs) (Src.origTree_allContent s ⟨true, false⟩ [] hs) final hsmall sm hm]
  exact Src.prov_stream cons s hs hw []

theorem c04_map_pointwise (cons : Text → Option Text) (s : Src) (hs : s.OrigTree) (hw : Src.WD cons true s) (final : Bool)
    (hsmall : ∀ m ∈ chunkMs (s.stream ⟨true, true⟩ []).1.evs, m.small) (sm : SMap) (hm : (getMap s ⟨true, final⟩ []).1 = some sm) :
    ∀ (j : Nat) r p, ((attrFrom (decode sm.mappings) startPos s.src).map (Option.map (resolveM sm)))[j]? = some r → s.prov[j]? = some p → GoodN r p :=
  (allGood_index _ _ (c04_map cons s hs hw final hsmall sm hm)).2

/-- non-vacuity: two OriginalSources with different names around raw text are in the domain, and the provenance of byte 4 of
`"x;\ny" ++ ";" ++ "z"` is raw text while byte 5 comes from offset 0 of `b` -/
example : (Src.concat (.cons (.orig [120, 59, 10, 121] [97]) (.cons (.rawStr [59]) (.cons (.orig [122] [98]) .nil)))).OrigTree
    ∧ (Src.concat (.cons (.orig [120, 59, 10, 121] [97]) (.cons (.rawStr [59]) (.cons (.orig [122] [98]) .nil)))).prov
        = [some ([97], [120, 59, 10, 121], 0), some ([97], [120, 59, 10, 121], 1), some ([97], [120, 59, 10, 121], 2),
           some ([97], [120, 59, 10, 121], 3), none, some ([98], [122], 0)] :=
  ⟨⟨trivial, trivial, trivial, trivial⟩, by decide +kernel⟩

/-- **C04, ReplaceSource over an (ASCII) OriginalSource, chunk stream**: every chunk the ReplaceSource delivers is unmapped, or
reports source 0 at the *true* line and column, in the original text `T`, of byte `k + p` — `k` being the start of a potential
token `tok` of `T` and `p < |tok|` the offset inside it at which the delivered piece was cut (or replacement content spliced in);
and the delivered text is exactly that piece `tok[p..q)` — the bytes `T[k+p .. k+q)`, so the chunk *starts on the very byte whose
position it reports* and every following byte of the piece is an original byte of the same line with a larger column — or it is a
line of the content of one of the replacements.
Chain: token positions of the OriginalSource (C02) ∘ token lies in its line ∘ the recorded content spells out the chunk (`FM`) ∘
the advance rule of `ReplaceSource` (C06). -/
theorem c04_replace_original_stream (T name : Text) (ha : IsAscii T) (hl : T.length < USIZE_MAX) (rs : List Repl) (final : Bool) (σ : Store) :
    ∀ t' mm, Ev.chunk t' mm ∈ ((Src.replace (.orig T name) rs).stream ⟨true, final⟩ σ).1.evs →
      mm.orig = none ∨ ∃ tok k p y, k + p < T.length ∧ p < tok.length ∧ tok <+: T.drop k ∧ TokOK tok ∧ mm.orig = some y ∧ y.src = 0
        ∧ adv startPos (T.take (k + p)) = ⟨y.line, y.col⟩
        ∧ ((∃ q, p < q ∧ q ≤ tok.length ∧ t' = some (bsub tok p q))
            ∨ (∃ r ∈ sortRepls rs, ∃ cl ∈ splitLines r.content, t' = some cl)) := by
  intro t' mm hmem
  -- the theorem for trees (`replace_origTree_true`, which `c04_replace_tree_stream` below states), with `name ↦ T` as the only file
  rcases replace_origTree_true (fun n => if n = name then some T else none) (.orig T name) trivial (if_pos rfl)
    (fun n T' h => by split at h <;> cases h; exact ⟨ha, hl⟩) rs final σ t' mm hmem with h | ⟨nm, T', q, y, hy, hS, hq, hpos, hkind⟩
  · exact Or.inl h
  -- the file a chunk names was announced; a ReplaceSource announces what its inner stream does, and the OriginalSource only
  -- itself: source 0 with content `T`
  obtain ⟨h0, -, hT⟩ := streamOriginal_source (((replaceStream_keeps (sortRepls rs) (streamOriginal T name ⟨true, false⟩)).2 _ _ _).1
    ((tblS_mem _ _ _ _ hS).resolve_left nofun))
  cases hT
  rcases hkind with ⟨q', h1, h2, rfl, _, tok, k0, l0, c0, htok, h3, h4⟩ | h
  · -- a surviving piece `T[q..q')`, inside the potential token `tok` at `k0`: cut from it at `p = q - k0`
    obtain ⟨p, rfl⟩ := Nat.exists_eq_add_of_le h3
    obtain ⟨e, rfl⟩ := Nat.exists_eq_add_of_le (Nat.le_trans h3 (Nat.le_of_lt h1))
    have hpe := Nat.lt_of_add_lt_add_left h1
    have he := Nat.le_of_add_le_add_left h4
    exact Or.inr ⟨tok, k0, p, y, hq, Nat.lt_of_lt_of_le hpe he, htok.pre, htok.ok, hy, h0, hpos,
      Or.inl ⟨e, hpe, he, congrArg some (bsub_of_prefix_drop T tok k0 p e htok.pre he).symm⟩⟩
  · -- replacement content spliced in at byte `q`: that byte alone is a potential token
    exact Or.inr ⟨[T[q]], q, 0, y, hq, Nat.zero_lt_one, by rw [List.drop_eq_getElem_cons hq]; exact ⟨_, rfl⟩,
      tokOK_singleton _, hy, h0, hpos, Or.inr h⟩

/-- **C04, the same through `map()`**: whatever the SourceMap `get_map` returns for the ReplaceSource resolves a byte of `source()`
to, is source 0 at a real position (line, column of some byte) of the original text.
PARTIAL (w.r.t. the property): says the position exists in the original, not which replacement-free byte it is the image of; that
clause is `c04_replace_tree_map_bytes`. -/
theorem c04_replace_original_map (T name : Text) (ha : IsAscii T) (hl : T.length < USIZE_MAX) (rs : List Repl)
    (hr : ∀ r ∈ rs, r.start ≤ r.stop) (hlen : (replaceSource T rs).length + 1 < 2 ^ 32) (final : Bool)
    (hsmall : ∀ m ∈ chunkMs ((Src.replace (.orig T name) rs).stream ⟨true, true⟩ []).1.evs, m.small)
    (sm : SMap) (hm : (getMap (.replace (.orig T name) rs) ⟨true, final⟩ []).1 = some sm) :
    ∀ o, some o ∈ attrFrom (decode sm.mappings) startPos (replaceSource T rs) → TruePos T o := by
  intro o ho
  have hmode : (Src.replace (.orig T name) rs).ModeHyp := ⟨trivial, hr, hlen⟩
  rw [show replaceSource T rs = (Src.replace (.orig T name) rs).src from rfl, (getMap_attr _ hmode final hsmall).1 sm hm] at ho
  obtain ⟨m, hm1, hm2⟩ := attrOf_mem _ _ ho
  obtain ⟨t, ht⟩ := chunk_of_mem_chunkMs _ m hm1
  rcases c04_replace_original_stream T name ha hl rs false [] t m ht with h | ⟨tok, k, p, y, h1, _, _, _, h5, h6, h7, _⟩
  · rw [h] at hm2; cases hm2
  · rw [h5] at hm2; cases hm2
    exact ⟨h6, k + p, h1, h7⟩

/-- non-vacuity: replacing `b` in `"abc\nd"` by `"XY"` delivers the replacement content mapped to (1, 1) — where `b` stood — and the
rest of the token, `"c\n"`, mapped to (1, 2) although it is delivered at generated column 3 -/
example : (replaceStream (sortRepls [⟨1, 2, [88, 89], none, 1⟩]) (streamOriginal [97, 98, 99, 10, 100] [102] ⟨true, false⟩)).evs
    = [.source 0 [102] (some [97, 98, 99, 10, 100]),
       .chunk (some [97]) ⟨1, 0, some ⟨0, 1, 0, none⟩⟩,
       .chunk (some [88, 89]) ⟨1, 1, some ⟨0, 1, 1, none⟩⟩,
       .chunk (some [99, 10]) ⟨1, 3, some ⟨0, 1, 2, none⟩⟩,
       .chunk (some [100]) ⟨2, 0, some ⟨0, 2, 0, none⟩⟩] := by decide +kernel

/-- **C04, ReplaceSource over a ConcatSource tree of OriginalSource / raw leaves, chunk stream** (ASCII file contents, one content
per file name): every chunk the ReplaceSource delivers is unmapped, or names — through the files the stream itself announces — a
file with its content `T` and a line and column that are the *true* position in `T` of some byte `q` of `T`; and the delivered
text is the bytes `T[q..q')` of that very file starting at that very byte, byte `j` of the chunk being the byte of `T` whose true
position is the reported line and the reported column plus `j` (so every surviving original character is covered by a segment
of its own file and its own original line whose column is not after it, and the segment starts on the character it names), or a line of
the content of one of the replacements (generated text, attributed to the byte `q` it was spliced in at).
Chain: every mapped chunk of the inner tree's stream is a token of its file at its true position (`ProvOK`: OriginalSource leaf,
kept by ConcatSource's renumbering) ∘ the ReplaceSource records the announced contents under the same indices ∘ the recorded
content spells out the inner chunk (`FM`) ∘ the advance rule (C06). -/
theorem c04_replace_tree_stream (cons : Text → Option Text) (inner : Src) (ho : inner.OrigTree) (hw : Src.WD cons true inner)
    (hasc : ∀ n T, cons n = some T → IsAscii T ∧ T.length < USIZE_MAX) (rs : List Repl) (final : Bool) (σ : Store) :
    ∀ t' mm, Ev.chunk t' mm ∈ ((Src.replace inner rs).stream ⟨true, final⟩ σ).1.evs →
      mm.orig = none ∨ ∃ name T q y, mm.orig = some y
        ∧ tblS emptyS ((Src.replace inner rs).stream ⟨true, final⟩ σ).1.evs y.src = some (name, some T)
        ∧ q < T.length ∧ adv startPos (T.take q) = ⟨y.line, y.col⟩
        ∧ ((∃ q', q < q' ∧ q' ≤ T.length ∧ t' = some (bsub T q q')
              ∧ (∀ j, j < q' - q → adv startPos (T.take (q + j)) = ⟨y.line, y.col + j⟩)
              ∧ ∃ tok k0 l0 c0, TokPos T tok l0 c0 k0 ∧ k0 ≤ q ∧ q' ≤ k0 + tok.length)
            ∨ (∃ r ∈ sortRepls rs, ∃ cl ∈ splitLines r.content, t' = some cl)) :=
  replace_origTree_true cons inner ho hw hasc rs final σ

/-- **… and through `map()`**: whatever the SourceMap returned for such a ReplaceSource resolves a byte of `source()` to — through
the map's own `sources` / `sourcesContent` tables — is a file with its exact content and the true line and column of some byte of it.
PARTIAL (w.r.t. the property): "a true position of the named file"; that it is the position the delivered byte was copied from
is `c04_replace_tree_map_bytes`. -/
theorem c04_replace_tree_map (cons : Text → Option Text) (inner : Src) (ho : inner.OrigTree) (hw : Src.WD cons true inner)
    (hasc : ∀ n T, cons n = some T → IsAscii T ∧ T.length < USIZE_MAX) (rs : List Repl)
    (hr : ∀ r ∈ rs, r.start ≤ r.stop) (hlen : (replaceSource inner.src rs).length + 1 < 2 ^ 32) (final : Bool)
    (hsmall : ∀ m ∈ chunkMs ((Src.replace inner rs).stream ⟨true, true⟩ []).1.evs, m.small)
    (sm : SMap) (hm : (getMap (.replace inner rs) ⟨true, final⟩ []).1 = some sm) :
    ∀ o, some o ∈ attrFrom (decode sm.mappings) startPos (replaceSource inner.src rs) →
      ∃ name T q, sm.sources[o.src]? = some name ∧ sm.sourcesContent[o.src]? = some T ∧ q < T.length
        ∧ adv startPos (T.take q) = ⟨o.line, o.col⟩ :=
  replace_origTree_map cons inner ho hw hasc rs hr hlen final hsmall sm hm


/-- **C04 through `map()`, byte by byte** (ReplaceSource over any ConcatSource tree of OriginalSource / raw leaves): for every byte
`i` of `source()` whose position the returned SourceMap resolves to `o`: through the map's own `sources` / `sourcesContent`, `o`
names a file with its exact content `T` and the true line and column of a byte `q` of `T`; and either byte `i` *is* the original
byte `T[q + d]`, whose own true position is `o`'s line and `o`'s column plus `d` — a surviving original character is attributed to
its own file and its own original line, at a column not after its own, by a segment that starts on an original character —
or byte `i` belongs to the content of one of the replacements (generated text, attributed to where it was spliced in).
The segment start and the byte lie in one potential token of `T` that starts at `k0 ≤ q`; a surviving byte that begins a
potential token — a statement start — therefore has `q = k0`, `d = 0`: it resolves to exactly its own original line and column
(`c04_statement_start_exact`).  This is the property's statement for columns = true on this family of trees; it is
`c04_bundle_map_bytes` (`replTree_map_bytes`) at a ReplaceSource root.  Chain: `getMap_provQ` (C12 codec ∘ C03-T3, text-less = normal
mode ∘ `attrOf`, bytes of a chunk share its mapping ∘ the table relation `mapAcc_tblRel`) ∘ `Src.stream_provQ` (what every mapped chunk
of the stream is: `c04_bundle_stream`). -/
theorem c04_replace_tree_map_bytes (cons : Text → Option Text) (inner : Src) (ho : inner.OrigTree) (hw : Src.WD cons true inner)
    (hasc : ∀ n T, cons n = some T → IsAscii T ∧ T.length < USIZE_MAX) (rs : List Repl)
    (hr : ∀ r ∈ rs, r.start ≤ r.stop) (hlen : (replaceSource inner.src rs).length + 1 < 2 ^ 32) (final : Bool)
    (hsmall : ∀ m ∈ chunkMs ((Src.replace inner rs).stream ⟨true, true⟩ []).1.evs, m.small)
    (sm : SMap) (hm : (getMap (.replace inner rs) ⟨true, final⟩ []).1 = some sm) :
    ∀ (i : Nat) (o : Orig), (attrFrom (decode sm.mappings) startPos (replaceSource inner.src rs))[i]? = some (some o) →
      ∃ (name T : Text) (q d : Nat), sm.sources[o.src]? = some name ∧ sm.sourcesContent[o.src]? = some T ∧ q < T.length
        ∧ adv startPos (T.take q) = ⟨o.line, o.col⟩
        ∧ ((q + d < T.length ∧ (replaceSource inner.src rs)[i]? = T[q + d]?
              ∧ adv startPos (T.take (q + d)) = ⟨o.line, o.col + d⟩
              ∧ ∃ tok k0 l0 c0, TokPos T tok l0 c0 k0 ∧ k0 ≤ q ∧ q + d < k0 + tok.length)
            ∨ (∃ r ∈ sortRepls rs, ∃ cl ∈ splitLines r.content, d < cl.length ∧ (replaceSource inner.src rs)[i]? = cl[d]?)) := by
  intro i o hget
  obtain ⟨name, T, q, d, h1, h2, h3, h4, h5⟩ :=
    replTree_map_bytes cons (.replace inner rs) ⟨ho, hw⟩ ⟨hr, hlen⟩ hasc final hsmall sm hm i o hget
  exact ⟨name, T, q, d, h1, h2, h3, h4, h5.imp id fun ⟨r, hr1, rest⟩ => ⟨r, (mem_sortRepls rs r).2 hr1, rest⟩⟩


/-- **a ConcatSource announces every file name at most once**, whatever its children are and stream (any node kinds, any maps,
either mode): a source is announced only when its name is not yet a key of the name-keyed table, and is then entered -/
theorem c04_concat_sources_once (final : Bool) (cs : List SResult) : (annS (concatStream final cs).evs).Nodup :=
  concatStream_annS_nodup final cs

/-- **`sources` of `map()` lists each original file once** — for every tree of OriginalSource / raw leaves under ConcatSource
(any nesting), and for a ReplaceSource over such a tree; both column settings: the `sources` table of the SourceMap is exactly the
list of files the (text-less) stream announces (the indices are dense: C11), and that list has no repetition -/
theorem c04_sources_once (inner : Src) (ho : inner.OrigTree) (o : Opts) (σ : Store) :
    (∀ sm, (getMap inner o σ).1 = some sm → sm.sources.Nodup)
    ∧ (∀ rs sm, (getMap (.replace inner rs) o σ).1 = some sm → sm.sources.Nodup) := by
  have hnc := Src.origTree_nc inner ho
  have key : ∀ (s : Src), s.IdxHyp → s.NoCached → (annS (s.stream ⟨o.columns, true⟩ σ).1.evs).Nodup →
      ∀ sm, (getMap s o σ).1 = some sm → sm.sources.Nodup := by
    intro s hidx hn hnd sm hm
    rw [(mapOfEvs_tables o.columns _ sm hm).1, mapAcc_sources_annS _ 0 0 {} (Src.declOK_nc s hn hidx _ σ) rfl]
    simpa using hnd
  refine ⟨key inner (Src.origTree_idx inner ho) hnc (Src.origTree_annS_nodup inner _ σ ho), fun rs => ?_⟩
  exact key (.replace inner rs) (Src.origTree_idx inner ho) hnc (replace_origTree_annS_nodup inner rs _ σ ho)


/-- **C04, columns = false** (every tree of OriginalSource / raw leaves under ConcatSource, any nesting): when the SourceMap
returned for `columns = false` resolves the generated line `L` to (source `si`, original line `ol`) — first mapped segment of the
line, the lines-only reading of a map — then, through the map's own `sources` / `sourcesContent`, `si` is a file with its exact
content `T`; `(si, ol)` is what the *first mapped chunk on line `L`* of the source's own lines-mode stream says; and that chunk is
the line `ln` of `T` standing at the true position (`ol`, `c`) of `T`.  Raw text is never mapped, so this chunk is the first
original text on the line: every output line is attributed to the file and line of the first original text on it.
Chain: C12 lines (the lines-only encoder writes the first mapped chunk per line) ∘ C03 lines (text-less = normal mode) ∘ the
provenance invariant `ProvOK` for lines-mode streams (OriginalSource: one chunk per line of its text; kept by ConcatSource's
renumbering) ∘ the table relation `mapAcc_tblRel`. -/
theorem c04_lines_map (cons : Text → Option Text) (inner : Src) (ho : inner.OrigTree) (hw : Src.WD cons false inner) (final : Bool)
    (hsmall : ∀ m ∈ chunkMs (inner.stream ⟨false, true⟩ []).1.evs, ∀ o, m.orig = some o → o.src < U31 ∧ o.line < U31)
    (sm : SMap) (hm : (getMap inner ⟨false, final⟩ []).1 = some sm) (L si ol : Nat) (hL : 0 < L)
    (hlook : lookupLines (decode sm.mappings) L = some (si, ol)) :
    lookupLines (chunkMs (inner.stream ⟨false, false⟩ []).1.evs) L = some (si, ol)
    ∧ ∃ (name T ln : Text) (c k : Nat) (m : Mapping), sm.sources[si]? = some name ∧ sm.sourcesContent[si]? = some T
        ∧ Ev.chunk (some ln) m ∈ (inner.stream ⟨false, false⟩ []).1.evs ∧ m.gl = L ∧ TokPos T ln ol c k :=
  origTree_lines_map cons inner ho hw final hsmall sm hm L si ol hL hlook


/-- a surviving byte that begins a potential token of its file — a statement start — is the first byte of its segment: exact
line and column (arithmetic corollary of the token clause of `c04_replace_tree_map_bytes`) -/
theorem c04_statement_start_exact (q d k0 : Nat) (hk : k0 ≤ q) (hstart : q + d = k0) : d = 0 ∧ q = k0 := by omega


/-- **C04 with CachedSource nodes on cold caches**: the map of a tree with CachedSource wrappers, all cold, is
the map of the same tree without them (`Src.strip`), whose text is the same — so the provenance theorems above (`c04_map`,
`c04_replace_tree_map_bytes`, `c04_lines_map`, `c04_sources_once`, stated for cache-free trees) hold for the first `map()` of
such a tree as they stand. -/
theorem c04_cold_caches (s : Src) (o : Opts) (σ : Store) (hn : s.ids.Nodup) (hc : Cold σ s.ids) :
    (getMap s o σ).1 = (getMap s.strip o []).1 ∧ s.src = s.strip.src ∧ s.strip.NoCached :=
  ⟨getMap_strip s o σ hn hc, (Src.strip_src s).symm, Src.strip_nc s⟩


/-- **C04, chunk stream, for every tree of raw / OriginalSource leaves, ReplaceSource nodes over trees of those, and ConcatSource at
any nesting** (`Src.ReplWD`: e.g. a ConcatSource of modules each wrapped in a ReplaceSource; one content per file name): every
mapped chunk names — through the files announced so far in the stream — a file with its content `T` and the true line and column
of a byte `q` of `T`, and is the piece `T[q..q')` of that very file starting at that very byte, inside one potential token, byte `j`
of the chunk being at the reported column plus `j` — or it is a line of the content of one of the tree's replacements.
(`ProvQ`: the invariant is kept by ConcatSource's renumbering whatever the chunks say about their files.) -/
theorem c04_bundle_stream (cons : Text → Option Text) (hasc : ∀ n T, cons n = some T → IsAscii T ∧ T.length < USIZE_MAX)
    (s : Src) (h : s.ReplWD cons) (σ : Store) :
    ProvQ (TrueQ (GenOf s.allRepls)) emptyS (s.stream ⟨true, false⟩ σ).1.evs :=
  Src.stream_provQ cons hasc s h σ

/-- **… and through `map()`, byte by byte**: for every byte `i` of `source()` that the returned SourceMap resolves to `o`: through the
map's own tables `o` names the file the byte was copied from, with its exact content `T`, and the true position of a byte `q` of
`T`; the byte is the original byte `T[q + d]` whose own true position is `o`'s line and `o`'s column plus `d` (own file, own line,
column not after its own; a byte that begins the potential token has `d = 0`), or it belongs to the content of a replacement. -/
theorem c04_bundle_map_bytes (cons : Text → Option Text) (s : Src) (h : s.ReplWD cons) (hz : s.ReplSized)
    (hasc : ∀ n T, cons n = some T → IsAscii T ∧ T.length < USIZE_MAX) (final : Bool)
    (hsmall : ∀ m ∈ chunkMs (s.stream ⟨true, true⟩ []).1.evs, m.small)
    (sm : SMap) (hm : (getMap s ⟨true, final⟩ []).1 = some sm) :
    ∀ (i : Nat) (o : Orig), (attrFrom (decode sm.mappings) startPos s.src)[i]? = some (some o) →
      ∃ (name T : Text) (q d : Nat), sm.sources[o.src]? = some name ∧ sm.sourcesContent[o.src]? = some T ∧ q < T.length
        ∧ adv startPos (T.take q) = ⟨o.line, o.col⟩
        ∧ ((q + d < T.length ∧ s.src[i]? = T[q + d]? ∧ adv startPos (T.take (q + d)) = ⟨o.line, o.col + d⟩
              ∧ ∃ tok k0 l0 c0, TokPos T tok l0 c0 k0 ∧ k0 ≤ q ∧ q + d < k0 + tok.length)
            ∨ (∃ r ∈ s.allRepls, ∃ cl ∈ splitLines r.content, d < cl.length ∧ s.src[i]? = cl[d]?)) :=
  replTree_map_bytes cons s h hz hasc final hsmall sm hm

/-- non-vacuity: `ConcatSource[ReplaceSource(OriginalSource("a;b", "f")), OriginalSource("c", "g")]` is such a tree -/
example : (Src.concat (.cons (.replace (.orig [97, 59, 98] [102]) [⟨1, 2, [88], none, 1⟩]) (.cons (.orig [99] [103]) .nil))).ReplWD
    (fun n => if n = [102] then some [97, 59, 98] else if n = [103] then some [99] else none) := by
  simp [Src.ReplWD, SrcList.ReplWDs, Src.OrigTree, Src.WD]

/-- **C04, chunk stream, for every cache-free tree of raw / OriginalSource leaves under ConcatSource and ReplaceSource nodes nested
in any way** (`Src.NestWD`: ReplaceSource over ReplaceSource, directly or through ConcatSource, included; one content per file
name, ASCII): every mapped chunk names — through the files announced so far in the stream — a file with its content `T` and is
either a *surviving piece* `T[q..q')` of that very file inside one potential token, attributed to the true line and column of byte
`q`, byte `j` of the piece at the reported column plus `j`; or *generated text*: a slice of a line of the content of one of the
tree's replacements (the property's don't-care — an outer ReplaceSource may cut generated text of an inner one into pieces and
computes columns for them that mean nothing; nothing is claimed about them).  (`rEvs_survQ`: a ReplaceSource keeps this for any
inner stream that has it.) -/
theorem c04_nested_stream (cons : Text → Option Text) (hasc : ∀ n T, cons n = some T → IsAscii T ∧ T.length < USIZE_MAX)
    (s : Src) (h : s.NestWD cons) (σ : Store) :
    ProvQ (SurvQ (GenIn s.allReplsN)) emptyS (s.stream ⟨true, false⟩ σ).1.evs :=
  Src.stream_survQ cons hasc s h σ

/-- **… and through `map()`, byte by byte**: every byte `i` of `source()` that the returned SourceMap resolves to `o` is, through
the map's own `sources` / `sourcesContent`, either the original byte `T[q + d]` of the file `o` names, inside a surviving piece
starting at byte `q` whose true position is `o`'s line and column, the byte's own true position being that line and that column
plus `d` — or a byte of a line of the content of one of the tree's replacements. -/
theorem c04_nested_map_bytes (cons : Text → Option Text) (s : Src) (h : s.NestWD cons) (hz : s.NestSized)
    (hasc : ∀ n T, cons n = some T → IsAscii T ∧ T.length < USIZE_MAX) (final : Bool)
    (hsmall : ∀ m ∈ chunkMs (s.stream ⟨true, true⟩ []).1.evs, m.small)
    (sm : SMap) (hm : (getMap s ⟨true, final⟩ []).1 = some sm) :
    ∀ (i : Nat) (o : Orig), (attrFrom (decode sm.mappings) startPos s.src)[i]? = some (some o) →
      ∃ (name T : Text), sm.sources[o.src]? = some name ∧ sm.sourcesContent[o.src]? = some T
        ∧ ((∃ q d, q + d < T.length ∧ adv startPos (T.take q) = ⟨o.line, o.col⟩ ∧ s.src[i]? = T[q + d]?
              ∧ adv startPos (T.take (q + d)) = ⟨o.line, o.col + d⟩
              ∧ ∃ tok k0 l0 c0, TokPos T tok l0 c0 k0 ∧ k0 ≤ q ∧ q + d < k0 + tok.length)
            ∨ (∃ r ∈ s.allReplsN, ∃ cl ∈ splitLines r.content, ∃ e, e < cl.length ∧ s.src[i]? = cl[e]?)) :=
  nestTree_map_bytes cons s h hz hasc final hsmall sm hm

/-- non-vacuity: `ReplaceSource(ConcatSource[ReplaceSource(OriginalSource("a;b", "f")), OriginalSource("c", "g")])` is such a tree -/
example : (Src.replace (Src.concat (.cons (.replace (.orig [97, 59, 98] [102]) [⟨1, 2, [88], none, 1⟩]) (.cons (.orig [99] [103]) .nil)))
      [⟨0, 2, [89, 90], none, 2⟩]).NestWD
    (fun n => if n = [102] then some [97, 59, 98] else if n = [103] then some [99] else none) := by
  simp [Src.NestWD, SrcList.NestWDs]

/-- **C04 for the second `map()` of a tree with CachedSource nodes** (the two-call history `map(); map()`, columns = true):
CachedSource nodes at any depth and in any number (none beneath a ReplaceSource — K5) over a tree of raw / OriginalSource leaves,
ConcatSource and ReplaceSource nodes; the first `get_map` ran on cold caches.  Every byte `i` of `source()` that the *second* map —
built by replaying the maps the first call stored — resolves to `o2` is resolved by the first map to an `o1` with the same file name
(each map through its own `sources`), the same line and the same column; and that file, with the content the first map lists for
it, holds the byte as a surviving original byte at exactly that line and that column plus `d` — or the byte is generated text.
Chain: `c10_map_twice` ∘ `c04_cold_caches` ∘ `c04_nested_map_bytes`. -/
theorem c04_second_map_bytes (cons : Text → Option Text) (s : Src) (σ : Store) (h : s.ModeHypC) (hk : s.CachedOK) (hs : s.SmallF)
    (hn : s.ids.Nodup) (hc : Cold σ s.ids) (hW : s.strip.NestWD cons) (hz : s.strip.NestSized)
    (hasc : ∀ n T, cons n = some T → IsAscii T ∧ T.length < USIZE_MAX) (f1 f2 : Bool)
    (hsmall1 : ∀ m ∈ chunkMs (s.stream ⟨true, true⟩ σ).1.evs, m.small)
    (hsmall2 : ∀ m ∈ chunkMs ((s.warm ⟨true, true⟩).stream ⟨true, true⟩ []).1.evs, m.small)
    (sm1 sm2 : SMap) (h1 : (getMap s ⟨true, f1⟩ σ).1 = some sm1) (h2 : (getMap s ⟨true, f2⟩ (getMap s ⟨true, f1⟩ σ).2).1 = some sm2) :
    ∀ (i : Nat) (o2 : Orig), (attrFrom (decode sm2.mappings) startPos s.src)[i]? = some (some o2) →
      ∃ (o1 : Orig) (name T : Text), (attrFrom (decode sm1.mappings) startPos s.src)[i]? = some (some o1)
        ∧ sm2.sources[o2.src]? = some name ∧ sm1.sources[o1.src]? = some name ∧ o2.line = o1.line ∧ o2.col = o1.col
        ∧ sm1.sourcesContent[o1.src]? = some T
        ∧ ((∃ q d, q + d < T.length ∧ adv startPos (T.take q) = ⟨o2.line, o2.col⟩ ∧ s.src[i]? = T[q + d]?
              ∧ adv startPos (T.take (q + d)) = ⟨o2.line, o2.col + d⟩
              ∧ ∃ tok k0 l0 c0, TokPos T tok l0 c0 k0 ∧ k0 ≤ q ∧ q + d < k0 + tok.length)
            ∨ (∃ r ∈ s.strip.allReplsN, ∃ cl ∈ splitLines r.content, ∃ e, e < cl.length ∧ s.src[i]? = cl[e]?)) := by
  have h1' : (getMap s.strip ⟨true, f1⟩ []).1 = some sm1 := by rw [← getMap_strip s ⟨true, f1⟩ σ hn hc]; exact h1
  have hsm : ∀ m ∈ chunkMs (s.strip.stream ⟨true, true⟩ []).1.evs, m.small := by
    rw [← Src.stream_strip s ⟨true, true⟩ σ hn hc]; exact hsmall1
  intro i o2 hget
  obtain ⟨o1, g1, e1, e2, e3⟩ := same_resolution_at sm1 sm2 _ _ (getMap_twice s σ h hk hs hn hc f1 f2 hsmall1 hsmall2 sm1 sm2 h1 h2) i o2 hget
  have := c04_nested_map_bytes cons s.strip hW hz hasc f1 hsm sm1 h1' i o1 (by rw [Src.strip_src]; exact g1)
  rw [Src.strip_src] at this
  obtain ⟨name, T, b1, b2, b3⟩ := this
  exact ⟨o1, name, T, g1, e1.trans b1, b1, e2, e3, b2, by rw [e2, e3]; exact b3⟩

/-- non-vacuity: `ConcatSource[CachedSource(OriginalSource("a;b", "f")), RawSource("x")]` has such a cache-free form -/
example : (Src.concat (.cons (.cached 0 (.orig [97, 59, 98] [102])) (.cons (.rawStr [120]) .nil))).strip.NestWD
    (fun n => if n = [102] then some [97, 59, 98] else none) := by
  simp [Src.strip, SrcList.stripL, Src.NestWD, SrcList.NestWDs]

/-- **C04 for every `get_map` of every call history** (columns = true): in any history of streaming / `get_map` calls — any length,
options in any order, cold caches at the start — on a tree with CachedSource nodes (none beneath a ReplaceSource) over raw /
OriginalSource leaves, ConcatSource and ReplaceSource nodes: whatever map `sm2` a `get_map` of the history returns, every byte it
resolves is resolved alike (same file name, line, column) by the map `sm1` of the cache-free tree, and is a surviving original byte
of that file at exactly that line and that column plus `d`, or generated text.  `c10_every_history` ∘ `c04_second_map_bytes`'s
argument. -/
theorem c04_every_history_map_bytes (cons : Text → Option Text) (s : Src) (hk : s.NoCR) (hn : s.ids.Nodup) (σ : Store) (hc : Cold σ s.ids)
    (h : s.ModeHypC) (hs : s.SmallF) (hW : s.strip.NestWD cons) (hz : s.strip.NestSized)
    (hasc : ∀ n T, cons n = some T → IsAscii T ∧ T.length < USIZE_MAX)
    (hsmall1 : ∀ m ∈ chunkMs (s.strip.stream ⟨true, true⟩ []).1.evs, m.small)
    (hsmall2 : ∀ m ∈ chunkMs ((s.warm ⟨true, true⟩).stream ⟨true, true⟩ []).1.evs, m.small)
    (sm1 : SMap) (h1 : (getMap s.strip ⟨true, true⟩ []).1 = some sm1)
    (calls : List Opts) (k : Nat) (hcall : calls[k]? = some ⟨true, true⟩) :
    ∃ r, (runCalls s calls σ).1[k]? = some r ∧ ∀ sm2, mapOfEvs true r.evs = some sm2 →
      ∀ (i : Nat) (o2 : Orig), (attrFrom (decode sm2.mappings) startPos s.src)[i]? = some (some o2) →
      ∃ (o1 : Orig) (name T : Text), (attrFrom (decode sm1.mappings) startPos s.src)[i]? = some (some o1)
        ∧ sm2.sources[o2.src]? = some name ∧ sm1.sources[o1.src]? = some name ∧ o2.line = o1.line ∧ o2.col = o1.col
        ∧ sm1.sourcesContent[o1.src]? = some T
        ∧ ((∃ q d, q + d < T.length ∧ adv startPos (T.take q) = ⟨o2.line, o2.col⟩ ∧ s.src[i]? = T[q + d]?
              ∧ adv startPos (T.take (q + d)) = ⟨o2.line, o2.col + d⟩
              ∧ ∃ tok k0 l0 c0, TokPos T tok l0 c0 k0 ∧ k0 ≤ q ∧ q + d < k0 + tok.length)
            ∨ (∃ r ∈ s.strip.allReplsN, ∃ cl ∈ splitLines r.content, ∃ e, e < cl.length ∧ s.src[i]? = cl[e]?)) := by
  obtain ⟨r, a1, a2⟩ := history_map_NA s hk hn σ hc h hs hsmall1 hsmall2 calls k hcall
  refine ⟨r, a1, fun sm2 hsm2 => ?_⟩
  have e1 := getMap_names s.strip (Src.strip_modeHypC s h) (Src.nc_nodup _ (Src.strip_nc s)) [] [] (cold_nil _) (cold_nil _) true hsmall1 sm1 h1
  have e2 := a2 sm2 hsm2
  rw [Src.strip_src] at e1
  intro i o2 hget
  obtain ⟨o1, g1, e3, e4, e5⟩ := same_resolution_at sm1 sm2 _ _ (e2.trans e1.symm) i o2 hget
  have := c04_nested_map_bytes cons s.strip hW hz hasc true hsmall1 sm1 h1 i o1 (by rw [Src.strip_src]; exact g1)
  rw [Src.strip_src] at this
  obtain ⟨name, T, b1, b2, b3⟩ := this
  exact ⟨o1, name, T, g1, e3.trans b1, b1, e4, e5, b2, by rw [e4, e5]; exact b3⟩

/-- **C04 for every `get_map(columns = false)` of every call history**: CachedSource nodes (none beneath a ReplaceSource) over a tree
of OriginalSource / raw leaves under ConcatSource; cold caches at the start; any history.  Whatever map `sm2` a
`get_map(columns = false)` of the history returns: if it resolves generated line `L` to file name `fname` and original line `ol`
(first mapped segment of the line, through its own `sources`), then the map `sm1` of the cache-free tree resolves `L` alike, and —
through `sm1`'s own `sources` / `sourcesContent` — that file has content `T` whose line `ol` is a whole line `ln` of `T` at its true
position, delivered on generated line `L` by the stream.  `c10_every_history_map_lines` ∘ `c03_lines` at name level ∘ `c04_lines_map`. -/
theorem c04_every_history_lines (cons : Text → Option Text) (s : Src) (hk : s.NoCR) (hn : s.ids.Nodup) (σ : Store) (hc : Cold σ s.ids)
    (h : s.ModeHypL) (hs : s.SmallFL) (ho : s.strip.OrigTree) (hw : Src.WD cons false s.strip)
    (hsmall1 : ∀ m ∈ chunkMs (s.strip.stream ⟨false, true⟩ []).1.evs, ∀ o, m.orig = some o → o.src < U31 ∧ o.line < U31)
    (hsmall2 : ∀ m ∈ chunkMs ((s.warm ⟨false, true⟩).stream ⟨false, true⟩ []).1.evs, ∀ o, m.orig = some o → o.src < U31 ∧ o.line < U31)
    (sm1 : SMap) (h1 : (getMap s.strip ⟨false, true⟩ []).1 = some sm1)
    (calls : List Opts) (k : Nat) (hcall : calls[k]? = some ⟨false, true⟩) :
    ∃ r, (runCalls s calls σ).1[k]? = some r ∧ ∀ sm2, mapOfEvs false r.evs = some sm2 → ∀ L fname ol, 0 < L →
      LNameM sm2 L = some (fname, ol) →
      ∃ (si : Nat) (name T ln : Text) (c q : Nat) (m : Mapping), lookupLines (decode sm1.mappings) L = some (si, ol)
        ∧ fname = some name ∧ sm1.sources[si]? = some name ∧ sm1.sourcesContent[si]? = some T
        ∧ Ev.chunk (some ln) m ∈ (s.strip.stream ⟨false, false⟩ []).1.evs ∧ m.gl = L ∧ TokPos T ln ol c q := by
  obtain ⟨r, a1, a2⟩ := history_map_lname s hk hn σ hc h hs hsmall1 hsmall2 calls k hcall
  refine ⟨r, a1, fun sm2 hsm2 L fname ol hL hres => ?_⟩
  -- `sm2` names line `L` as `sm1` does: both as the cache-free tree's stream
  rw [a2 sm2 hsm2 L hL, ← getMap_lname s.strip (Src.strip_modeHypL s h) (Src.nc_nodup _ (Src.strip_nc s)) [] [] (cold_nil _) (cold_nil _) true
    hsmall1 sm1 h1 L hL] at hres
  obtain ⟨⟨si, ol'⟩, hq, hp⟩ := Option.map_eq_some_iff.1 hres
  cases hp
  obtain ⟨_, name, T, ln, c, q, m, b1, b2⟩ := c04_lines_map cons s.strip ho hw true hsmall1 sm1 h1 L si ol' hL hq
  exact ⟨si, name, T, ln, c, q, m, hq, b1, b1, b2⟩

end Rs
