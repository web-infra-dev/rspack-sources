import RsModel.Props.C11
import RsModel.Lemmas.CharStarts
import RsModel.Props.C10
import RsModel.Props.C16
import RsModel.Lemmas.ConcV
/-!
# C19 — unsafe code never acts outside its preconditions
One theorem per kind of unsafe operation: the stated precondition holds whenever the model reaches it.
-/
namespace Rs

/-- the characters of a mappings string are ASCII: the base64 alphabet (one pass over its 64 entries), `,` and `;` -/
theorem isMapChar_ascii (b : UInt8) (h : isMapChar b = true) : b.toNat < 128 := by
  have hb : ∀ x ∈ Generated.b64Chars, x.toNat < 128 := by decide
  simp only [isMapChar, Bool.or_eq_true, List.contains_iff_mem, beq_iff_eq] at h
  rcases h with (h | rfl) | rfl
  · exact hb b h
  · decide
  · decide

/-- `String::from_utf8_unchecked` in `drain` (full encoder): the bytes are ASCII, for every mapping list -/
theorem c19_full_encoder_ascii (ms : List Mapping) (e : EncSt) : ∀ x ∈ encodeFrom e ms, x.toNat < 128 :=
  fun x hx => isMapChar_ascii x (c11_encode_charset ms e x hx)

theorem vlqChars_ascii (a b : Nat) : ∀ x ∈ vlqChars a b, x.toNat < 128 :=
  fun x hx => isMapChar_ascii x (vlqChars_charset a b x hx)

/-- `String::from_utf8_unchecked` in `drain` (lines-only encoder): what it writes per segment is `;`s and four VLQ fields (`lbody_eq`) -/
theorem c19_lines_encoder_ascii (ms : List Mapping) : ∀ (s : LEncSt), ∀ x ∈ lencodeFrom s ms, x.toNat < 128 := by
  induction ms with
  | nil => intro s x hx; simp [lencodeFrom] at hx
  | cons m ms ih =>
    intro s x hx
    simp only [lencodeFrom, List.mem_append] at hx
    rcases hx with hx | hx
    · unfold lencStep at hx
      cases ho : m.orig with
      | none => simp [ho] at hx
      | some o =>
        simp only [ho] at hx
        split at hx
        · simp at hx
        · simp only [lbody_eq, List.mem_append, List.mem_replicate] at hx
          rcases hx with hx | hx | hx | hx | hx
          · rw [hx.2]; decide
          all_goals exact vlqChars_ascii _ _ x hx
    · exact ih _ x hx

/-- `WithIndices::substring(a, b)` with `a < b`: `start ≤ end ≤ len`, so the byte range handed to
`byte_slice_unchecked` is ordered and in range -/
theorem c19_substring_range (line : Text) (a b : Nat) (h : a < b) :
    (charStarts line).getD a line.length ≤ (charStarts line).getD b line.length
    ∧ (charStarts line).getD b line.length ≤ line.length := substring_range line a b h

/-- the lifetime-extended reference into the cached maps: `c10_write_once` (Props/C10.lean), sequentially; under concurrent use,
`c19_cached_map_outlives_borrow` -/
theorem c19_cached_map_write_once (σ : Store) (k : Nat × Opts) (v w : Option SMap) (h : σ.get? k = some v) :
    (σ.insertNew k w).get? k = some v := c10_write_once σ k v w h

/-- `get_unchecked(start_chunk_index)` / `get_unchecked(end_chunk_index)` in `Rope::get_byte_slice_impl`: for every
rope built by constructors and slices from `&str`s, and every in-range window, the indices found by the two binary
searches are inside the piece vector -/
theorem c19_rope_slice_indices_in_range (p : RProgS) (h : p.TextsOK) (r : Rope) (hr : p.eval = .ok r) (a b : Nat)
    (hab : a ≤ b) (hb : b ≤ r.render.length) : Rope.sliceUnsafeOK r a b = true :=
  Rope.sliceUnsafeOK_spec r ((c16_program p h).2 r hr) a b hab hb

/-- `get_byte` never indexes outside the found piece -/
theorem c19_rope_get_byte_in_range (p : RProgS) (h : p.TextsOK) (r : Rope) (hr : p.eval = .ok r) (i : Nat) :
    ∃ v, r.getByte i = .ok v :=
  ⟨_, Rope.getByte_spec r ((c16_program p h).2 r hr).inv i⟩

/-- `WithIndices::substring` hands `byte_slice_unchecked` offsets that are char boundaries (besides being ordered and in range,
`c19_substring_range`): both for a `&str` line and for a rope line -/
theorem c19_substring_boundaries (line : Text) (a b : Nat) :
    isBoundary line (cpos line a) = true ∧ isBoundary line (cpos line b) = true := ⟨cpos_boundary line a, cpos_boundary line b⟩

/-- … hence the unchecked `str::get_unchecked` calls inside `Rope::byte_slice_unchecked` (first / last / same chunk, Light) are
reached exactly where the *checked* slicing succeeds: on every rope a program can build, slicing between two char offsets of
its text returns `Ok` (no out-of-range index, no cut inside a character) and yields that window -/
theorem c19_rope_unchecked_ok (p : RProgS) (h : p.TextsOK) (r : Rope) (hr : p.eval = .ok r) (a b : Nat) (hab : a ≤ b) :
    ∃ r', r.byteSlice (cpos r.render a) (cpos r.render b) = .ok r' ∧ r'.render = bsub r.render (cpos r.render a) (cpos r.render b) := by
  have hw := (c16_program p h).2 r hr
  obtain ⟨s1, _⟩ := Rope.byteSlice_spec r hw (cpos r.render a) (cpos r.render b) (cpos_mono _ a b hab) (cpos_le _ b)
  obtain ⟨r', e1, e2, _⟩ := s1 (by rw [cpos_boundary, cpos_boundary]; rfl)
  exact ⟨r', e1, e2⟩

/-- **the lifetime-extended reference into the cache** (`transmute::<&SourceMap, &'a SourceMap>` in `CachedSource::stream_chunks`):
under concurrent use as in C18 — any number of threads, any operations on the shared CachedSource and its clones, every interleaving —
a map that is in the cache at some point of an execution is that very entry at every later point of every continuation of the
execution: never removed, never replaced (not even by an equal value computed by a racing call).  So the referent of the extended
borrow outlives every borrow taken from it while the cache lives.  (`Model/ConcV.lean`; the `map()` that missed stores with
`or_insert`, the racing `stream_chunks` stores only into an entry it has kept locked and vacant.) -/
theorem c19_cached_map_outlives_borrow (P : ConcV.Params) (hnc : P.inner.NoCached) (r : RState) (hr : r.Inv) (σ : Store)
    (progs : List (List ConcV.Op)) (sched later : List Nat) (k : Nat × Opts) (v : Option SMap)
    (hv : (ConcV.run P (ConcV.initSys r σ progs) sched).sh.σ.get? k = some v) :
    (ConcV.run P (ConcV.initSys r σ progs) (sched ++ later)).sh.σ.get? k = some v := by
  rw [ConcV.run_append]
  exact (ConcV.run_spec P hnc r.repls σ later _ (ConcV.inv_reach P hnc r hr σ progs sched)).2 k v hv

end Rs
