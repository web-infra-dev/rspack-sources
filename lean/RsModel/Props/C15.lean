import RsModel.Lemmas.JsonDoc
/-!
# C15 — SourceMap JSON serialisation is valid and round-trips

`writeSMap` = what `to_json` writes (serde field order, `Option`s and an all-empty `sourcesContent` skipped, the escapes
`simd_json` uses); `parse` = an RFC 8259 parser (the "independent JSON parser" of the property); `smapOfJson` = the serde
shape of `RawSourceMap` → `SourceMap` (null entries read as empty strings, missing arrays as empty, duplicate known keys
rejected).  `simd_json` itself is third-party code: it is validated against this model on every run, not verified.
-/
namespace Rs.Json

/-- **the written document is valid JSON with exactly the fields of the map**: an RFC 8259 parser reads it as the object
`toDoc m` (version 3, the fields in declaration order, optional fields present exactly when set) -/
theorem c15_parse_write (m : SMap) : parse (writeSMap m) = some (toDoc m) := parse_write m

/-- the value level of the round trip: `from_json` looks at the duplicate check and seven lookups, and in the document of
slots with distinct keys each lookup finds its slot -/
theorem c15_doc_roundtrip (m : SMap) :
    smapOfJson (toDoc m) = some { m with sourcesContent := if allEmpty m.sourcesContent then [] else m.sourcesContent } := by
  have hn := slots_keys_nodup m
  have hf : ∀ s ∈ slots m, field (docOf (slots m)) s.1 = s.2.map (·.v) :=
    fun s hs => field_docOf _ hn s.1 s.2 hs
  rw [toDoc_slots, smapOfJson_fields, dupKnown_docOf _ hn]
  generalize docOf (slots m) = kvs at hf ⊢
  simp only [slots, List.forall_mem_cons, Option.map_some, Option.map_map, apply_ite (Option.map Written.v), Option.map_none] at hf
  obtain ⟨-, hfile, hsrc, hsc, hnames, hmap, hroot, hdbg, -⟩ := hf
  rw [hfile, hsrc, hsc, hnames, hmap, hroot, hdbg]
  exact smapOfFields_strs _ _ _ _ _ _ _ _

/-- **round trip**: `from_json(to_json(m))` has the same mappings, sources, names, file, sourceRoot and debugId, and the same
sourcesContent — empty exactly when all entries are empty (it is then omitted from the document) -/
theorem c15_roundtrip (m : SMap) :
    fromJson (writeSMap m) = some { m with sourcesContent := if allEmpty m.sourcesContent then [] else m.sourcesContent } := by
  rw [fromJson, parse_write, Option.bind_some]
  exact c15_doc_roundtrip m

/-- `unescape ∘ escape = id`: what `to_json` writes for a string is parsed back to exactly that string, for every byte
sequence (quotes, backslashes, control characters, U+2028/2029, astral characters alike) -/
theorem c15_string_roundtrip (t rest : Text) :
    parseVal ((writeStr t ++ rest).length + 2) (writeStr t ++ rest) = some (.str t, rest) :=
  parseVal_writeStr t rest _

/-- null entries in `sources`, `sourcesContent` and `names` read as empty strings; a null array as empty -/
theorem c15_nulls (l : List (Option Text)) :
    optStrArr (.arr (l.map fun | some s => .str s | none => .null)) = some (l.map fun | some s => s | none => []) ∧ optStrArr .null = some [] := by
  refine ⟨?_, rfl⟩
  simp only [optStrArr]
  induction l with
  | nil => rfl
  | cons a as ih =>
    rw [List.map_cons, List.mapM_cons, ih]
    cases a <;> rfl

/-- **reordered keys**: a document whose members are any permutation of what `to_json` writes reads back like the original
(reading does not depend on the order of the members: `smapOfJson_perm`) -/
theorem c15_reordered (m : SMap) (kvs : List (Text × JVal)) (h : kvs.Perm (match toDoc m with | .obj l => l | _ => [])) :
    smapOfJson (.obj kvs) = some { m with sourcesContent := if allEmpty m.sourcesContent then [] else m.sourcesContent } := by
  have hd : toDoc m = .obj (match toDoc m with | .obj l => l | _ => []) := by simp [toDoc]
  rw [smapOfJson_perm kvs _ h, ← hd]
  exact c15_doc_roundtrip m

/-- non-vacuity: a map with every optional field, a quote and a control character, parsed back from its bytes -/
example : fromJson (writeSMap (SMap.mk [65, 65, 65, 65] [[97, 34, 98]] [[10]] [[]] (some [102]) (some []) (some [100])))
    = some (SMap.mk [65, 65, 65, 65] [[97, 34, 98]] [[10]] [[]] (some [102]) (some []) (some [100])) := by
  rw [c15_roundtrip]; rfl

end Rs.Json
