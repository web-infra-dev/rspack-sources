import RsModel.Lemmas.CodecLookup
import RsModel.Lemmas.CodecGrammar
import RsModel.Lemmas.CodecLines
/-!
# C12 — mappings codec round-trips and matches the source-map v3 format

Domain: mapping lists whose generated positions do not go backwards and whose numbers are `< 2^31` (`Mapping.small`), which is
what keeps every `u32` delta of the encoder and every `as u32` store of the decoder from wrapping.
-/
namespace Rs

/-- one VLQ field: the decoder adds exactly the signed delta the encoder wrote -/
theorem c12_vlq_roundtrip (a b : Nat) (ha : a < 2 ^ 31) (hb : b < 2 ^ 31) (s : DecSt)
    (h0 : s.value = 0) (h1 : s.valuePos = 0) :
    decBytes s (vlqChars a b) = (s.setField (vlqNum a b), []) ∧ addField b (vlqNum a b) = a :=
  ⟨dec_field a b s h0 h1, addField_vlq a b ha hb⟩

/-- decoding `encode_mappings ms` yields exactly the segments the encoder kept -/
theorem c12_decode_encode (ms : List Mapping) (hs : ∀ m ∈ ms, m.small) (h : sortedFrom 1 0 ms) :
    decode (encodeFull ms) = keptFrom {} ms :=
  decode_encode_sorted ms hs h

/-- the kept segments attribute every position exactly as the input did -/
theorem c12_kept_lookup (ms : List Mapping) (h : sortedFrom 1 0 ms) (l c : Nat) :
    lookupCols (keptFrom {} ms) l c = lookupCols ms l c :=
  lookupCols_kept ms h l c

/-- hence: decode ∘ encode preserves the attribution of every position -/
theorem c12_roundtrip_lookup (ms : List Mapping) (hs : ∀ m ∈ ms, m.small) (h : sortedFrom 1 0 ms) (l c : Nat) :
    lookupCols (decode (encodeFull ms)) l c = lookupCols ms l c := by
  rw [c12_decode_encode ms hs h, c12_kept_lookup ms h]

/-- re-encoding the decoded segments gives the same string -/
theorem c12_reencode (ms : List Mapping) (hs : ∀ m ∈ ms, m.small) (h : sortedFrom 1 0 ms) :
    encodeFull (decode (encodeFull ms)) = encodeFull ms := by
  rw [c12_decode_encode ms hs h]
  exact encodeFrom_kept ms {}

/-! non-vacuity: a concrete sorted list with 1-, 4- and 5-field segments, a gap line and a dropped repeat -/
def c12_sample : List Mapping :=
  [⟨1, 0, some ⟨0, 1, 0, none⟩⟩, ⟨1, 2, none⟩, ⟨2, 2, some ⟨1, 3, 4, some 2⟩⟩, ⟨2, 4, some ⟨1, 3, 4, some 2⟩⟩,
   ⟨4, 0, some ⟨0, 1, 7, none⟩⟩, ⟨4, 3, some ⟨0, 1, 7, none⟩⟩]

example : sortedFrom 1 0 c12_sample ∧ (∀ m ∈ c12_sample, m.small) :=
  ⟨by simp [c12_sample, sortedFrom], by decide +kernel⟩
-- the encoder drops exactly the repeat `⟨4, 3, …⟩` of the active location (the model's output
-- "AAAA,E;ECEIE,EAAAA;;AFFG" for this sample is compared with `encode_mappings` by the harness corpus)
example : (keptFrom {} c12_sample).length = 5 := by decide +kernel


/-- on ANY string of the grammar — any number of digits per field (redundant continuation digits included), any number
of fields per segment, empty segments, several `;` in a row — the byte-level decoder is the token-level decoder -/
theorem c12_decode_grammar (lns : List (List (List VField))) :
    decode (allChars lns) = (allLines decInitSt lns).2 ++ (allLines decInitSt lns).1.pending := by
  rw [decode, (dec_all lns decInitSt (by rw [decInit_eq]; exact ⟨rfl, rfl⟩)).1]

/-- **`decode_mappings` returns exactly the segments the format defines**: whenever the reference v3 decoder (zig-zag
deltas added to running values with range checks, column reset at `;`, segments of 1, 4 or 5 fields, empty segments
allowed, columns may go backwards) accepts a string of the grammar, the crate's decoder yields the same mappings -/
theorem c12_decode_v3 (lns : List (List (List VField))) (ms : List Mapping) (h : refAll {} 1 lns = some ms) :
    decode (allChars lns) = ms := by
  rw [c12_decode_grammar, show decInitSt = RefSt.dec {} 1 0 from decInit_eq]
  exact ref_all lns {} 1 ms h

/-- non-vacuity: `"AAAA,gB;;ECDQA"` with a redundant continuation digit, an empty line, a negative line delta and a name -/
example : refAll {} 1 [[[⟨[], 0⟩, ⟨[], 0⟩, ⟨[], 0⟩, ⟨[], 0⟩], [⟨[0], 1⟩]], [], [[⟨[], 4⟩, ⟨[], 2⟩, ⟨[], 3⟩, ⟨[], 8⟩, ⟨[], 0⟩]]]
    = some [⟨1, 0, some ⟨0, 1, 0, none⟩⟩, ⟨1, 16, none⟩, ⟨3, 2, some ⟨1, 0, 4, some 0⟩⟩] := by decide +kernel

/-- decoding what the lines-only encoder wrote yields exactly the first mapped segment of each generated line, at
column 0, original column 0, without name -/
theorem c12_lines_encoder (ms : List Mapping) (hs : ∀ m ∈ ms, ∀ o, m.orig = some o → o.src < U31 ∧ o.line < U31)
    (h : linesOK 1 ms) : decode (encodeLines ms) = keptLines {} ms := decode_lencode ms hs h

/-- … and those segments attribute every generated line (file, line) as the input did -/
theorem c12_lines_lookup (ms : List Mapping) (l : Nat) (hl : 0 < l) : lookupLines (keptLines {} ms) l = lookupLines ms l :=
  lookupLines_kept ms l hl

end Rs
