import RsModel.Lemmas.EqHash
import RsModel.Lemmas.EqViews
import RsModel.Lemmas.WarmMap
import RsModel.Lemmas.HistoryAnswers
import RsModel.Lemmas.WarmLinesF
/-!
# C14 — equality, hashing and cloning are coherent and history-independent

Clause of the property → theorem:
* `a == b` ⇒ equal hasher input → `c14_eq_hash`; a clone, or a value built by the same calls, is equal → `c14_clone_eq`
* equality does not change because a cache was filled → `c14_buffer_cache_irrelevant`
* `a == b` ⇒ equal answers from the observers that look at no cache → `c14_eq_views`; from every observer, for values that own
  no cache → `c14_eq_identity`, `c14_eq_observers`
* … with CachedSource nodes, each value on its own caches → `c14_eq_first_calls`, `c14_eq_second_stream`; after arbitrary
  histories → `c14_eq_every_history`, `c14_eq_every_history_lines`
* where it fails → `c14_k3_witness` (representation of the map), `c14_k4_witness` (non-ASCII text)
-/
namespace Rs

/-- `a == b` implies identical hasher input, for every behaviour of the memoising `FxHasher` -/
theorem c14_eq_hash (fxh : List HCall → Nat) (a b : Src) (h : a.eqv b = true) : a.calls fxh = b.calls fxh :=
  Src.eqv_calls fxh a b h

/-- a clone (the same value) is equal to its original; sources built from the same constructor calls are equal -/
theorem c14_clone_eq (a : Src) : a.eqv a = true := Src.eqv_refl a

/-- the lazily filled decode cache of a buffer leaf (`OnceLock<String>`), as explicit state -/
structure BufState where
  value : Text
  cache : Option Text := none

/-- any observer that needs the text: `get_or_init(|| from_utf8_lossy(value))` -/
def BufState.observe (s : BufState) (lossy : Text) : BufState := { s with cache := some (s.cache.getD lossy) }
/-- `impl PartialEq for RawBufferSource` (compares `value` only) -/
def BufState.eq (a b : BufState) : Bool := a.value == b.value

/-- equality of a buffer leaf does not change because its cache was filled, on either side, any number of times -/
theorem c14_buffer_cache_irrelevant (a b : BufState) (ls ls' : List Text) :
    (ls.foldl BufState.observe a).eq (ls'.foldl BufState.observe b) = a.eq b := by
  have hv : ∀ (ls : List Text) (s : BufState), (ls.foldl BufState.observe s).value = s.value := by
    intro ls; induction ls with
    | nil => intro s; rfl
    | cons l ls ih => intro s; rw [List.foldl_cons, ih]; rfl
  simp [BufState.eq, hv]

/-- on an OriginalSource leaf the call list the driver computes from a table of memoised hashes is the model's (a leaf consults no memoised hash) -/
theorem c14_callsT_leaf (tbl : Nat → Nat) (fxh : List HCall → Nat) (t name : Text) :
    (Src.orig t name).callsT tbl = (Src.orig t name).calls fxh := by simp [Src.callsT, Src.calls]

example : (Src.rawBuf [255] [239, 191, 189]).eqv (.rawBuf [255] []) = true := by decide +kernel


/-- **`a == b` implies equal answers from the observers that never look at a cache**: text, bytes, size and rope.
(`from_utf8_lossy` is a function `f` of the bytes.) -/
theorem c14_eq_views (f : Text → Text) (a b : Src) (h : a.eqv b = true) (ha : a.LossyFun f) (hb : b.LossyFun f) :
    a.src = b.src ∧ a.buffer = b.buffer ∧ a.size = b.size ∧ a.rope = b.rope := by
  have he := Src.eqv_erase f a b h ha hb
  obtain ⟨a1, a2, a3, a4⟩ := Src.erase_views a
  obtain ⟨b1, b2, b3, b4⟩ := Src.erase_views b
  rw [he] at a1 a2 a3 a4
  exact ⟨a1.symm.trans b1, a2.symm.trans b2, a3.symm.trans b3, a4.symm.trans b4⟩

/-- **for values that own no cache, `a == b` is identity**: the two values are the same tree, so *every* observer —
`map`, chunk streaming with either column setting, hashing, in any order and from any cache state of enclosing
sources — answers identically.  (For trees containing a `CachedSource` the two values own different caches; what can
differ then is exactly known finding K3.) -/
theorem c14_eq_identity (f : Text → Text) (a b : Src) (h : a.eqv b = true) (ha : a.LossyFun f) (hb : b.LossyFun f)
    (na : a.NoCached) (nb : b.NoCached) : a = b := by
  have he := Src.eqv_erase f a b h ha hb
  rwa [Src.erase_noCached a na, Src.erase_noCached b nb] at he

theorem c14_eq_observers (f : Text → Text) (a b : Src) (h : a.eqv b = true) (ha : a.LossyFun f) (hb : b.LossyFun f)
    (na : a.NoCached) (nb : b.NoCached) (o : Opts) (σ : Store) :
    a.stream o σ = b.stream o σ ∧ a.map o σ = b.map o σ := by
  rw [c14_eq_identity f a b h ha hb na nb]; exact ⟨rfl, rfl⟩


theorem Src.strip_eq_of_eqv (f : Text → Text) (a b : Src) (h : a.eqv b = true) (ha : a.LossyFun f) (hb : b.LossyFun f) :
    a.strip = b.strip := by
  rw [← Src.strip_eraseIds a, ← Src.strip_eraseIds b, Src.eqv_erase f a b h ha hb]

/-- **`a == b` with CachedSource nodes, each value on its own cold caches: equal first answers** — `a` and `b` are the same tree up to
which caches their CachedSource nodes own; their first streams (every mode) and first `get_map` results are identical. -/
theorem c14_eq_first_calls (f : Text → Text) (a b : Src) (h : a.eqv b = true) (ha : a.LossyFun f) (hb : b.LossyFun f)
    (o : Opts) (σa σb : Store) (hna : a.ids.Nodup) (hnb : b.ids.Nodup) (hca : Cold σa a.ids) (hcb : Cold σb b.ids) :
    (a.stream o σa).1 = (b.stream o σb).1 ∧ (getMap a o σa).1 = (getMap b o σb).1 := by
  have hs := Src.strip_eq_of_eqv f a b h ha hb
  exact ⟨by rw [Src.stream_strip a o σa hna hca, Src.stream_strip b o σb hnb hcb, hs],
    by rw [getMap_strip a o σa hna hca, getMap_strip b o σb hnb hcb, hs]⟩

/-- **… and equal second answers at name level**: streamed twice (columns = true), each on its own caches, `a` and `b` resolve every
byte of the second stream to the same file name, original line, original column and name — the representation differences of
known finding K3 (which call filled a cache) do not reach the attribution.  (No CachedSource beneath a ReplaceSource: K5.) -/
theorem c14_eq_second_stream (f : Text → Text) (a b : Src) (h : a.eqv b = true) (ha : a.LossyFun f) (hb : b.LossyFun f)
    (σa σb : Store) (hna : a.ids.Nodup) (hnb : b.ids.Nodup) (hca : Cold σa a.ids) (hcb : Cold σb b.ids)
    (hka : a.CachedOK) (hkb : b.CachedOK) (hwa : a.WarmHyp) (hwb : b.WarmHyp) :
    NA (a.stream ⟨true, false⟩ (a.stream ⟨true, false⟩ σa).2).1.evs = NA (b.stream ⟨true, false⟩ (b.stream ⟨true, false⟩ σb).2).1.evs := by
  rw [Src.second_stream_NA a σa hna hca hka hwa, Src.second_stream_NA b σb hnb hcb hkb hwb,
    (c14_eq_first_calls f a b h ha hb ⟨true, false⟩ σa σb hna hnb hca hcb).1]

/-- **`a == b` after arbitrary observer histories, at name level** (columns = true): `a` and `b` are equal values with CachedSource
nodes (none beneath a ReplaceSource), each on its own caches, cold at the start, and each is observed through its OWN history of
streaming / `get_map` calls — any lengths, any option orders, the two histories unrelated.  Then any normal-mode stream of `a`'s
history and any normal-mode stream of `b`'s history resolve every byte to the same file name, original line, original column and
name; and so do the maps any two `get_map`s of the two histories return.  (What differs between equal values after different
histories is the *representation* of what a cache replays — known finding K3 — never the attribution.) -/
theorem c14_eq_every_history (f : Text → Text) (a b : Src) (h : a.eqv b = true) (ha : a.LossyFun f) (hb : b.LossyFun f)
    (σa σb : Store) (hna : a.ids.Nodup) (hnb : b.ids.Nodup) (hca : Cold σa a.ids) (hcb : Cold σb b.ids)
    (hka : a.NoCR) (hkb : b.NoCR) (callsA callsB : List Opts) :
    (a.WarmHyp → b.WarmHyp → ∀ ka kb : Nat, callsA[ka]? = some (⟨true, false⟩ : Opts) → callsB[kb]? = some (⟨true, false⟩ : Opts) →
      ∃ ra rb : SResult, (runCalls a callsA σa).1[ka]? = some ra ∧ (runCalls b callsB σb).1[kb]? = some rb ∧ NA ra.evs = NA rb.evs)
    ∧ (a.ModeHypC → b.ModeHypC → a.SmallF → b.SmallF →
        (∀ m ∈ chunkMs (a.strip.stream ⟨true, true⟩ []).1.evs, m.small) →
        (∀ m ∈ chunkMs ((a.warm ⟨true, true⟩).stream ⟨true, true⟩ []).1.evs, m.small) →
        (∀ m ∈ chunkMs ((b.warm ⟨true, true⟩).stream ⟨true, true⟩ []).1.evs, m.small) →
        ∀ ka kb : Nat, callsA[ka]? = some (⟨true, true⟩ : Opts) → callsB[kb]? = some (⟨true, true⟩ : Opts) →
        ∃ ra rb : SResult, (runCalls a callsA σa).1[ka]? = some ra ∧ (runCalls b callsB σb).1[kb]? = some rb ∧
          ∀ sma smb, mapOfEvs true ra.evs = some sma → mapOfEvs true rb.evs = some smb →
            (attrFrom (decode sma.mappings) startPos a.src).map (Option.map (resolveMF sma))
              = (attrFrom (decode smb.mappings) startPos b.src).map (Option.map (resolveMF smb))) := by
  have hs := Src.strip_eq_of_eqv f a b h ha hb
  constructor
  · intro hwa hwb ka kb h1 h2
    obtain ⟨ra, a1, a2⟩ := history_stream_NA a hka hna σa hca hwa callsA ka h1
    obtain ⟨rb, b1, b2⟩ := history_stream_NA b hkb hnb σb hcb hwb callsB kb h2
    exact ⟨ra, rb, a1, b1, by rw [a2, b2, hs]⟩
  · intro hma hmb hsa hsb hs1 hs2a hs2b ka kb h1 h2
    obtain ⟨ra, a1, a2⟩ := history_map_NA a hka hna σa hca hma hsa hs1 hs2a callsA ka h1
    obtain ⟨rb, b1, b2⟩ := history_map_NA b hkb hnb σb hcb hmb hsb (by rw [← hs]; exact hs1) hs2b callsB kb h2
    exact ⟨ra, rb, a1, b1, fun sma smb ea eb => by rw [a2 sma ea, b2 smb eb, hs]⟩

/-- **… and with columns = false** (file and line granularity): equal values, each observed through its own arbitrary history — any
normal-mode stream with columns = false of the one and of the other resolve the first mapped chunk of every generated line to the
same file name and original line; and so do the maps any two `get_map(columns = false)` calls return (lines ≥ 1). -/
theorem c14_eq_every_history_lines (f : Text → Text) (a b : Src) (h : a.eqv b = true) (ha : a.LossyFun f) (hb : b.LossyFun f)
    (σa σb : Store) (hna : a.ids.Nodup) (hnb : b.ids.Nodup) (hca : Cold σa a.ids) (hcb : Cold σb b.ids)
    (hka : a.NoCR) (hkb : b.NoCR) (callsA callsB : List Opts) :
    (a.WF → b.WF → a.PosHyp false → b.PosHyp false → a.WarmHypL → b.WarmHypL →
      ∀ ka kb : Nat, callsA[ka]? = some (⟨false, false⟩ : Opts) → callsB[kb]? = some (⟨false, false⟩ : Opts) →
      ∃ ra rb : SResult, (runCalls a callsA σa).1[ka]? = some ra ∧ (runCalls b callsB σb).1[kb]? = some rb
        ∧ ∀ L, LNameOf ra.evs L = LNameOf rb.evs L)
    ∧ (a.ModeHypL → b.ModeHypL → a.SmallFL → b.SmallFL →
        (∀ m ∈ chunkMs (a.strip.stream ⟨false, true⟩ []).1.evs, ∀ o, m.orig = some o → o.src < U31 ∧ o.line < U31) →
        (∀ m ∈ chunkMs ((a.warm ⟨false, true⟩).stream ⟨false, true⟩ []).1.evs, ∀ o, m.orig = some o → o.src < U31 ∧ o.line < U31) →
        (∀ m ∈ chunkMs ((b.warm ⟨false, true⟩).stream ⟨false, true⟩ []).1.evs, ∀ o, m.orig = some o → o.src < U31 ∧ o.line < U31) →
        ∀ ka kb : Nat, callsA[ka]? = some (⟨false, true⟩ : Opts) → callsB[kb]? = some (⟨false, true⟩ : Opts) →
        ∃ ra rb : SResult, (runCalls a callsA σa).1[ka]? = some ra ∧ (runCalls b callsB σb).1[kb]? = some rb ∧
          ∀ sma smb, mapOfEvs false ra.evs = some sma → mapOfEvs false rb.evs = some smb → ∀ L, 0 < L → LNameM sma L = LNameM smb L) := by
  have hs := Src.strip_eq_of_eqv f a b h ha hb
  constructor
  · intro wa wb pa pb hwa hwb ka kb h1 h2
    obtain ⟨ra, a1, a2⟩ := history_stream_lname a hka hna σa hca wa pa hwa callsA ka h1
    obtain ⟨rb, b1, b2⟩ := history_stream_lname b hkb hnb σb hcb wb pb hwb callsB kb h2
    exact ⟨ra, rb, a1, b1, fun L => by rw [a2 L, b2 L, hs]⟩
  · intro hma hmb hsa hsb hs1 hs2a hs2b ka kb h1 h2
    obtain ⟨ra, a1, a2⟩ := history_map_lname a hka hna σa hca hma hsa hs1 hs2a callsA ka h1
    obtain ⟨rb, b1, b2⟩ := history_map_lname b hkb hnb σb hcb hmb hsb (by rw [← hs]; exact hs1) hs2b callsB kb h2
    exact ⟨ra, rb, a1, b1, fun sma smb ea eb L hL => by rw [a2 sma ea L hL, b2 smb eb L hL, hs]⟩

/-- `CachedSource(SourceMapSource("a", "f"))` with attached map `AAAA`, source `x`, sourceRoot `r` -/
def k3Witness : Src := .cached 0 (.sms [97] [102] ⟨[65, 65, 65, 65], [[120]], [], [], none, some [114], none⟩ none none false)

/-- **"equal values answer alike whatever was observed before" fails at the level of representation** (known finding K3): on
`k3Witness`, `map()` on the cold cache returns the attached map verbatim (source `x`, sourceRoot `r`), while `map()` after a
`stream_chunks` returns the map re-encoded from the streamed chunks (source `r/x`, no sourceRoot) — two different SourceMap values
that resolve every position alike (file `r/x`, line 1, column 0): the attribution statements of `c14_eq_every_history` hold, equality
of the returned values does not. -/
theorem c14_k3_witness :
    ((k3Witness.map ⟨true, false⟩ []).1.map fun m => (m.mappings, m.sources, m.sourceRoot)) = some ([65, 65, 65, 65], [[120]], some [114])
    ∧ ((k3Witness.map ⟨true, false⟩ (k3Witness.stream ⟨true, false⟩ []).2).1.map fun m => (m.mappings, m.sources, m.sourceRoot))
        = some ([65, 65, 65, 65], [[114, 47, 120]], none) := by
  refine ⟨by decide +kernel, by decide +kernel⟩

/-- `CachedSource(ConcatSource[OriginalSource("é;", "f"), OriginalSource("b", "g")])` -/
def k4Witness : Src := .cached 0 (.concat (.cons (.orig [195, 169, 59] [102]) (.cons (.orig [98] [103]) .nil)))

/-- **repeating a call changes its answer when the text is not ASCII** (known finding K4; outside C10's quantifier, inside C14's): the
first stream of `k4Witness` reports the second child at column 3 — ConcatSource counts the *bytes* of `"é;"` — and stores that; the
second stream replays the stored map through the map-driven splitter, which counts *chars* (`"é;b"` has three), so column 3 lies
beyond the line: one chunk `"é;b"` comes out, attributed to file `f` alone — the byte `b` has moved from `g` to `f`. -/
theorem c14_k4_witness :
    chunkMs (k4Witness.stream ⟨true, false⟩ []).1.evs = [⟨1, 0, some ⟨0, 1, 0, none⟩⟩, ⟨1, 3, some ⟨1, 1, 0, none⟩⟩]
    ∧ chunkMs (k4Witness.stream ⟨true, false⟩ (k4Witness.stream ⟨true, false⟩ []).2).1.evs = [⟨1, 0, some ⟨0, 1, 0, none⟩⟩]
    ∧ evsText (k4Witness.stream ⟨true, false⟩ (k4Witness.stream ⟨true, false⟩ []).2).1.evs = [195, 169, 59, 98] := by
  refine ⟨by decide +kernel, by decide +kernel, by decide +kernel⟩

end Rs
