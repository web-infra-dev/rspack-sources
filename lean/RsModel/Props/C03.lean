import RsModel.Lemmas.CodecLookup
import RsModel.Lemmas.Replay
import RsModel.Lemmas.PosTree
import RsModel.Lemmas.ModeTree
import RsModel.Lemmas.NameLevel
import RsModel.Lemmas.LinesTree
import RsModel.Lemmas.WarmMap
import RsModel.Lemmas.HistoryAnswers
import RsModel.Lemmas.WarmLinesF
/-!
# C03 — `map()` attributes every position exactly as the chunk stream does
-/
namespace Rs

/-- T1: what `get_map` encodes and a consumer decodes attributes every position as the encoded
final-mode stream did -/
theorem c03_codec_step (ms : List Mapping) (hs : ∀ m ∈ ms, m.small) (h : sortedFrom 1 0 ms) (l c : Nat) :
    lookupCols (decode (encodeFull ms)) l c = lookupCols ms l c :=
  codec_step ms hs h l c

/-- **T2: map built from a stream ⇒ same attribution.**  For any stream `r` that honours the stream contract (true positions, tokens,
texts present — C02, `ChunksTok`, C01), resolving every position of the text through the SourceMap that `get_map` builds from `r`
("greatest segment at or before the position on that line") gives exactly the original location of the chunk that covers the
position; and when `get_map` returns no map, no byte of the stream is mapped. -/
theorem c03_map_of_stream (r : SResult) (hp : PosOK r) (hT : ChunksTok r.evs) (hTL : evsTL r.evs = false)
    (hsmall : ∀ m ∈ chunkMs r.evs, m.small) :
    (∀ sm, mapOfEvs true r.evs = some sm → attrFrom (decode sm.mappings) startPos (evsText r.evs) = attrOf r.evs)
    ∧ (mapOfEvs true r.evs = none → attrOf r.evs = List.replicate (evsText r.evs).length none) :=
  (M3.same r hp hTL).map_attr hp hT hTL rfl hsmall

/-- **C03 for a ReplaceSource** (columns = true).  `map()` of a ReplaceSource with replacements is `get_map` over the very stream an
outside caller obtains (it always streams its inner source in normal mode), so by T2 its map resolves every position of `source()`
to the original location of the streamed chunk covering it, for every inner tree in the domain of C02. -/
theorem c03_replace (inner : Src) (rs : List Repl) (σ : Store) (hne : rs ≠ [])
    (hw : (Src.replace inner rs).WF) (hp : (Src.replace inner rs).PosHyp true) (hn : (Src.replace inner rs).ids.Nodup)
    (hs : StoreHyp true σ (Src.replace inner rs).cachedNodes)
    (hsmall : ∀ m ∈ chunkMs ((Src.replace inner rs).stream ⟨true, false⟩ σ).1.evs, m.small) :
    ((Src.replace inner rs).map ⟨true, false⟩ σ).1 = mapOfEvs true ((Src.replace inner rs).stream ⟨true, false⟩ σ).1.evs
    ∧ (∀ sm, ((Src.replace inner rs).map ⟨true, false⟩ σ).1 = some sm →
        attrFrom (decode sm.mappings) startPos (Src.replace inner rs).src = attrOf ((Src.replace inner rs).stream ⟨true, false⟩ σ).1.evs) := by
  have he : rs.isEmpty = false := List.isEmpty_eq_false_iff.2 hne
  have hmap : ((Src.replace inner rs).map ⟨true, false⟩ σ).1 = mapOfEvs true ((Src.replace inner rs).stream ⟨true, false⟩ σ).1.evs := by
    simp only [Src.map, he, Bool.false_eq_true, if_false, getMap, Src.stream]
  refine ⟨hmap, fun sm hsm => ?_⟩
  rw [hmap] at hsm
  have hpos := Src.stream_posOK (.replace inner rs) true σ hw hp hn hs
  have := (c03_map_of_stream _ hpos (Src.stream_tok _ true σ) (Src.stream_tl _ true σ) hsmall).1 sm hsm
  rw [Src.stream_text _ true σ hw] at this
  exact this


/-! ## T3: `map()` is built from the text-less stream — and that stream attributes like the normal one -/

/-- **T3** (columns = true): for every tree of Raw / Original / SourceMapSource leaves (ASCII text, sorted map inside the text;
*with or without an inner map* — for the combinator the outer map's positions have to increase strictly, `InnerHyp`) under
ConcatSource and ReplaceSource nodes to any depth (`ModeHyp`; no CachedSource), the text-less stream
that `map()` consumes (i) is sorted by generated position, (ii) announces exactly the sources and names the normal stream
announces, in the same order, and (iii) resolves the position of every character of `source()` — last chunk mapping on that line
at or before the column — to the same original location as the normal stream an outside caller obtains. -/
theorem c03_modes (s : Src) (h : s.ModeHyp) :
    sortedFrom 1 0 (chunkMs (s.stream ⟨true, true⟩ []).1.evs)
    ∧ declsOf (s.stream ⟨true, true⟩ []).1.evs = declsOf (s.stream ⟨true, false⟩ []).1.evs
    ∧ LookEq s.src (chunkMs (s.stream ⟨true, true⟩ []).1.evs) (chunkMs (s.stream ⟨true, false⟩ []).1.evs) :=
  ⟨(Src.m3 s h).sorted, (Src.m3 s h).decls, (Src.m3 s h).look⟩

/-- **C03 for every such tree whose `map()` is `get_map`** (OriginalSource, ConcatSource, ReplaceSource roots; columns = true):
resolving every position of `source()` through the returned SourceMap gives exactly the original location carried by the chunk
that covers the position in the normal-mode stream, and when no map is returned no streamed byte is mapped.
Chain: T1 (codec) ∘ T3 (modes) ∘ `attr_of_stream` (C02 + tokens). `small` = values below 2³¹ (the codec's domain). -/
theorem c03_tree (s : Src) (h : s.ModeHyp) (final : Bool) (hsmall : ∀ m ∈ chunkMs (s.stream ⟨true, true⟩ []).1.evs, m.small) :
    (∀ sm, (getMap s ⟨true, final⟩ []).1 = some sm → attrFrom (decode sm.mappings) startPos s.src = attrOf (s.stream ⟨true, false⟩ []).1.evs)
    ∧ ((getMap s ⟨true, final⟩ []).1 = none → attrOf (s.stream ⟨true, false⟩ []).1.evs = List.replicate s.src.length none) :=
  getMap_attr s h final hsmall

/-- `map()` of a ConcatSource or an OriginalSource is `get_map` -/
theorem c03_map_is_getMap (cs : SrcList) (t name : Text) (o : Opts) (σ : Store) :
    (Src.concat cs).map o σ = getMap (.concat cs) o σ ∧ (Src.orig t name).map o σ = getMap (.orig t name) o σ := ⟨rfl, rfl⟩

/-- non-vacuity: a ConcatSource of an OriginalSource, raw text and a SourceMapSource (map `AAAA` on "ab") is in the domain -/
example : (Src.concat (.cons (.orig [120, 59, 10, 121] [102]) (.cons (.rawStr [59]) (.cons
    (.sms [97, 98] [103] (SMap.mk [65, 65, 65, 65] [[104]] [] [] none none none) none none false) .nil)))).ModeHyp := by
  simp only [Src.ModeHyp, SrcList.ModeHyps, InnerHyp]
  decide +kernel


/-- non-vacuity for the combinator: a SourceMapSource *with an inner map* (both maps `AAAA`) is in the domain -/
example : (Src.sms [97, 98] [103] (SMap.mk [65, 65, 65, 65] [[103]] [] [] none none none) (some [120, 121])
    (some (SMap.mk [65, 65, 65, 65] [[104]] [] [] none none none)) false).ModeHyp := by
  simp only [Src.ModeHyp, InnerHyp]
  refine ⟨⟨?_, by decide +kernel⟩, by decide +kernel⟩
  rw [show decode [65, 65, 65, 65] = [⟨1, 0, some ⟨0, 1, 0, none⟩⟩] by decide +kernel]
  exact List.pairwise_singleton _ _

/-! ## … including CachedSource nodes, on cold caches -/

/-- **C03 with CachedSource nodes** (columns = true): the same statement for trees that also contain CachedSource nodes
(`ModeHypC`), for a call that finds the caches of the tree's CachedSource nodes cold (`Cold`; distinct nodes own distinct caches,
`Nodup`) — whatever else the two stores hold: `get_map` resolves every position of `source()` to the original location of the
chunk covering it in the stream an outside caller obtains (itself on cold caches).  Warm caches are C10's business (and K5). -/
theorem c03_tree_cached (s : Src) (h : s.ModeHypC) (hn : s.ids.Nodup) (σF σN : Store) (hcF : Cold σF s.ids) (hcN : Cold σN s.ids) (final : Bool)
    (hsmall : ∀ m ∈ chunkMs (s.stream ⟨true, true⟩ σF).1.evs, m.small) :
    (∀ sm, (getMap s ⟨true, final⟩ σF).1 = some sm → attrFrom (decode sm.mappings) startPos s.src = attrOf (s.stream ⟨true, false⟩ σN).1.evs)
    ∧ ((getMap s ⟨true, final⟩ σF).1 = none → attrOf (s.stream ⟨true, false⟩ σN).1.evs = List.replicate s.src.length none) :=
  getMap_attrC s h hn σF σN hcF hcN final hsmall

/-- on cold caches the stream of a tree does not depend on what else the store holds -/
theorem c03_cold_store_irrelevant (s : Src) (o : Opts) (σ σ' : Store) (hn : s.ids.Nodup) (hc : Cold σ s.ids) (hc' : Cold σ' s.ids) :
    (s.stream o σ).1 = (s.stream o σ').1 := Src.stream_cold s o σ σ' hn hc hc'


/-! ## the statement of the property itself: file *names*, lines, columns and *names* -/

/-- **C03, name level** (columns = true): for every tree in the domain (all node kinds, `InnerHyp` for the combinator; CachedSource nodes on
cold caches), resolving the position of every character of `source()` through the SourceMap returned by `get_map` — greatest
segment at or before the position on its line, then the map's own `sources` and `names` tables — gives the same original file
name, line, column and name as the chunk that covers the position in the stream an outside caller obtains resolves to through
the announcements of that stream (`attrN`); positions the stream leaves unmapped resolve to nothing. -/
theorem c03_names (s : Src) (h : s.ModeHypC) (hn : s.ids.Nodup) (σF σN : Store) (hcF : Cold σF s.ids) (hcN : Cold σN s.ids) (final : Bool)
    (hsmall : ∀ m ∈ chunkMs (s.stream ⟨true, true⟩ σF).1.evs, m.small) (sm : SMap) (hm : (getMap s ⟨true, final⟩ σF).1 = some sm) :
    (attrFrom (decode sm.mappings) startPos s.src).map (Option.map (resolveMF sm))
      = (attrN emptyS emptyN (s.stream ⟨true, false⟩ σN).1.evs).map (Option.map RLoc.toN) :=
  getMap_names s h hn σF σN hcF hcN final hsmall sm hm


/-- **C03, columns = false** ("the line's first mapped segment", compared at (file, original line) granularity): for every tree of
the domain (`ModeHypL`: all node kinds; sorted leaf maps; values below 2³¹; CachedSource nodes on cold caches) and every
generated line, the first mapped segment of the SourceMap `get_map` returns points to the same source index and original line as
the first mapped chunk on that line of the stream an outside caller obtains; the sources are announced alike (`c03_lines_decls`),
so the index is the same file.  Chain: lines-only codec (C12) ∘ text-less = normal per line (`Src.m3l`; for ConcatSource only the
line offsets and the index translation matter — unmapped closing mappings play no role). -/
theorem c03_lines (s : Src) (h : s.ModeHypL) (hn : s.ids.Nodup) (σF σN : Store) (hcF : Cold σF s.ids) (hcN : Cold σN s.ids) (final : Bool)
    (hsmall : ∀ m ∈ chunkMs (s.stream ⟨false, true⟩ σF).1.evs, ∀ o, m.orig = some o → o.src < U31 ∧ o.line < U31)
    (sm : SMap) (hm : (getMap s ⟨false, final⟩ σF).1 = some sm) (L : Nat) (hL : 0 < L) :
    lookupLines (decode sm.mappings) L = lookupLines (chunkMs (s.stream ⟨false, false⟩ σN).1.evs) L :=
  getMap_lines s h hn σF σN hcF hcN final hsmall sm hm L hL

theorem c03_lines_decls (s : Src) (h : s.ModeHypL) (hn : s.ids.Nodup) (σF σN : Store) (hcF : Cold σF s.ids) (hcN : Cold σN s.ids) :
    declsOf (s.stream ⟨false, true⟩ σF).1.evs = declsOf (s.stream ⟨false, false⟩ σN).1.evs :=
  (Src.m3l s h hn σF σN hcF hcN).decls


/-- **`map()` twice on a tree with warm caches** (columns = true): the second `get_map`, answered from the entries the first one
stored, resolves every position of `source()` as the first does.  The statement of `c10_map_twice` (Props/C10.lean), which says what
it claims and how it is proved; here because with `c03_names` it carries C03 to the second `map()`. -/
theorem c03_map_twice_warm (s : Src) (σ : Store) (h : s.ModeHypC) (hk : s.CachedOK) (hs : s.SmallF) (hn : s.ids.Nodup) (hc : Cold σ s.ids)
    (f1 f2 : Bool)
    (hsmall1 : ∀ m ∈ chunkMs (s.stream ⟨true, true⟩ σ).1.evs, m.small)
    (hsmall2 : ∀ m ∈ chunkMs ((s.warm ⟨true, true⟩).stream ⟨true, true⟩ []).1.evs, m.small)
    (sm1 sm2 : SMap) (h1 : (getMap s ⟨true, f1⟩ σ).1 = some sm1) (h2 : (getMap s ⟨true, f2⟩ (getMap s ⟨true, f1⟩ σ).2).1 = some sm2) :
    (attrFrom (decode sm2.mappings) startPos s.src).map (Option.map (resolveMF sm2))
      = (attrFrom (decode sm1.mappings) startPos s.src).map (Option.map (resolveMF sm1)) :=
  getMap_twice s σ h hk hs hn hc f1 f2 hsmall1 hsmall2 sm1 sm2 h1 h2

/-- **C03 over every call history** (columns = true): in any history of streaming and `get_map` calls on a tree with CachedSource
nodes (none beneath a ReplaceSource), of any length and in any order of options, starting on cold caches — ANY normal-mode stream
`k₁` of the history and the map built by ANY `get_map` `k₂` of the history attribute every byte of `source()` alike: to the same
file name, original line, original column and name (each through its own tables).  `c10_every_history` ∘ the two-call theorems. -/
theorem c03_every_history (s : Src) (hk : s.NoCR) (hn : s.ids.Nodup) (σ : Store) (hc : Cold σ s.ids) (h : s.ModeHypC) (hs : s.SmallF)
    (hw : s.WarmHyp)
    (hsmall1 : ∀ m ∈ chunkMs (s.strip.stream ⟨true, true⟩ []).1.evs, m.small)
    (hsmall2 : ∀ m ∈ chunkMs ((s.warm ⟨true, true⟩).stream ⟨true, true⟩ []).1.evs, m.small)
    (calls : List Opts) (k1 k2 : Nat) (hc1 : calls[k1]? = some ⟨true, false⟩) (hc2 : calls[k2]? = some ⟨true, true⟩) :
    ∃ r1 r2, (runCalls s calls σ).1[k1]? = some r1 ∧ (runCalls s calls σ).1[k2]? = some r2 ∧ ∀ sm, mapOfEvs true r2.evs = some sm →
      (attrFrom (decode sm.mappings) startPos s.src).map (Option.map (resolveMF sm)) = NA r1.evs := by
  obtain ⟨r1, a1, a2⟩ := history_stream_NA s hk hn σ hc hw calls k1 hc1
  obtain ⟨r2, b1, b2⟩ := history_map_NA s hk hn σ hc h hs hsmall1 hsmall2 calls k2 hc2
  exact ⟨r1, r2, a1, b1, fun sm hsm => by rw [b2 sm hsm, a2]⟩

/-- **C03 over every call history, columns = false** (file and line granularity): in any history of streaming and `get_map` calls on
a tree with CachedSource nodes (none beneath a ReplaceSource), starting on cold caches — ANY normal-mode stream `k₁` with
columns = false and the map of ANY `get_map(columns = false)` `k₂` of the history resolve every generated line `L ≥ 1` alike: the
line's first mapped segment of the map (through the map's `sources`) names the same file and original line as the first mapped
chunk on `L` of the stream (through the stream's announcements). -/
theorem c03_every_history_lines (s : Src) (hk : s.NoCR) (hn : s.ids.Nodup) (σ : Store) (hc : Cold σ s.ids) (h : s.ModeHypL) (hs : s.SmallFL)
    (hw : s.WarmHypL)
    (hsmall1 : ∀ m ∈ chunkMs (s.strip.stream ⟨false, true⟩ []).1.evs, ∀ o, m.orig = some o → o.src < U31 ∧ o.line < U31)
    (hsmall2 : ∀ m ∈ chunkMs ((s.warm ⟨false, true⟩).stream ⟨false, true⟩ []).1.evs, ∀ o, m.orig = some o → o.src < U31 ∧ o.line < U31)
    (calls : List Opts) (k1 k2 : Nat) (hc1 : calls[k1]? = some ⟨false, false⟩) (hc2 : calls[k2]? = some ⟨false, true⟩) :
    ∃ r1 r2, (runCalls s calls σ).1[k1]? = some r1 ∧ (runCalls s calls σ).1[k2]? = some r2 ∧ ∀ sm, mapOfEvs false r2.evs = some sm →
      ∀ L, 0 < L → LNameM sm L = LNameOf r1.evs L := by
  obtain ⟨hwf, hp, _⟩ := Src.modeHypL_base s h
  obtain ⟨r1, a1, a2⟩ := history_stream_lname s hk hn σ hc hwf hp hw calls k1 hc1
  obtain ⟨r2, b1, b2⟩ := history_map_lname s hk hn σ hc h hs hsmall1 hsmall2 calls k2 hc2
  exact ⟨r1, r2, a1, b1, fun sm hsm L hL => by rw [b2 sm hsm L hL, a2 L]⟩

/-! ## the boundary: `map()` of a SourceMapSource is its attached map, verbatim (known finding K1) -/

/-- `SourceMapSource("a", "f")` with an attached map that has a source but no segment -/
def k1Witness : Src := .sms [97] [102] ⟨[], [[120]], [], [], none, none, none⟩ none none false

/-- **"`map()` returns no map exactly when no streamed chunk is mapped" fails for a SourceMapSource without inner map** (known
finding K1; the same witness is replayed against the crate on every run: `corpus/C03/k1.case`): `map()` returns the attached map
although the stream delivers one chunk, unmapped.  The theorems of C03 are therefore stated for `get_map` (every other node kind's
`map()`), not for this shortcut. -/
theorem c03_k1_witness :
    (k1Witness.map ⟨true, false⟩ []).1.isSome = true
    ∧ chunkMs (k1Witness.stream ⟨true, false⟩ []).1.evs = [⟨1, 0, none⟩]
    ∧ (getMap k1Witness ⟨true, false⟩ []).1 = none := by
  refine ⟨by decide +kernel, by decide +kernel, by decide +kernel⟩

end Rs
