import RsModel.Model.Tree
import RsModel.Props.C01
import RsModel.Lemmas.AttrTree
import RsModel.Lemmas.ModeTree
import RsModel.Lemmas.LeavesAttr
import RsModel.Lemmas.ColdStrip
import RsModel.Lemmas.WarmTree
import RsModel.Lemmas.HistoryAnswers
/-!
# C13 — composition laws: nesting, neutral elements and wrappers change nothing
-/
namespace Rs

theorem SrcList.ofList_append_srcs (a b : List Src) :
    (SrcList.ofList (a ++ b)).srcs = (SrcList.ofList a).srcs ++ (SrcList.ofList b).srcs := by
  induction a with
  | nil => simp [SrcList.ofList, SrcList.srcs]
  | cons x xs ih => simp [SrcList.ofList, SrcList.srcs, ih]

/-- nesting a *typed* ConcatSource is the flat concatenation — the very same value, hence equal under
every observer (text, buffer, map, stream, hash, equality) -/
theorem c13_typed_nesting (as bs : List Src) (cs : List CItem) :
    mkConcat (.typed as :: .typed bs :: cs) = mkConcat (.typed (as ++ bs) :: cs) := by
  simp [mkConcat]

def citemFlat (c : CItem) : List Src := match c with | .typed cs => cs | .other s => [s]

theorem flat_others (l : List Src) : ((l.map CItem.other).map citemFlat).flatten = l := by
  induction l with
  | nil => rfl
  | cons a as ih => simp only [List.map_cons, List.flatten_cons, citemFlat, ih]; rfl

theorem mkConcat_eq (items : List CItem) : mkConcat items = .concat (SrcList.ofList (items.map citemFlat).flatten) := rfl

theorem c13_typed_is_flat (as : List Src) (cs : List CItem) :
    mkConcat (.typed as :: cs) = mkConcat (as.map .other ++ cs) := by
  rw [mkConcat_eq, mkConcat_eq, List.map_append, List.flatten_append, flat_others]
  rfl

/-- nesting a *boxed* ConcatSource keeps the text of the flat concatenation -/
theorem c13_boxed_nesting_text (as bs : List Src) :
    (mkConcat [.other (mkConcat (as.map .other)), .other (mkConcat (bs.map .other))]).src
      = (mkConcat ((as ++ bs).map .other)).src := by
  simp only [mkConcat_eq, flat_others, Src.src, List.map_cons, List.map_nil, List.flatten_cons, List.flatten_nil,
    citemFlat, List.singleton_append, SrcList.ofList, SrcList.srcs, List.append_nil]
  rw [SrcList.ofList_append_srcs]

/-- a single-child ConcatSource streams and renders (text, rope) exactly like its child -/
theorem c13_single_child (s : Src) (o : Opts) (σ : Store) :
    (Src.concat (.cons s .nil)).stream o σ = s.stream o σ ∧ (Src.concat (.cons s .nil)).src = s.src
    ∧ (Src.concat (.cons s .nil)).rope = s.rope := by
  refine ⟨by simp [Src.stream], by simp [Src.src, SrcList.srcs], by simp [Src.rope]⟩

/-- a ReplaceSource without replacements has the text and the map of the wrapped source -/
theorem c13_replace_nil (s : Src) (o : Opts) (σ : Store) :
    (Src.replace s []).src = s.src ∧ (Src.replace s []).map o σ = s.map o σ := by
  exact ⟨by simp [Src.src, replaceSource], by simp [Src.map]⟩

/-- a CachedSource has the text, buffer and size of the wrapped source -/
theorem c13_cached_views (id : Nat) (s : Src) :
    (Src.cached id s).src = s.src ∧ (Src.cached id s).buffer = s.buffer ∧ (Src.cached id s).size = s.size :=
  ⟨rfl, rfl, rfl⟩

/-- concatenation with empty sources keeps the text -/
theorem c13_empty_children_text (s : Src) :
    (mkConcat [.other (.raw false [] []), .other s, .other (mkConcat [])]).src = s.src := by
  simp [mkConcat, Src.src, SrcList.ofList, SrcList.srcs]

/-- any two trees with the same `source()` stream the same text, whatever their grouping, wrappers and cache
contents (both are well formed): the text half of every law of this property -/
theorem c13_stream_text_of_src (a b : Src) (c : Bool) (σ σ' : Store) (ha : a.WF) (hb : b.WF) (h : a.src = b.src) :
    evsText (a.stream ⟨c, false⟩ σ).1.evs = evsText (b.stream ⟨c, false⟩ σ').1.evs := by
  rw [(c01 a c σ ha).1, (c01 b c σ' hb).1, h]

/-- boxed nesting streams the text of the flat concatenation -/
theorem c13_boxed_nesting_stream_text (as bs : List Src) (c : Bool) (σ σ' : Store)
    (h1 : (mkConcat [.other (mkConcat (as.map .other)), .other (mkConcat (bs.map .other))]).WF)
    (h2 : (mkConcat ((as ++ bs).map .other)).WF) :
    evsText ((mkConcat [.other (mkConcat (as.map .other)), .other (mkConcat (bs.map .other))]).stream ⟨c, false⟩ σ).1.evs
      = evsText ((mkConcat ((as ++ bs).map .other)).stream ⟨c, false⟩ σ').1.evs :=
  c13_stream_text_of_src _ _ c σ σ' h1 h2 (c13_boxed_nesting_text as bs)

/-- a boxed `ConcatSource` used as a child attributes like its children spliced in place -/
theorem c13_boxed_nesting_attribution (cons : Text → Option Text) (as bs : List SResult)
    (ha : ∀ c ∈ as, WellDecl cons emptyS emptyN c.evs ∧ evsTL c.evs = false)
    (hb : ∀ c ∈ bs, WellDecl cons emptyS emptyN c.evs ∧ evsTL c.evs = false) :
    attrN emptyS emptyN (concatStream false (concatStream false as :: bs)).evs
      = attrN emptyS emptyN (concatStream false (as ++ bs)).evs := by
  rw [concatStream_attrN cons (concatStream false as :: bs) (List.forall_mem_cons.2
        ⟨⟨concatStream_wellDecl cons as ha, concatStream_tl as (fun c hc => (ha c hc).2)⟩, hb⟩),
    concatStream_attrN cons (as ++ bs) (List.forall_mem_append.2 ⟨ha, hb⟩)]
  simp only [List.map_cons, List.flatten_cons, List.map_append, List.flatten_append]
  rw [concatStream_attrN cons as ha]

/-- a ConcatSource of one child attributes like the child -/
theorem c13_single_child_attribution (cons : Text → Option Text) (a : SResult)
    (ha : WellDecl cons emptyS emptyN a.evs ∧ evsTL a.evs = false) :
    attrN emptyS emptyN (concatStream false [a]).evs = attrN emptyS emptyN a.evs := by
  rw [concatStream_attrN cons [a] (List.forall_mem_singleton.2 ha)]
  simp

/-- an empty child contributes nothing to the attribution -/
theorem c13_empty_child_attribution (cons : Text → Option Text) (as bs : List SResult) (e : SResult)
    (ha : ∀ c ∈ as, WellDecl cons emptyS emptyN c.evs ∧ evsTL c.evs = false)
    (hb : ∀ c ∈ bs, WellDecl cons emptyS emptyN c.evs ∧ evsTL c.evs = false) (he : e.evs = []) :
    attrN emptyS emptyN (concatStream false (as ++ e :: bs)).evs = attrN emptyS emptyN (concatStream false (as ++ bs)).evs := by
  have hmem : ∀ c ∈ as ++ e :: bs, WellDecl cons emptyS emptyN c.evs ∧ evsTL c.evs = false :=
    List.forall_mem_append.2 ⟨ha, List.forall_mem_cons.2 ⟨by rw [he]; exact ⟨trivial, rfl⟩, hb⟩⟩
  rw [concatStream_attrN cons _ hmem, concatStream_attrN cons _ (List.forall_mem_append.2 ⟨ha, hb⟩)]
  simp [he, attrN]

/-- wrapping a source in a CachedSource whose cache is cold for the option set changes neither the chunk stream nor `map()` -/
theorem c13_cached_cold (id : Nat) (s : Src) (o : Opts) (σ : Store) (h : σ.get? (id, o) = none) :
    ((Src.cached id s).stream o σ).1 = (s.stream o σ).1 ∧ ((Src.cached id s).map o σ).1 = (s.map o σ).1 := by
  rw [Src.cached_stream_cold id s o σ h, Src.cached_map_cold id s o σ h]
  exact ⟨rfl, rfl⟩

/-- `leaves` flattens every nesting of ConcatSource (typed or boxed), including single-child wrappers; a child that is an empty
ConcatSource contributes nothing.  **Two ConcatSource trees with the same sequence of leaves attribute every byte alike in the chunk
stream** (file name, content, line, column, name) — for leaves that announce before use with one content per file name (`Src.WD`). -/
theorem c13_same_leaves_stream (cons : Text → Option Text) (a b : Src) (ha : Src.WD cons true a) (hb : Src.WD cons true b)
    (h : a.leaves = b.leaves) (σ : Store) : a.attr true σ = b.attr true σ :=
  attr_same_leaves cons a b ha hb h σ

/-- … **and through `map()`**: resolving every position of the (common) text through the two SourceMaps and their own tables gives
the same file name, original line, original column and name (columns = true; chain C03 ∘ C06) -/
theorem c13_same_leaves_map (cons : Text → Option Text) (a b : Src) (ha : Src.WD cons true a) (hb : Src.WD cons true b) (h : a.leaves = b.leaves)
    (hma : a.ModeHypC) (hmb : b.ModeHypC) (hsrc : a.src = b.src) (final : Bool)
    (hsa : ∀ m ∈ chunkMs (a.stream ⟨true, true⟩ []).1.evs, m.small) (hsb : ∀ m ∈ chunkMs (b.stream ⟨true, true⟩ []).1.evs, m.small)
    (sma smb : SMap) (h1 : (getMap a ⟨true, final⟩ []).1 = some sma) (h2 : (getMap b ⟨true, final⟩ []).1 = some smb) :
    (attrFrom (decode sma.mappings) startPos a.src).map (Option.map (resolveMF sma))
      = (attrFrom (decode smb.mappings) startPos a.src).map (Option.map (resolveMF smb)) :=
  map_same_leaves cons a b ha hb h hma hmb hsrc final hsa hsb sma smb h1 h2

/-- non-vacuity: boxed nesting, a single-child wrapper and an empty ConcatSource child leave the sequence of leaves unchanged -/
example : (Src.concat (.cons (.concat (.cons (.orig [97] [102]) (.cons (.rawStr [59]) .nil))) (.cons (.concat .nil) (.cons (.concat (.cons (.orig [98] [103]) .nil)) .nil)))).leaves
    = (Src.concat (.cons (.orig [97] [102]) (.cons (.rawStr [59]) (.cons (.orig [98] [103]) .nil)))).leaves := by
  rfl

/-- **ReplaceSource nodes may sit below the regrouped ConcatSources**: a ReplaceSource over a well-declared cache-free tree whose
attached maps reference existing entries is itself a well-declared leaf, so `c13_same_leaves_stream` / `c13_same_leaves_map` apply to trees
whose leaves are Raw / Original / SourceMapSource / ReplaceSource(…) in any grouping -/
theorem c13_replace_leaf (cons : Text → Option Text) (inner : Src) (rs : List Repl) (hw : Src.WD cons true inner) (hi : inner.IdxHyp) :
    Src.WD cons true (.replace inner rs) := Src.wd_replace cons inner rs hw hi

/-- non-vacuity: `Concat[Replace(Original "a;b" f, [(0,1,"X")]), Concat[Raw ";"]]` and its flat regrouping are in the domain -/
example : Src.WD (fun _ => some [97, 59, 98]) true
      (Src.concat (.cons (.replace (.orig [97, 59, 98] [102]) [⟨0, 1, [88], none, 1⟩]) (.cons (.concat (.cons (.rawStr [59]) .nil)) .nil)))
    ∧ (Src.concat (.cons (.replace (.orig [97, 59, 98] [102]) [⟨0, 1, [88], none, 1⟩]) (.cons (.concat (.cons (.rawStr [59]) .nil)) .nil))).leaves
      = (Src.concat (.cons (.replace (.orig [97, 59, 98] [102]) [⟨0, 1, [88], none, 1⟩]) (.cons (.rawStr [59]) .nil))).leaves :=
  ⟨⟨Src.wd_replace _ _ _ rfl trivial, ⟨trivial, trivial⟩, trivial⟩, rfl⟩


/-- **CachedSource wrappers on cold caches change nothing, at any depth and in any number**: streams (every mode), `get_map` and
text of the tree equal those of the tree without the wrappers -/
theorem c13_cached_cold_any_depth (s : Src) (o : Opts) (σ : Store) (hn : s.ids.Nodup) (hc : Cold σ s.ids) :
    (s.stream o σ).1 = (s.strip.stream o []).1 ∧ (getMap s o σ).1 = (getMap s.strip o []).1 ∧ s.src = s.strip.src :=
  ⟨Src.stream_strip s o σ hn hc, getMap_strip s o σ hn hc, (Src.strip_src s).symm⟩


/-- **every regrouping at once, at name level, for any leaves**: two trees with the same sequence of leaves — whatever the leaves are
(SourceMapSource with any map whose indices lie inside its tables, with or without inner map; ReplaceSource nodes; raw; original)
and however ConcatSource groups them (typed or boxed, single-child wrappers, empty ConcatSources) — resolve every byte of the
stream to the same file name, original line, original column and name.  No "one content per file name" is needed
(`c13_same_leaves_stream` compares the embedded contents as well and needs it). -/
theorem c13_same_leaves_names (a b : Src) (ha : a.NoCached) (hb : b.NoCached) (ia : a.IdxHyp) (ib : b.IdxHyp) (h : a.leaves = b.leaves) :
    NA (a.stream ⟨true, false⟩ []).1.evs = NA (b.stream ⟨true, false⟩ []).1.evs :=
  NA_same_leaves a b ha hb ia ib h

/-- … and with CachedSource wrappers on cold caches anywhere in the two trees (strip them first: `c13_cached_cold_any_depth`) -/
theorem c13_same_leaves_names_cold (a b : Src) (σa σb : Store) (hna : a.ids.Nodup) (hnb : b.ids.Nodup) (hca : Cold σa a.ids) (hcb : Cold σb b.ids)
    (ia : a.strip.IdxHyp) (ib : b.strip.IdxHyp) (h : a.strip.leaves = b.strip.leaves) :
    NA (a.stream ⟨true, false⟩ σa).1.evs = NA (b.stream ⟨true, false⟩ σb).1.evs := by
  rw [Src.stream_strip a _ σa hna hca, Src.stream_strip b _ σb hnb hcb]
  exact c13_same_leaves_names _ _ (Src.strip_nc a) (Src.strip_nc b) ia ib h

/-- **… and on warm caches, after arbitrary call histories**: `a` and `b` have the same sequence of leaves once their CachedSource
wrappers are taken off (any grouping by ConcatSource nodes, CachedSource wrappers at any depth and in any number, none beneath a
ReplaceSource), each on its own caches, cold at the start, and each is observed through its OWN history of streaming / `get_map`
calls — any lengths, any option orders.  Any normal-mode stream (columns = true) of `a`'s history and any of `b`'s history resolve
every byte to the same file name, original line, original column and name.  `c10_every_history_stream` ∘ `c13_same_leaves_names`
on the cache-free forms. -/
theorem c13_same_leaves_every_history (a b : Src) (σa σb : Store) (hna : a.ids.Nodup) (hnb : b.ids.Nodup)
    (hca : Cold σa a.ids) (hcb : Cold σb b.ids) (hka : a.NoCR) (hkb : b.NoCR) (hwa : a.WarmHyp) (hwb : b.WarmHyp)
    (ia : a.strip.IdxHyp) (ib : b.strip.IdxHyp) (h : a.strip.leaves = b.strip.leaves)
    (callsA callsB : List Opts) (ka kb : Nat) (h1 : callsA[ka]? = some ⟨true, false⟩) (h2 : callsB[kb]? = some ⟨true, false⟩) :
    ∃ ra rb, (runCalls a callsA σa).1[ka]? = some ra ∧ (runCalls b callsB σb).1[kb]? = some rb ∧ NA ra.evs = NA rb.evs := by
  obtain ⟨ra, a1, a2⟩ := history_stream_NA a hka hna σa hca hwa callsA ka h1
  obtain ⟨rb, b1, b2⟩ := history_stream_NA b hkb hnb σb hcb hwb callsB kb h2
  exact ⟨ra, rb, a1, b1, by rw [a2, b2]; exact c13_same_leaves_names _ _ (Src.strip_nc a) (Src.strip_nc b) ia ib h⟩

/-- **every regrouping at once, columns = false, for any leaves**: two cache-free trees with the same sequence of leaves, however
ConcatSource groups them, resolve every byte of the normal-mode stream with columns = false to the same file name, original line,
column and name — and hence the first mapped chunk of every generated line to the same file name and original line. -/
theorem c13_same_leaves_lines (a b : Src) (ha : a.NoCached) (hb : b.NoCached) (ia : a.IdxHyp) (ib : b.IdxHyp)
    (wa : a.WF) (wb : b.WF) (pa : a.PosHyp false) (pb : b.PosHyp false) (h : a.leaves = b.leaves) :
    NA (a.stream ⟨false, false⟩ []).1.evs = NA (b.stream ⟨false, false⟩ []).1.evs
    ∧ ∀ L, LNameOf (a.stream ⟨false, false⟩ []).1.evs L = LNameOf (b.stream ⟨false, false⟩ []).1.evs L :=
  ⟨NA_same_leaves' false a b ha hb ia ib h, lname_same_leaves a b ha hb ia ib wa wb pa pb h⟩

/-- **… and with CachedSource wrappers, after arbitrary call histories** (columns = false, file and line granularity): `a` and `b`
have the same sequence of leaves once their CachedSource wrappers are taken off, each is observed through its own history; any
normal-mode stream with columns = false of the one and of the other resolve the first mapped chunk of every generated line to the
same file name and original line. -/
theorem c13_same_leaves_every_history_lines (a b : Src) (σa σb : Store) (hna : a.ids.Nodup) (hnb : b.ids.Nodup)
    (hca : Cold σa a.ids) (hcb : Cold σb b.ids) (hka : a.NoCR) (hkb : b.NoCR)
    (wa : a.WF) (wb : b.WF) (pa : a.PosHyp false) (pb : b.PosHyp false) (hwa : a.WarmHypL) (hwb : b.WarmHypL)
    (ia : a.strip.IdxHyp) (ib : b.strip.IdxHyp) (h : a.strip.leaves = b.strip.leaves)
    (callsA callsB : List Opts) (ka kb : Nat) (h1 : callsA[ka]? = some ⟨false, false⟩) (h2 : callsB[kb]? = some ⟨false, false⟩) :
    ∃ ra rb, (runCalls a callsA σa).1[ka]? = some ra ∧ (runCalls b callsB σb).1[kb]? = some rb
      ∧ ∀ L, LNameOf ra.evs L = LNameOf rb.evs L := by
  obtain ⟨ra, a1, a2⟩ := history_stream_lname a hka hna σa hca wa pa hwa callsA ka h1
  obtain ⟨rb, b1, b2⟩ := history_stream_lname b hkb hnb σb hcb wb pb hwb callsB kb h2
  refine ⟨ra, rb, a1, b1, fun L => ?_⟩
  rw [a2 L, b2 L]
  exact lname_same_leaves _ _ (Src.strip_nc a) (Src.strip_nc b) ia ib (Src.strip_wf a wa) (Src.strip_wf b wb)
    (Src.strip_posHyp false a pa) (Src.strip_posHyp false b pb) h L

/-! ## the boundary: a ReplaceSource with only empty replacements refines columns (known finding K2) -/

/-- `ReplaceSource(OriginalSource("ab", "f"))` with the empty string inserted at 1 -/
def k2Witness : Src := .replace (.orig [97, 98] [102]) [⟨1, 1, [], none, 1⟩]

/-- **"a ReplaceSource with only empty replacements behaves exactly like the wrapped source" fails at column granularity** (known
finding K2; replayed against the crate on every run: `corpus/C13/k2-wrappers.case`): the text is the wrapped text, but the chunk is split at
the insertion point and — the recorded content spelling the chunk — the second piece reports the original column advanced to the
split: byte 1 resolves to column 1 instead of the wrapped source's column 0 (same file, line and name). -/
theorem c13_k2_witness :
    k2Witness.src = (Src.orig [97, 98] [102]).src
    ∧ NA (k2Witness.stream ⟨true, false⟩ []).1.evs = [some ⟨some [102], 1, 0, none⟩, some ⟨some [102], 1, 1, none⟩]
    ∧ NA ((Src.orig [97, 98] [102]).stream ⟨true, false⟩ []).1.evs = [some ⟨some [102], 1, 0, none⟩, some ⟨some [102], 1, 0, none⟩] := by
  refine ⟨by decide +kernel, by decide +kernel, by decide +kernel⟩

end Rs
