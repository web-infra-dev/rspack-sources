import RsModel.Lemmas.Vlq
import RsModel.Lemmas.TrapsTree
/-!
# C17 — no input in the documented domain makes the library panic or hang

Termination: every model function is accepted by Lean's termination checker (structural recursion over
the input list, or explicit fuel bounded by the input size), so the modelled loops cannot hang.
The first group of theorems is about the decoder's arithmetic on *every* byte string.  The second group (`Model/Checked.lean`,
`Lemmas/Traps*.lean`) restates the streaming code with every partial operation of the Rust *checked* — `v[i]`, `u32`/`usize`
subtraction and `+= 1` under overflow checks, `&s[a..b]` on a `str` — so that the checked function is `none` exactly where the Rust
would panic, and proves that on the documented domain it is `some` of what the total model computes: no site can fire.  Which
sites exist is read off the source (each carries its line number in `Checked.lean`); the checked functions are executable and
the driver answers `stream` / `src` requests through them (`trap` when `none`), so they are compared with the crate on every run.
-/
namespace Rs

/-- `(current_data[k] as i64 + final_value) as u32` always lands in the `u32` range -/
theorem c17_addField_u32 (cur v : Nat) : addField cur v < 2 ^ 32 := by
  unfold addField
  have h : (0 : Int) ≤ ((cur : Int) + finalValue v) % 2 ^ 32 := Int.emod_nonneg _ (by decide)
  have h2 : ((cur : Int) + finalValue v) % 2 ^ 32 < 2 ^ 32 := Int.emod_lt_of_pos _ (by decide)
  omega

def DecSt.Bounded (s : DecSt) : Prop :=
  s.d0 < 2 ^ 32 ∧ s.d1 < 2 ^ 32 ∧ s.d2 < 2 ^ 32 ∧ s.d3 < 2 ^ 32 ∧ s.d4 < 2 ^ 32

theorem setField_bounded (s : DecSt) (v : Nat) (h : s.Bounded) : (s.setField v).Bounded := by
  obtain ⟨h0, h1, h2, h3, h4⟩ := h
  exact ⟨Chk.ite_lt (c17_addField_u32 _ _) h0, Chk.ite_lt (c17_addField_u32 _ _) h1, Chk.ite_lt (c17_addField_u32 _ _) h2,
    Chk.ite_lt (c17_addField_u32 _ _) h3, Chk.ite_lt (c17_addField_u32 _ _) h4⟩

/-- one decoder step on an arbitrary byte keeps the fields in range (no state can make it trap) -/
theorem c17_decByte_bounded (s : DecSt) (c : UInt8) (h : s.Bounded) : (decByte s c).1.Bounded := by
  exact Chk.decByte_elim s c (fun r => r.1.Bounded) h ⟨Nat.two_pow_pos 32, h.2⟩ h (fun v => setField_bounded s v h) (fun _ _ => h)

theorem c17_decBytes_bounded : ∀ (bs : Text) (s : DecSt), s.Bounded → (decBytes s bs).1.Bounded := by
  intro bs
  induction bs with
  | nil => intro s h; exact h
  | cons c cs ih => intro s h; exact ih _ (c17_decByte_bounded s c h)

/-- on *every* byte string the decoder ends in a state whose fields fit `u32` -/
theorem c17_decode_total (bs : Text) : (decBytes decInitSt bs).1.Bounded := by
  apply c17_decBytes_bounded
  rw [decInit_eq]
  exact ⟨by decide, by decide, by decide, by decide, by decide⟩

/-- non-vacuity: a long run of continuation digits (fix F4: bits shifted beyond 63 are ignored) -/
example : (decBytes decInitSt (List.replicate 14 103 ++ [65])).1.dataPos = 1 := by decide +kernel

/-- **the four map-driven splitters cannot panic, whatever the map**: for every text (below 4 GiB − 2) and every SourceMap whose
`mappings` string is below 4 GiB — segments unsorted or sorted, outside the text, source and name indices outside the tables,
any `sourceRoot` — in both column settings and both modes every checked site (the `line_with_indices_list[current_generated_line
- 1]` / `lines[current_generated_line as usize - 1]` accesses, the `u32` `- 1` and `+= 1`, `len() - 1`, `result.generated_line
- 1`, `mapping.generated_line + 1`) succeeds and the result is the total model's. -/
theorem c17_splitters_total (t : Text) (sm : SMap) (o : Opts) (ht : t.length + 2 < 2 ^ 32) (hm : sm.mappings.length + 1 < 2 ^ 32) :
    Chk.streamSMC t sm o = some (streamSM t sm o) :=
  Chk.streamSMC_total t sm o ht hm

/-- the raw stream (`line += 1`, `line - 1`) -/
theorem c17_raw_total (t : Text) (o : Opts) (ht : t.length + 1 < 2 ^ 32) : Chk.streamRawC t o = some (streamRaw t o) :=
  Chk.streamRawC_total t o ht

/-- **`OriginalSource::stream_chunks` cannot panic** (`line += 1`, `column += token.len() as u32`, `line - 1`), every text below
4 GiB — multi-byte included —, all four modes: the `u32` counters stay below the text length plus one (`Lemmas/TrapsDomain.lean`) -/
theorem c17_original_total (t name : Text) (o : Opts) (ht : t.length + 1 < 2 ^ 32) :
    Chk.streamOriginalC t name o = some (streamOriginal t name o) :=
  Chk.streamOriginalC_total t name o ht

/-- **`source()` of every tree cannot panic** when each replacement position is on a char boundary of the text it edits or beyond
its end (`Src.ReplDom`; multi-byte text, any order, overlap, `end < start`): every `&inner[a..b]` of the splice, evaluated with
`str::get`'s rule, succeeds. -/
theorem c17_source_total (s : Src) (h : s.ReplDom) : s.srcC = some s.src := Src.srcC_eq s h

/-- **streaming a tree without CachedSource cannot trap in the checked parts** (raw leaves, map-driven leaves at any depth
under ConcatSource / ReplaceSource), any store, with (`ovf = true`, a build with overflow checks: ConcatSource's `u32` bookkeeping
checked) or without overflow checks; `streamC` runs ConcatSource with the crate's saturating column addition (fix F16),
and `s.NoSat o` says no ConcatSource node of the tree overflows or saturates.  PARTIAL: the combined-map lookup and
the position bookkeeping of ReplaceSource are not restated in checked form (they pass through the total model; K4 lives there). -/
theorem c17_tree_stream_total_partial (ovf : Bool) (s : Src) (o : Opts) (σ : Store) (hn : s.NoCached) (h : s.SizeOK) (hs : s.NoSat o) :
    s.streamC ovf o σ = some (s.stream o σ) := Src.streamC_eq ovf s o σ hn h hs

/-- **ConcatSource cannot trap and is the model's ConcatSource** on children that report true positions (C02) and whose texts
total less than 2 GiB: the checked stream — `mapping.generated_line + current_line_offset`, `current_line_offset + 1`,
`current_column_offset += generated_column`, `current_line_offset += generated_line - 1` as partial `u32` operations, the chunk
column with the crate's `saturating_add` (fix F16) — succeeds and equals the unbounded model every other theorem is about -/
theorem c17_concat_total (final : Bool) (cs : List SResult) (hp : ∀ c ∈ cs, PosOK c ∧ evsTL c.evs = false)
    (hlen : 2 * Chk.sumText cs + 2 < 2 ^ 32) : Chk.concatStreamC final cs = some (concatStream final cs) :=
  Chk.concatStreamC_eq_of_posOK final cs hp hlen

/-- the saturating form alone (no hypothesis on lines) -/
theorem c17_concat_saturation_free (final : Bool) (cs : List SResult) (hp : ∀ c ∈ cs, PosOK c ∧ evsTL c.evs = false)
    (hlen : 2 * Chk.sumText cs < 2 ^ 32) : Chk.concatStreamS final cs = concatStream final cs :=
  Chk.concatStreamS_eq_of_posOK final cs hp hlen

/-- **normal mode, trees in the domain of C02**: the checked tree stream — checked splitters, the crate's saturating ConcatSource —
is the model's stream: nothing traps and nothing saturates -/
theorem c17_tree_stream_total_normal (ovf : Bool) (s : Src) (c : Bool) (σ : Store) (hn : s.NoCached) (hsz : s.SizeOK) (hw : s.WF)
    (hp : s.PosHyp c) (hh : s.HalfOK) : s.streamC ovf ⟨c, false⟩ σ = some (s.stream ⟨c, false⟩ σ) :=
  Src.streamC_eq ovf s ⟨c, false⟩ σ hn hsz (Src.noSat_normal s c hn hw hp hh)

/-- beyond `u32` the saturating ConcatSource does differ from the model (a chunk at column `u32::MAX` behind a one-byte sibling) -/
example : Chk.concatStreamS false [⟨[.chunk (some [97]) ⟨1, 0, none⟩], ⟨1, 1⟩⟩, ⟨[.chunk (some []) ⟨1, 4294967295, none⟩], ⟨1, 1⟩⟩]
    ≠ concatStream false [⟨[.chunk (some [97]) ⟨1, 0, none⟩], ⟨1, 1⟩⟩, ⟨[.chunk (some []) ⟨1, 4294967295, none⟩], ⟨1, 1⟩⟩] := by decide +kernel

/-- … and a CachedSource answering from its cache replays whatever map an earlier call stored (its `mappings` string below 4 GiB)
through the same splitters: no trap either -/
theorem c17_cached_replay_total (ovf : Bool) (id : Nat) (inner : Src) (o : Opts) (σ : Store) (x : Option SMap) (hx : σ.get? (id, o) = some x)
    (hlen : inner.src.length + 2 < 2 ^ 32) (hm : ∀ m, x = some m → m.mappings.length + 1 < 2 ^ 32) :
    (Src.cached id inner).streamC ovf o σ = some ((Src.cached id inner).stream o σ) := by
  simp only [Src.streamC, Src.stream, hx]
  cases x with
  | none => simp only [Chk.streamRawC_total inner.src o (Nat.lt_of_succ_lt hlen)]; rfl
  | some m => simp only [Chk.streamSMC_total inner.src m o hlen (hm m rfl)]; rfl

/-- the checked functions do trap outside the domain (so the theorems are not vacuous): a replacement inside `é`, … -/
example : Chk.replaceSourceC [195, 169] [⟨1, 1, [120], none, 1⟩] = none := by decide +kernel
/-- … and a closure state that `current_generated_line ≥ 1` rules out -/
example : Chk.smStep1C [[97]] { line := 0, active := true } ⟨1, 0, none⟩ = none := by decide +kernel
/-- a wild map on a two-line text: segment on line 7, column 40, source 9, name 9 -/
example : (Chk.streamSMFullC [97, 10, 98] { mappings := [77, 65, 65, 65, 59, 59, 59, 59, 59, 59, 119, 67, 83, 65, 65, 83], sources := [], sourcesContent := [], names := [] }).isSome = true := by
  decide +kernel

end Rs
