import RsModel.Lemmas.EqHash
import RsModel.Lemmas.HashInj
/-!
# C20 — hashes separate observably different sources and are reproducible
Statements are about the hasher *input* (`calls`): two different inputs hash differently up to
collisions of the 64-bit hasher, which is the property's own proviso.

Clause of the property → theorem:
* reproducible → `c20_deterministic`
* an edit changes the hasher input of the edited node: leaf text → `c20_leaf_text`, `c20_raw_leaf`; text or file name of an
  OriginalSource → `c20_original`; node type → `c20_tags_distinct`; a replacement → `c20_replacement`, `c20_replacements`; text,
  maps, original source or remove flag of a SourceMapSource → `c20_source_map_source`; a child → `c20_concat_child`, `c20_concat_child'`
* … and then of every tree around it → `c20_one_edit`
* different hasher input ⇒ unequal → `c20_unequal`
-/
namespace Rs

/-- reproducible: the hasher input is a function of the constructor data and of nothing else -/
theorem c20_deterministic (fxh : List HCall → Nat) (a b : Src) (h : a = b) : a.calls fxh = b.calls fxh := by rw [h]

theorem tag_bytes_inj (tag tag' t t' : Text) (e : hStr tag ++ hBytes t = hStr tag' ++ hBytes t') : t = t' :=
  (hBytes_inj t t' [] [] (by simpa using (hStr_inj _ _ _ _ e).2)).1

/-- a changed leaf text changes the hasher input (raw leaves) -/
theorem c20_leaf_text (fxh : List HCall → Nat) (t t' : Text) (h : t ≠ t') :
    (Src.rawStr t).calls fxh ≠ (Src.rawStr t').calls fxh :=
  fun e => h (tag_bytes_inj _ _ _ _ e)

/-- a changed text or a changed file name of an OriginalSource changes the hasher input -/
theorem c20_original (fxh : List HCall → Nat) (t t' n n' : Text) (h : t ≠ t' ∨ n ≠ n') :
    (Src.orig t n).calls fxh ≠ (Src.orig t' n').calls fxh := by
  intro e
  simp only [Src.calls, List.append_assoc] at e
  have h1 := (hStr_inj _ _ _ _ e).2
  have h2 := hBytes_inj _ _ _ _ h1
  have h3 : n = n' := by simpa [hStr] using h2.2
  rcases h with h | h
  · exact h h2.1
  · exact h h3

/-- sources of different types feed different tags -/
theorem c20_tags_distinct :
    Generated.tagRawSource ≠ Generated.tagRawStringSource ∧ Generated.tagRawSource ≠ Generated.tagRawBufferSource
    ∧ Generated.tagRawStringSource ≠ Generated.tagRawBufferSource ∧ Generated.tagOriginalSource ≠ Generated.tagSourceMapSource
    ∧ Generated.tagConcatSource ≠ Generated.tagReplaceSource ∧ Generated.tagOriginalSource ≠ Generated.tagRawSource
    ∧ Generated.tagConcatSource ≠ Generated.tagRawSource ∧ Generated.tagReplaceSource ≠ Generated.tagRawSource := by decide

/-- a changed range, content, name or enforcement of a replacement changes its record -/
theorem c20_replacement (r r' : Repl) (h : r ≠ r') (hs : r.start < 2 ^ 32 ∧ r'.start < 2 ^ 32) : hRepl r ≠ hRepl r' :=
  fun e => h (hRepl_inj r r' [] [] (by rw [List.append_nil, List.append_nil]; exact e)).1

/-- context: what surrounds a child of a ConcatSource does not depend on the child, so a change of the child's hasher input
(to one of the same length; without that: `c20_concat_child'`) changes the parent's (append cancellation), at any position -/
theorem c20_concat_child (fxh : List HCall → Nat) (pre : List Src) (a b : Src) (post : SrcList)
    (h : a.calls fxh ≠ b.calls fxh) (hlen : (a.calls fxh).length = (b.calls fxh).length) :
    (SrcList.ofList pre).callsL fxh ++ (a.calls fxh ++ post.callsL fxh)
      ≠ (SrcList.ofList pre).callsL fxh ++ (b.calls fxh ++ post.callsL fxh) := by
  intro e
  have e1 := List.append_cancel_left e
  exact h (List.append_inj_left e1 hlen)


/-- **context theorem**: whatever surrounds the edited node — any nesting of ConcatSource (any position among its children),
ReplaceSource and CachedSource, to any depth — if the edit changes the hasher input of the node, it changes the hasher input
of the whole tree.  `fxh` is the memoising hasher of CachedSource; "no collisions" is the property's own proviso. -/
theorem c20_one_edit (fxh : List HCall → Nat) (hinj : ∀ x y, fxh x = fxh y → x = y) (c : Ctx) (a b : Src)
    (h : a.calls fxh ≠ b.calls fxh) : (c.fill a).calls fxh ≠ (c.fill b).calls fxh :=
  fun e => h (ctx_calls_inj fxh hinj a b c e)

/-- edits of a raw / buffer leaf -/
theorem c20_raw_leaf (fxh : List HCall → Nat) (f f' : Bool) (t t' l l' : Text) (h : t ≠ t') :
    (Src.raw f t l).calls fxh ≠ (Src.raw f' t' l').calls fxh ∧ (Src.rawBuf t l).calls fxh ≠ (Src.rawBuf t' l').calls fxh :=
  ⟨fun e => h (tag_bytes_inj _ _ _ _ e), fun e => h (tag_bytes_inj _ _ _ _ e)⟩

/-- edits of the replacement set: any change that survives sorting (range, content, name, enforcement of a replacement, an
added or removed replacement) changes the hasher input; the wrapped source may change too -/
theorem c20_replacements (fxh : List HCall → Nat) (x x' : Src) (rs rs' : List Repl) (h : sortRepls rs ≠ sortRepls rs') :
    (Src.replace x rs).calls fxh ≠ (Src.replace x' rs').calls fxh := by
  intro e
  simp only [Src.calls, List.append_assoc] at e
  have e1 := (hStr_inj _ _ _ _ e).2
  exact h (hRepls_inj _ _ _ _ (calls_noU32Head fxh x) (calls_noU32Head fxh x') e1).1

/-- edits of a SourceMapSource: its text, any field of the attached map, the original source, any field of the inner map or
the remove flag (the *name* is deliberately not hashed) -/
theorem c20_source_map_source (fxh : List HCall → Nat) (t t' n n' : Text) (m m' : SMap) (o o' : Option Text) (i i' : Option SMap)
    (r r' : Bool) (h : t ≠ t' ∨ m ≠ m' ∨ o ≠ o' ∨ i ≠ i' ∨ r ≠ r') :
    (Src.sms t n m o i r).calls fxh ≠ (Src.sms t' n' m' o' i' r').calls fxh := by
  intro e
  simp only [Src.calls, List.append_assoc] at e
  obtain ⟨ht, e⟩ := hBytes_inj _ _ _ _ (hStr_inj _ _ _ _ e).2
  obtain ⟨hm, e⟩ := hSMap_inj _ _ _ _ (noBytesHead_hOpt _ _) (noBytesHead_hOpt _ _) e
  obtain ⟨ho, e⟩ := hOpt_hStr_inj _ _ _ _ e
  obtain ⟨hi, e⟩ := hOpt_inj (hSMap_inj · · _ _ (noBytesHead_u8 _) (noBytesHead_u8 _)) _ _ e
  have hr : r = r' := by
    revert e
    cases r <;> cases r' <;> decide
  rcases h with h | h | h | h | h
  · exact h ht
  · exact h hm
  · exact h ho
  · exact h hi
  · exact h hr

/-- a changed child of a ConcatSource whose own hasher input differs (same surroundings, any position) -/
theorem c20_concat_child' (fxh : List HCall → Nat) (pre post : SrcList) (a b : Src) (h : a.calls fxh ≠ b.calls fxh) :
    (Src.concat (pre.append (.cons a post))).calls fxh ≠ (Src.concat (pre.append (.cons b post))).calls fxh :=
  fun e => h (concat_calls_cancel fxh pre post a b e)

/-- … and such values compare unequal (contrapositive of `a == b ⇒ equal hasher input`) -/
theorem c20_unequal (fxh : List HCall → Nat) (a b : Src) (h : a.calls fxh ≠ b.calls fxh) : a.eqv b = false := by
  cases he : a.eqv b with
  | false => rfl
  | true => exact absurd (Src.eqv_calls fxh a b he) h

end Rs
