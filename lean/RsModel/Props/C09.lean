import RsModel.Model.Combined
import RsModel.Lemmas.PosComb
import RsModel.Lemmas.CombInner
import RsModel.Lemmas.ModeLeaves
import RsModel.Lemmas.CombTables
import RsModel.Lemmas.CombCompose
import RsModel.Lemmas.CombComposeL
/-!
# C09 — combined source maps compose outer and inner attribution
per outer chunk (pass-through, the search for the inner segment, composition, fall-back and removal), then for the whole stream in
terms of the inner map itself, for both column settings
-/
namespace Rs

/-- an unmapped outer chunk stays unmapped and keeps its text and position -/
theorem c09_unmapped_passthrough (cfg : CombCfg) (st : CombSt) (text : Option Text) (gl gc : Nat)
    (h : st.innerSourceIndex ≠ -1) :
    (combOnChunk cfg st text ⟨gl, gc, none⟩).2 = [.chunk text ⟨gl, gc, none⟩] := by
  rw [combOnChunk_unmapped cfg st h]

/-- a chunk pointing to a source other than the inner one, already resolved to the global index `g` and carrying no name, is passed
through with the same original line and column, under `g` -/
theorem c09_other_source_passthrough (cfg : CombCfg) (st : CombSt) (text : Option Text) (gl gc : Nat) (o : Orig)
    (hother : (o.src : Int) ≠ st.innerSourceIndex) (g : Int) (hg : st.sourceIndexMapping[o.src]? = some g) (hg0 : 0 ≤ g)
    (hn : o.name = none) :
    (combOnChunk cfg st text ⟨gl, gc, some o⟩).2 = [.chunk text ⟨gl, gc, some ⟨g.toNat, o.line, o.col, none⟩⟩] := by
  have h1 : ((o.src : Int) == st.innerSourceIndex) = false := by simpa using hother
  have h2 : ¬ ((o.src : Int) < 0) := by omega
  have h3 : ¬ (g < 0) := by omega
  simp [combOnChunk, h1, combPass, h2, hg, h3, hn]

/-- the hand-written bisection never returns an index beyond the segment list -/
theorem c09_bisect_le (segs : List InnerSeg) (col : Int) : ∀ (fuel l r : Nat), l ≤ r → r ≤ segs.length →
    bisect segs col fuel l r ≤ segs.length :=
  bisect_le segs col

theorem globalSource_noChunk' (sm : Assoc) (s : Text) (c : Option Text) : ∀ e ∈ (globalSource sm s c).2.1, e.isChunk = false :=
  globalSource_anns sm s c

theorem globalName_noChunk' (nm : Assoc) (n : Text) : ∀ e ∈ (globalName nm n).2.1, e.isChunk = false :=
  globalName_anns nm n

/-- **the hand-written bisection of `find_inner_mapping` is correct**: on a sorted line it returns the number of segments whose
generated column is at or before `col` — so `l - 1` is the greatest such segment -/
theorem c09_bisect_spec (segs : List InnerSeg) (col : Int) (hs : SegsSorted segs) : ∀ (fuel l r : Nat), l ≤ r → r ≤ segs.length → r - l < fuel →
    (∀ i, i < l → (segs.getD i default).gc ≤ col) → (∀ i, r ≤ i → i < segs.length → col < (segs.getD i default).gc) →
    (∀ i, i < bisect segs col fuel l r → (segs.getD i default).gc ≤ col)
    ∧ (∀ i, bisect segs col fuel l r ≤ i → i < segs.length → col < (segs.getD i default).gc) :=
  bisect_spec segs col hs

/-- `find_inner_mapping` returns the greatest segment of the line at or before the column, and none exactly when there is none -/
theorem c09_findInner_spec (st : CombSt) (line column : Int) (h1 : 0 < line) (h2 : line.toNat ≤ st.lineData.length)
    (hs : SegsSorted (st.lineData.getD (line.toNat - 1) default).segs) :
    (∀ idx, findInner st line column = some idx →
        idx < (st.lineData.getD (line.toNat - 1) default).segs.length
        ∧ ((st.lineData.getD (line.toNat - 1) default).segs.getD idx default).gc ≤ column
        ∧ ∀ j, idx < j → j < (st.lineData.getD (line.toNat - 1) default).segs.length → column < ((st.lineData.getD (line.toNat - 1) default).segs.getD j default).gc)
    ∧ (findInner st line column = none → ∀ j, j < (st.lineData.getD (line.toNat - 1) default).segs.length → column < ((st.lineData.getD (line.toNat - 1) default).segs.getD j default).gc) := by
  have hle := segCount_le (st.lineData.getD (line.toNat - 1) default).segs column
  obtain ⟨hlo, hhi⟩ := segCount_spec hs column
  refine ⟨fun idx h => ?_, fun h j => hhi j (by rw [findInner_none h1 h2 h]; exact Nat.zero_le j)⟩
  rw [(findInner_some h).2.2] at hle hlo hhi
  exact ⟨hle, hlo idx (Nat.lt_succ_self _), fun j hj => hhi j hj⟩

/-- **composition**: an outer chunk that points into the inner source at `(o.line, o.col)`, for which the search finds the inner
segment `seg` (mapped: `seg.src ≥ 0`), is delivered — same text, same generated position, after announcements only — at the inner
segment's original line, and at a column that is the inner segment's column or that column plus the offset `o.col - seg.gc` into
the segment (the file and the name: `c09_stream_compose`, `c09_names`) -/
theorem c09_compose_chunk (cfg : CombCfg) (st : CombSt) (text : Option Text) (m : Mapping) (o : Orig) (ho : m.orig = some o)
    (hsrc : (o.src : Int) = st.innerSourceIndex) (idx : Nat) (hfind : findInner st o.line o.col = some idx)
    (hmapped : ((st.lineData.getD (o.line - 1) {}).segs.getD idx default).src ≥ 0) :
    ∃ pre out, (combOnChunk cfg st text m).2 = pre ++ [Ev.chunk text ⟨m.gl, m.gc, out⟩] ∧ evsKeys pre = []
      ∧ ∀ y, out = some y →
          y.line = ((st.lineData.getD (o.line - 1) {}).segs.getD idx default).line.toNat
          ∧ (y.col = ((st.lineData.getD (o.line - 1) {}).segs.getD idx default).col.toNat
             ∨ y.col = (((st.lineData.getD (o.line - 1) {}).segs.getD idx default).col
                          + ((o.col : Int) - ((st.lineData.getD (o.line - 1) {}).segs.getD idx default).gc)).toNat) := by
  have hc := combOnChunk_cases cfg st m
  simp only [Mapping.si, Mapping.ol, Mapping.oc, ho, Int.toNat_natCast] at hc
  rcases hc with ⟨idx', _, hfi, _, e⟩ | ⟨_, hlt, _⟩ | ⟨hne, _⟩
  · cases hfind.symm.trans hfi
    rw [e text]
    refine ⟨_, _, rfl, ?_, fun y hy => ?_⟩
    · rw [evsKeys_append, combSrcResolve_keys, combNameResolve_keys]; rfl
    · obtain ⟨_, rfl⟩ := ite_some_eq hy
      refine ⟨rfl, ?_⟩
      dsimp only
      split
      · exact Or.inr rfl
      · exact Or.inl rfl
  · have := hlt idx hfind
    omega
  · exact absurd hsrc hne

/-- where the inner map has no mapping and removal of the original source is requested, the chunk is left unmapped -/
theorem c09_no_inner_removed (cfg : CombCfg) (st : CombSt) (text : Option Text) (m : Mapping) (a b c d : Int) (h : cfg.remove = true) :
    (combNoInner cfg st text m a b c d).2 = [Ev.chunk text ⟨m.gl, m.gc, none⟩] := by
  simp [combNoInner, h]

/-- **the inner line data**: after the inner stream has been consumed (`combInnerEv` over its events), generated line `L` holds the
chunk mappings of the inner stream on line `L`, in stream order, appended to what was there -/
theorem c09_recorded (evs : List Ev) (st : CombSt) (L : Nat) (hL : 1 ≤ L) (h1 : ∀ m ∈ chunkMs evs, 1 ≤ m.gl) :
    segsAt (evs.foldl combInnerEv st).lineData L = segsAt st.lineData L ++ ((chunkMs evs).filter fun m => m.gl == L).map toSeg :=
  fold_segs evs st L hL h1

/-- **the search answers the lookup**: `find_inner_mapping (L, C)` finds the segment recorded for exactly the mapping that the
lookup "last chunk mapping of the inner stream on line `L` at or before column `C`" finds, and nothing exactly when that lookup
finds nothing (`ms` = the inner stream's chunk mappings, sorted by C02).  With C08 (`c08_attribution`: the inner stream's chunks
attribute like lookups in the inner map) this is "attributed to what the inner map assigns to that position". -/
theorem c09_search_is_lookup (st : CombSt) (ms : List Mapping) (hsort : ms.Pairwise mle) (L C : Nat) (hL : 1 ≤ L)
    (hseg : segsAt st.lineData L = (ms.filter fun m => m.gl == L).map toSeg)
    (hlen : st.lineData.length < L → (ms.filter fun m => m.gl == L) = []) :
    match findInner st L C with
    | some idx => idx < (ms.filter fun m => m.gl == L).length
        ∧ (st.lineData.getD (L - 1) default).segs.getD idx default = toSeg ((ms.filter fun m => m.gl == L).getD idx default)
        ∧ lookupGo L C none ms = some ((ms.filter fun m => m.gl == L).getD idx default).orig
    | none => lookupGo L C none ms = none := by
  have h := findInner_lookup st ms hsort L C hL hseg
  cases hf : findInner st L C with
  | none => rw [hf] at h; exact h
  | some idx => rw [hf] at h; exact ⟨h.1, h.2.1, h.2.2.1⟩

/-- **C09, per outer chunk, in terms of the inner map itself.**  Let the inner line data be what `combInnerEv` recorded from the
stream of the inner source (text `Tin`, ASCII, map `Min` sorted and inside `Tin`, columns = true).  For an outer chunk that
points into the inner source at `(o.line, o.col)` — the position of a character of `Tin`:
* if the inner map assigns `o'` to that position (greatest segment at or before it on that line), the chunk is delivered with the
  same text and generated position, attributed to `o'`'s original line and to `o'`'s column or that column plus `o.col - g` for
  a `g ≤ o.col`;
* if the inner map assigns nothing there, the search finds no mapped segment (the chunk then takes the "no inner mapping" path:
  the inner source itself, or unmapped when removal is requested — `c09_no_inner_removed`). -/
theorem c09_compose_inner_map (cfg : CombCfg) (st : CombSt) (Tin : Text) (Min : SMap) (text : Option Text) (m : Mapping) (o : Orig)
    (ha : IsAscii Tin) (hl : Tin.length ≤ USIZE_MAX) (hs : sortedFrom 1 0 (decode Min.mappings))
    (hsegok : ∀ x ∈ decode Min.mappings, SegOK (splitLines Tin) (adv startPos Tin).line (adv startPos Tin).col x)
    (hrec : ∀ L, 1 ≤ L → segsAt st.lineData L = ((chunkMs (streamSM Tin Min ⟨true, false⟩).evs).filter fun x => x.gl == L).map toSeg)
    (ho : m.orig = some o) (hsrc : (o.src : Int) = st.innerSourceIndex)
    (j : Nat) (hj : j < Tin.length) (hpos : adv startPos (Tin.take j) = ⟨o.line, o.col⟩) :
    (∀ o', lookupCols (decode Min.mappings) o.line o.col = some o' →
      ∃ pre out g, (combOnChunk cfg st text m).2 = pre ++ [Ev.chunk text ⟨m.gl, m.gc, out⟩] ∧ evsKeys pre = [] ∧ g ≤ o.col
        ∧ ∀ y, out = some y → y.line = o'.line ∧ (y.col = o'.col ∨ y.col = o'.col + (o.col - g)))
    ∧ (lookupCols (decode Min.mappings) o.line o.col = none →
        ∀ idx, findInner st o.line o.col = some idx → ((st.lineData.getD (o.line - 1) {}).segs.getD idx default).src < 0) := by
  obtain ⟨F1, F2⟩ := findInner_innerMap_gc st Tin Min ha hl hs hsegok hrec o.line o.col j hj hpos
  refine ⟨fun o' ho' => ?_, F2⟩
  obtain ⟨idx, mm', hf, hsegeq, hmm', hgc⟩ := F1 o' ho'
  obtain ⟨pre, out, e1, e2, e3⟩ := c09_compose_chunk cfg st text m o ho hsrc idx hf (by rw [hsegeq]; simp only [toSeg, hmm']; exact Int.natCast_nonneg _)
  refine ⟨pre, out, mm'.gc, e1, e2, hgc, fun y hy => ?_⟩
  obtain ⟨h1, h2⟩ := e3 y hy
  rw [hsegeq] at h1 h2
  simp only [toSeg, hmm', Int.toNat_natCast] at h1 h2
  exact ⟨h1, h2.imp_right fun h2 => h2.trans (advCol_nat _ _ _ hgc)⟩

/-- **C09, pass-through and fall-back, whole stream, at name level**: every chunk of the combined stream comes from one chunk of
the outer map's stream with the same text at the same generated position, and — unless it was composed with a segment recorded
from the inner map (second alternative: the outer chunk points into the inner source, the line is the segment's and the column is
the segment's start or that start plus the offset into it) — a mapped chunk names, through the announcements of the combined
stream, the same file as the outer chunk does through the outer stream's announcements, at the same original line and column, and
a name it carries is the outer chunk's name.  For an outer chunk that points into the inner source where the inner map has no
mapping this is "attributed to the inner source itself"; for the others "pass through unchanged".  The proof is the invariant
`KInv` on the nine translation tables; it needs the de-duplication key of the inner source to be its name (fix F15). -/
theorem c09_tables_pass (t : Text) (sm : SMap) (n : Text) (os : Option Text) (im : SMap) (rm : Bool) (o : Opts)
    (h1 : MapIdxOK sm) (h2 : MapIdxOK im) :
    ∀ t' mm, Ev.chunk t' mm ∈ (streamCombined t sm n os im rm o).evs →
      ∃ m, Ev.chunk t' m ∈ (streamSM t sm o).evs ∧ mm.gl = m.gl ∧ mm.gc = m.gc ∧
        ((∀ y, mm.orig = some y → ∃ a, m.orig = some a
            ∧ (annS (streamCombined t sm n os im rm o).evs)[y.src]? = (annS (streamSM t sm o).evs)[a.src]? ∧ a.src < (annS (streamSM t sm o).evs).length
            ∧ y.line = a.line ∧ y.col = a.col
            ∧ ∀ k, y.name = some k → ∃ k', a.name = some k' ∧ (annN (streamCombined t sm n os im rm o).evs)[k]? = (annN (streamSM t sm o).evs)[k']?
                ∧ k' < (annN (streamSM t sm o).evs).length)
         ∨ (∃ (a : Orig) (seg : InnerSeg), m.orig = some a ∧ (annS (streamSM t sm o).evs)[a.src]? = some n ∧ 0 ≤ seg.src ∧ ∀ y, mm.orig = some y →
              y.line = seg.line.toNat ∧ (y.col = seg.col.toNat ∨ (seg.gc < a.col ∧ y.col = (seg.col + ((a.col : Int) - seg.gc)).toNat)))) :=
  combFold_ok ⟨t, n, im, rm, o.columns⟩ h2 _ _ [] [] [] (kinv_init _ os) (streamSM_declOK t sm o h1)

/-- the invariant is about a real state: on the witness of F15 (generated text `"abc"`, outer sources `abc` and `in.js`, inner source
`z.js`; the chunk at column 1 falls back to the inner source, the one at column 2 is composed) three files are announced, each once -/
example : annS (streamCombined [97, 98, 99] ⟨[65, 65, 65, 65, 44, 67, 67, 65, 65, 44, 67, 65, 65, 75], [[97, 98, 99], [105, 110, 46, 106, 115]], [], [], none, none, none⟩
      [105, 110, 46, 106, 115] (some [104, 101, 108, 108, 111, 32, 119, 111, 114, 108, 100])
      ⟨[75, 65, 65, 65], [[122, 46, 106, 115]], [], [], none, none, none⟩ false ⟨true, false⟩).evs
    = [[97, 98, 99], [105, 110, 46, 106, 115], [122, 46, 106, 115]] := by decide +kernel

/-- **C09, composition, whole stream (columns = true, the stream an outside caller obtains).**  `Tin` is the text the inner map is
streamed over (the supplied original source, else the content the outer map lists for the inner source); the inner source is listed
once among the outer map's sources (`OnceInner`); both maps reference existing entries of their own tables; the inner map is
sorted with every mapped segment on a character of `Tin`.  Every chunk of the combined stream comes from one chunk of the outer
map's stream, with the same text at the same generated position, and when that outer chunk points into the inner source at the
position `(a.line, a.col)` of a character of `Tin`:
* where the inner map assigns `o'` (greatest segment at or before the position on its line), a mapped delivered chunk names —
  through the announcements of the combined stream — the file the inner map's own stream announces under `o'.src`, at `o'`'s
  original line, at `o'`'s column or that column plus `a.col - g` for a `g < a.col`;
* where the inner map assigns nothing, the chunk is unmapped when removal of the original source is requested, and otherwise
  names the inner source itself at the outer chunk's own line and column.
Together with `c09_tables_pass` (all other chunks pass through unchanged) and C03-T3 for the combinator (`map()` = this stream) this is
the property's attribution clause; the content clause and the name rule are `c09_contents` and `c09_names`. -/
theorem c09_stream_compose (t : Text) (sm : SMap) (n : Text) (os : Option Text) (im : SMap) (rm : Bool) (Tin : Text)
    (h1 : MapIdxOK sm) (h2 : MapIdxOK im) (honce : OnceInner n (smSourceEvs sm ++ smNameEvs sm))
    (hTin : ∀ k c, Ev.source k n c ∈ smSourceEvs sm ++ smNameEvs sm → (os.or c).getD [] = Tin)
    (ha : IsAscii Tin) (hl : Tin.length ≤ USIZE_MAX) (hs : sortedFrom 1 0 (decode im.mappings))
    (hseg : ∀ x ∈ decode im.mappings, SegOK (splitLines Tin) (adv startPos Tin).line (adv startPos Tin).col x) :
    ∀ t' mm, Ev.chunk t' mm ∈ (streamCombined t sm n os im rm ⟨true, false⟩).evs →
      ∃ m, Ev.chunk t' m ∈ (streamSM t sm ⟨true, false⟩).evs ∧ mm.gl = m.gl ∧ mm.gc = m.gc ∧
        ∀ a, m.orig = some a → (annS (streamSM t sm ⟨true, false⟩).evs)[a.src]? = some n →
          ∀ j, j < Tin.length → adv startPos (Tin.take j) = ⟨a.line, a.col⟩ →
            (∀ o', lookupCols (decode im.mappings) a.line a.col = some o' → ∀ y, mm.orig = some y →
                (annS (streamCombined t sm n os im rm ⟨true, false⟩).evs)[y.src]? = (annS (streamSM Tin im ⟨true, false⟩).evs)[o'.src]?
                ∧ o'.src < (annS (streamSM Tin im ⟨true, false⟩).evs).length
                ∧ y.line = o'.line ∧ (y.col = o'.col ∨ ∃ g, g < a.col ∧ y.col = o'.col + (a.col - g)))
            ∧ (lookupCols (decode im.mappings) a.line a.col = none →
                (rm = true → mm.orig = none)
                ∧ ∀ y, mm.orig = some y → (annS (streamCombined t sm n os im rm ⟨true, false⟩).evs)[y.src]? = some n ∧ y.line = a.line ∧ y.col = a.col) :=
  streamCombined_compose t sm n os im rm Tin h1 h2 honce hTin ha hl hs hseg

/-- **C09, contents, whole stream.**  Every file the combined stream reports carries a matching content: a file of the outer map other
than the inner source with the content the outer map's stream announces for it; the inner source itself with the supplied original
source (else the content the outer map lists for it); or a file of the inner map with the content the inner map's own stream
announces (its `sourcesContent`) -/
theorem c09_contents (t : Text) (sm : SMap) (n : Text) (os : Option Text) (im : SMap) (rm : Bool) (Tin : Text)
    (h1 : MapIdxOK sm) (h2 : MapIdxOK im) (honce : OnceInner n (smSourceEvs sm ++ smNameEvs sm))
    (hTin : ∀ k c, Ev.source k n c ∈ smSourceEvs sm ++ smNameEvs sm → (os.or c).getD [] = Tin)
    (ha : IsAscii Tin) (hl : Tin.length ≤ USIZE_MAX) (hseg : MapInside Tin im) :
    ∀ i s cc, Ev.source i s cc ∈ (streamCombined t sm n os im rm ⟨true, false⟩).evs →
      (∃ j, Ev.source j s cc ∈ (streamSM t sm ⟨true, false⟩).evs ∧ s ≠ n)
      ∨ (s = n ∧ ∃ k c, Ev.source k n c ∈ (streamSM t sm ⟨true, false⟩).evs ∧ cc = os.or c)
      ∨ (∃ j, Ev.source j s cc ∈ (streamSM Tin im ⟨true, false⟩).evs) :=
  streamCombined_contents t sm n os im rm Tin h1 h2 honce hTin ha hl hseg

/-- **C09, the name rule of composed chunks, whole stream**: "the inner name, else the outer name only if it matches the original text".
In the situation of `c09_stream_compose` with the inner map assigning `o'`: a name the delivered chunk carries is the name the inner
map's own stream announces for `o'` (then the column was not advanced), or the outer chunk's name — and the latter only if it equals
the original text, of the name's length, at the delivered location in the content the inner map's stream announces for `o'`'s file -/
theorem c09_names (t : Text) (sm : SMap) (n : Text) (os : Option Text) (im : SMap) (rm : Bool) (Tin : Text)
    (h1 : MapIdxOK sm) (h2 : MapIdxOK im) (honce : OnceInner n (smSourceEvs sm ++ smNameEvs sm))
    (hTin : ∀ k c, Ev.source k n c ∈ smSourceEvs sm ++ smNameEvs sm → (os.or c).getD [] = Tin)
    (ha : IsAscii Tin) (hl : Tin.length ≤ USIZE_MAX) (hs : sortedFrom 1 0 (decode im.mappings))
    (hseg : ∀ x ∈ decode im.mappings, SegOK (splitLines Tin) (adv startPos Tin).line (adv startPos Tin).col x) :
    ∀ t' mm, Ev.chunk t' mm ∈ (streamCombined t sm n os im rm ⟨true, false⟩).evs →
      ∃ m, Ev.chunk t' m ∈ (streamSM t sm ⟨true, false⟩).evs ∧ mm.gl = m.gl ∧ mm.gc = m.gc ∧
        ∀ a, m.orig = some a → (annS (streamSM t sm ⟨true, false⟩).evs)[a.src]? = some n →
          ∀ j, j < Tin.length → adv startPos (Tin.take j) = ⟨a.line, a.col⟩ →
            ∀ o', lookupCols (decode im.mappings) a.line a.col = some o' → ∀ y, mm.orig = some y → ∀ k, y.name = some k →
              (∃ i, o'.name = some i ∧ y.col = o'.col
                  ∧ (annN (streamCombined t sm n os im rm ⟨true, false⟩).evs)[k]? = (annN (streamSM Tin im ⟨true, false⟩).evs)[i]?
                  ∧ i < (annN (streamSM Tin im ⟨true, false⟩).evs).length)
              ∨ (∃ i nm c, a.name = some i ∧ (annN (streamSM t sm ⟨true, false⟩).evs)[i]? = some nm
                  ∧ (annN (streamCombined t sm n os im rm ⟨true, false⟩).evs)[k]? = some nm
                  ∧ ((annSC (streamSM Tin im ⟨true, false⟩).evs)[o'.src]?).map (·.2) = some (some c)
                  ∧ nm = origTextAt (splitLines c) o'.line y.col nm.length) :=
  streamCombined_names t sm n os im rm Tin h1 h2 honce hTin ha hl hs hseg

/-- **C09, composition, whole stream, columns = false** ((file, line) granularity).  Every chunk of the combined stream comes from one
chunk of the outer map's line-granular stream, with the same text at the same generated position.  When that outer chunk points
into the inner source at a line `L` of the inner text: if the inner map has a mapped segment on generated line `L` — the first one,
`p` = (source index, original line) — a mapped delivered chunk names the file the inner map's own stream announces under `p.1`, at
original line `p.2`; otherwise the chunk is unmapped when removal is requested, and else names the inner source itself at the outer
location. -/
theorem c09_stream_compose_lines (t : Text) (sm : SMap) (n : Text) (os : Option Text) (im : SMap) (rm : Bool) (Tin : Text)
    (h1 : MapIdxOK sm) (h2 : MapIdxOK im) (honce : OnceInner n (smSourceEvs sm))
    (hTin : ∀ k c, Ev.source k n c ∈ smSourceEvs sm → (os.or c).getD [] = Tin)
    (hs : sortedFrom 1 0 (decode im.mappings)) :
    ∀ t' mm, Ev.chunk t' mm ∈ (streamCombined t sm n os im rm ⟨false, false⟩).evs →
      ∃ m, Ev.chunk t' m ∈ (streamSM t sm ⟨false, false⟩).evs ∧ mm.gl = m.gl ∧ mm.gc = m.gc ∧
        ∀ a, m.orig = some a → (annS (streamSM t sm ⟨false, false⟩).evs)[a.src]? = some n → 1 ≤ a.line → a.line ≤ (splitLines Tin).length →
          (∀ p, lookupLines (decode im.mappings) a.line = some p → ∀ y, mm.orig = some y →
              (annS (streamCombined t sm n os im rm ⟨false, false⟩).evs)[y.src]? = (annS (streamSM Tin im ⟨false, false⟩).evs)[p.1]?
              ∧ p.1 < (annS (streamSM Tin im ⟨false, false⟩).evs).length ∧ y.line = p.2)
          ∧ (lookupLines (decode im.mappings) a.line = none →
              (rm = true → mm.orig = none)
              ∧ ∀ y, mm.orig = some y → (annS (streamCombined t sm n os im rm ⟨false, false⟩).evs)[y.src]? = some n ∧ y.line = a.line ∧ y.col = a.col) := by
  intro t' mm hmem
  obtain ⟨C, hev, hP, cN⟩ := streamSM_outer t sm false
  obtain ⟨m, st, S, N, k, c, b1, hgl', hgc', h⟩ := comb_chunk_at_of_shape ⟨t, n, im, rm, false⟩ h2 os _ _ C Tin hev hP cN (streamSM_declOK t sm _ h1)
    honce hTin t' mm hmem
  refine ⟨m, b1, hgl', hgc', fun a hmo hOS hl1 hl2 => ?_⟩
  obtain ⟨F1, F2⟩ := findInner_innerLines st Tin im hs h.known.segs a.line a.col hl1 hl2
  obtain ⟨sem1, sem2⟩ := combOnChunk_at h a hmo hOS
  refine ⟨fun p hp y hy => ?_, fun hnone => sem2 (F2 hnone)⟩
  obtain ⟨idx, mm', o', hfi, hsegeq, hmm', rfl⟩ := F1 p hp
  obtain ⟨q1, q2, q3, _⟩ := sem1 idx mm' o' hfi hsegeq hmm' y hy
  exact ⟨q1, q2, q3⟩

/-- **C09, contents, columns = false**: `c09_contents` for the line-granular streams -/
theorem c09_contents_lines (t : Text) (sm : SMap) (n : Text) (os : Option Text) (im : SMap) (rm : Bool) (Tin : Text)
    (h1 : MapIdxOK sm) (h2 : MapIdxOK im) (honce : OnceInner n (smSourceEvs sm))
    (hTin : ∀ k c, Ev.source k n c ∈ smSourceEvs sm → (os.or c).getD [] = Tin) :
    ∀ i s cc, Ev.source i s cc ∈ (streamCombined t sm n os im rm ⟨false, false⟩).evs →
      (∃ j, Ev.source j s cc ∈ (streamSM t sm ⟨false, false⟩).evs ∧ s ≠ n)
      ∨ (s = n ∧ ∃ k c, Ev.source k n c ∈ (streamSM t sm ⟨false, false⟩).evs ∧ cc = os.or c)
      ∨ (∃ j, Ev.source j s cc ∈ (streamSM Tin im ⟨false, false⟩).evs) := by
  obtain ⟨C, hev, hP, cN⟩ := streamSM_outer t sm false
  exact comb_sources_at_of_shape ⟨t, n, im, rm, false⟩ h2 os _ _ C Tin hev hP cN (streamSM_declOK t sm _ h1) honce hTin

/-- **C09, names, columns = false**: no chunk of the combined line-granular stream carries a name -/
theorem c09_names_lines (t : Text) (sm : SMap) (n : Text) (os : Option Text) (im : SMap) (rm : Bool) (Tin : Text)
    (h1 : MapIdxOK sm) (h2 : MapIdxOK im) (honce : OnceInner n (smSourceEvs sm))
    (hTin : ∀ k c, Ev.source k n c ∈ smSourceEvs sm → (os.or c).getD [] = Tin) :
    ∀ t' mm, Ev.chunk t' mm ∈ (streamCombined t sm n os im rm ⟨false, false⟩).evs → ∀ y, mm.orig = some y → y.name = none :=
  streamCombined_namesL t sm n os im rm Tin h1 h2 honce hTin

/-- non-vacuity: the hypotheses hold for the witness of F15 (outer sources `abc`, `in.js`; inner map `KAAA` over `"hello world"`) -/
example : OnceInner [105, 110, 46, 106, 115]
      (smSourceEvs ⟨[65, 65, 65, 65, 44, 67, 67, 65, 65, 44, 67, 65, 65, 75], [[97, 98, 99], [105, 110, 46, 106, 115]], [], [], none, none, none⟩
        ++ smNameEvs ⟨[65, 65, 65, 65, 44, 67, 67, 65, 65, 44, 67, 65, 65, 75], [[97, 98, 99], [105, 110, 46, 106, 115]], [], [], none, none, none⟩)
    ∧ sortedFrom 1 0 (decode [75, 65, 65, 65])
    ∧ (∀ x ∈ decode [75, 65, 65, 65], SegOK (splitLines [104, 101, 108, 108, 111, 32, 119, 111, 114, 108, 100])
        (adv startPos [104, 101, 108, 108, 111, 32, 119, 111, 114, 108, 100]).line (adv startPos [104, 101, 108, 108, 111, 32, 119, 111, 114, 108, 100]).col x) := by
  refine ⟨?_, by decide +kernel, by decide +kernel⟩
  show OnceInner _ [.source 0 [97, 98, 99] none, .source 1 [105, 110, 46, 106, 115] none]
  exact Or.inr ⟨by decide, Or.inl ⟨rfl, fun _ _ _ h => nomatch h⟩⟩

end Rs
