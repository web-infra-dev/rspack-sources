import RsModel.Lemmas.Conc
import RsModel.Lemmas.ConcV
import RsModel.Props.C10
/-!
# C18 — concurrent readers get sequential answers; cached maps are never replaced
Any number of threads, any operation lists, every interleaving of the schedule points.
-/
namespace Rs.Conc

/-- every call that has completed, in every thread, under every schedule, returned the sequential answer
(the sorted replacement order / a consistent clone / a correct cached map / the memoised value) -/
theorem c18_sequential_answers (progs : List (List Op)) (sched : List Nat) :
    ∀ t ∈ (run (initSys progs) sched).ths, t.ok = true := by
  intro t ht
  obtain ⟨i, hi, rfl⟩ := List.getElem_of_mem ht
  exact ((inv_reach progs sched).threads i hi).ok

/-- the lazily sorted index: whenever the flag is set the index is the sorted one, in every reachable state -/
theorem c18_flag_implies_sorted (progs : List (List Op)) (sched : List Nat) :
    (run (initSys progs) sched).sh.flag = true → (run (initSys progs) sched).sh.idxSorted = true :=
  (inv_reach progs sched).flagIdx

/-- once a map has been cached it is never removed or replaced: any step from any reachable state keeps it -/
theorem c18_write_once (progs : List (List Op)) (sched : List Nat) (i : Nat) (v : Val) (s' : Sys)
    (hv : (run (initSys progs) sched).sh.entry = some v) (hs : step (run (initSys progs) sched) i = some s') :
    s'.sh.entry = some v :=
  (step_spec _ s' i (inv_reach progs sched) hs).2.entry v hv

/-- no deadlock: in every reachable state, if some thread has work left then some thread can take a step
(the holder of the shard lock is never blocked) -/
theorem c18_no_deadlock (progs : List (List Op)) (sched : List Nat)
    (hwork : ∃ t ∈ (run (initSys progs) sched).ths, t.ops ≠ []) :
    ∃ i, (step (run (initSys progs) sched) i).isSome = true :=
  no_deadlock_of_inv _ (inv_reach progs sched) hwork

/-! non-vacuity: a clone racing a sort, and `map()` racing `stream_chunks`, under a schedule that interleaves
them inside the critical windows -/
example : (run (initSys [[.clone], [.sorted]]) [0, 1, 1, 1, 1, 0, 0]).ths.all (fun t => t.ok && t.ops.isEmpty) = true := by decide +kernel
example : (run (initSys [[.cmap], [.cstream]]) [0, 0, 1, 1, 1, 0]).sh.entry = some .S := by decide +kernel

end Rs.Conc


/-!
## The same protocol with the values (`Model/ConcV.lean`)

The theorems above are about the shared cells alone.  The ones below carry the values the crate computes: the shared ReplaceSource
is the `RState` of C05, the shared CachedSource is the cache store of the sequential model of C10 and its calls act through the
sequential functions.  Any number of threads, any operation lists, every interleaving of the schedule points; the state the
concurrent phase starts from is any state a sequential history can leave behind (`r.Inv`; any store `σ`).
-/
namespace Rs.ConcV
open Rs

/-- **every `sorted_replacement()` under every interleaving returns the stably sorted replacement list, and every clone taken while
other threads read is a consistent value** — so `source()` (and every other observer, all of which are functions of that list)
of the shared object, and of the clone, is the reference replacement model of C05 applied to the replacements, exactly as
single-threaded -/
theorem c18_replace_answers (P : Params) (hnc : P.inner.NoCached) (r : RState) (hr : r.Inv) (σ : Store) (progs : List (List Op))
    (sched : List Nat) (inner : Text) :
    ∀ t ∈ (run P (initSys r σ progs) sched).ths, ∀ a ∈ t.outs,
      (match a with
       | .sorted rs => rs = sortRepls r.repls
           ∧ RState.source inner { repls := r.repls, sorted := rs, isSorted := true } = applyRepls inner r.repls
       | .cloned c => c.repls = r.repls ∧ c.source inner = applyRepls inner r.repls
       | _ => True) := by
  intro t ht a ha
  have hok := (inv_reach P hnc r hr σ progs sched).outs t ht a ha
  cases a with
  | sorted rs =>
    replace hok : rs = sortRepls r.repls := hok
    exact ⟨hok, by rw [RState.source_of_inv inner _ (fun _ => hok), replaceSource_eq_applyRepls]⟩
  | cloned c =>
    replace hok : c.repls = r.repls ∧ c.Inv := hok
    exact ⟨hok.1, by rw [RState.source_of_inv inner _ hok.2, replaceSource_eq_applyRepls, hok.1]⟩
  | call c x => trivial
  | once v => trivial

/-- the lazily sorted index, with its value: in every reachable state, flag set ⇒ the index is the sorted order; the replacement
list itself is never touched -/
theorem c18_flag_implies_sorted_value (P : Params) (hnc : P.inner.NoCached) (r : RState) (hr : r.Inv) (σ : Store)
    (progs : List (List Op)) (sched : List Nat) :
    (run P (initSys r σ progs) sched).sh.r.Inv ∧ (run P (initSys r σ progs) sched).sh.r.repls = r.repls := by
  have h := (inv_reach P hnc r hr σ progs sched).sh
  exact ⟨fun hf => (h.flagIdx hf).trans (congrArg sortRepls h.repls.symm), h.repls⟩

/-- **linearisability of the shared CachedSource**: in every reachable state of every interleaving, the `map()` / `stream_chunks`
/ text-view calls completed so far — in the order of the accesses that decided them (`log`) — are a run of the *sequential* model
from the store the phase started with: the sequential run returns exactly the answers the threads got and ends in exactly the
current store; and every answer any thread holds is in that log -/
theorem c18_linearizable (P : Params) (hnc : P.inner.NoCached) (r : RState) (hr : r.Inv) (σ : Store) (progs : List (List Op))
    (sched : List Nat) :
    let fin := run P (initSys r σ progs) sched
    runRoot3 P.id P.inner (fin.sh.log.map Prod.fst) σ = (fin.sh.log, fin.sh.σ)
    ∧ ∀ t ∈ fin.ths, ∀ c x, Ans.call c x ∈ t.outs → (c, x) ∈ fin.sh.log := by
  have h := inv_reach P hnc r hr σ progs sched
  exact ⟨h.sh.lin, fun t ht c x hx => h.outs t ht _ hx⟩

theorem answer_mem_run (P : Params) (hnc : P.inner.NoCached) (r : RState) (hr : r.Inv) (σ : Store) (progs : List (List Op))
    (sched : List Nat) : ∀ t ∈ (run P (initSys r σ progs) sched).ths, ∀ c x, Ans.call c x ∈ t.outs →
      (c, x) ∈ (runRoot3 P.id P.inner ((run P (initSys r σ progs) sched).sh.log.map Prod.fst) σ).1 := by
  obtain ⟨hlin, hmem⟩ := c18_linearizable P hnc r hr σ progs sched
  intro t ht c x hx
  rw [hlin]
  exact hmem t ht c x hx

/-- **… hence every concurrent answer is a sequential answer**: on a cold cache, whatever the interleaving, every `stream_chunks`
answer attributes every byte (columns) / every line (no columns) exactly as the wrapped source's own stream, every `map()` answer
resolves every position alike and is absent only when nothing is mapped, and the text views are the wrapped source's — the
statement of `c10_root_history_full`, for calls racing on several threads -/
theorem c18_cached_answers (P : Params) (hnc : P.inner.NoCached) (h2 : RootHyp2 P.id P.inner) (hT : RootHyp P.inner.strip)
    (hL : RootHypL P.inner.strip) (r : RState) (hr : r.Inv) (σ : Store) (h0 : ∀ o, σ.get? (P.id, o) = none)
    (hc : Cold σ P.inner.ids) (progs : List (List Op)) (sched : List Nat) :
    ∀ t ∈ (run P (initSys r σ progs) sched).ths, ∀ c x, Ans.call c x ∈ t.outs →
      (match c, x with
       | .src, .text t => t = P.inner.src
       | .buffer, .text t => t = P.inner.buffer
       | .size, .num n => n = P.inner.size
       | .io c2, .io (.stream r) =>
          (c2.1 = true → attrOf r.evs = attrOf (P.inner.strip.stream ⟨true, false⟩ []).1.evs)
          ∧ (c2.1 = false → ∀ L, LNameOf r.evs L = LNameOf (P.inner.strip.stream ⟨false, false⟩ []).1.evs L)
       | .io c2, .io (.map m) =>
          (c2.1 = true → (∀ sm, m = some sm → attrFrom (decode sm.mappings) startPos P.inner.src = attrOf (P.inner.strip.stream ⟨true, false⟩ []).1.evs)
              ∧ (m = none → attrOf (P.inner.strip.stream ⟨true, false⟩ []).1.evs = List.replicate P.inner.src.length none))
          ∧ (c2.1 = false → ∀ sm, m = some sm → ∀ L, 0 < L → LNameM sm L = LNameOf (P.inner.strip.stream ⟨false, false⟩ []).1.evs L)
       | _, _ => False) :=
  fun t ht c x hx =>
    c10_root_history_full P.id P.inner h2 hT hL _ σ h0 hc (c, x) (answer_mem_run P hnc r hr σ progs sched t ht c x hx)

/-- the same from *any* store a sequential history can leave behind (`RootInv2`: every entry of the wrapper absent or one of the two
fills) — a concurrent phase that follows earlier sequential or concurrent use: every answer is the fresh stream of the cache-free
tree, the replay of one of the two fills, one of the two fills itself, or the wrapped source's text / size (`AnsOK3`) -/
theorem c18_cached_answers_any_start (P : Params) (hnc : P.inner.NoCached) (h2 : RootHyp2 P.id P.inner) (r : RState) (hr : r.Inv)
    (σ : Store) (hσ : RootInv2 P.id P.inner σ) (progs : List (List Op)) (sched : List Nat) :
    ∀ t ∈ (run P (initSys r σ progs) sched).ths, ∀ c x, Ans.call c x ∈ t.outs → AnsOK3 P.inner c x :=
  fun t ht c x hx => runRoot3_answers P.id P.inner h2 _ σ hσ (c, x) (answer_mem_run P hnc r hr σ progs sched t ht c x hx)

/-- … and the invariant survives the phase: the store it leaves behind is again one a sequential history could have produced -/
theorem c18_store_after_phase (P : Params) (hnc : P.inner.NoCached) (r : RState) (hr : r.Inv) (σ : Store) (progs : List (List Op))
    (sched : List Nat) :
    (run P (initSys r σ progs) sched).sh.σ
      = (runRoot3 P.id P.inner ((run P (initSys r σ progs) sched).sh.log.map Prod.fst) σ).2 := by
  rw [(c18_linearizable P hnc r hr σ progs sched).1]

/-- **all concurrent `map()` calls with one column setting get the same map**: whichever threads call `map(columns)` on the shared
CachedSource or its clones, whenever, under every interleaving (also racing with `stream_chunks`, which may be the one to fill the
entry), any two of the answers are equal — the value side of "the cached value is never replaced" and of "repeating a call never
changes its answer" (C10) -/
theorem c18_map_answers_agree (P : Params) (hnc : P.inner.NoCached) (r : RState) (hr : r.Inv) (σ : Store) (progs : List (List Op))
    (sched : List Nat) (col : Bool) :
    ∀ t₁ ∈ (run P (initSys r σ progs) sched).ths, ∀ t₂ ∈ (run P (initSys r σ progs) sched).ths, ∀ x₁ x₂,
      Ans.call (.io (col, .map)) x₁ ∈ t₁.outs → Ans.call (.io (col, .map)) x₂ ∈ t₂.outs → x₁ = x₂ :=
  fun t₁ h₁ t₂ h₂ x₁ x₂ m₁ m₂ =>
    map_answers_agree P.id P.inner hnc col _ σ (_, x₁) (answer_mem_run P hnc r hr σ progs sched t₁ h₁ _ _ m₁)
      (_, x₂) (answer_mem_run P hnc r hr σ progs sched t₂ h₂ _ _ m₂) rfl rfl

/-- **once a map has been cached it is never removed or replaced**, with its value: any step of any thread from any reachable
state keeps every stored entry -/
theorem c18_entry_never_replaced (P : Params) (hnc : P.inner.NoCached) (r : RState) (hr : r.Inv) (σ : Store) (progs : List (List Op))
    (sched : List Nat) (i : Nat) (s' : Sys) (k : Nat × Opts) (v : Option SMap)
    (hv : (run P (initSys r σ progs) sched).sh.σ.get? k = some v) (hs : step P (run P (initSys r σ progs) sched) i = some s') :
    s'.sh.σ.get? k = some v :=
  (step_spec P hnc r.repls σ _ s' i (inv_reach P hnc r hr σ progs sched) hs).2.entry k v hv

/-- **no deadlock with both column settings** (two cache keys, two entry locks): in every reachable state of every interleaving, if
some thread has work left then some thread can take a step.  (The model gives every key its own lock; DashMap may make two keys
share a shard lock, which only removes interleavings — the holder of a shard lock still waits for nothing.) -/
theorem c18_no_deadlock_two_keys (P : Params) (hnc : P.inner.NoCached) (r : RState) (hr : r.Inv) (σ : Store) (progs : List (List Op))
    (sched : List Nat) (hwork : ∃ t ∈ (run P (initSys r σ progs) sched).ths, t.ops ≠ []) :
    ∃ i, (step P (run P (initSys r σ progs) sched) i).isSome = true :=
  no_deadlock_of_inv P r.repls σ _ (inv_reach P hnc r hr σ progs sched) hwork

/-- the memoised hash: every `get_or_init` returns the one value -/
theorem c18_once_value (P : Params) (hnc : P.inner.NoCached) (r : RState) (hr : r.Inv) (σ : Store) (progs : List (List Op))
    (sched : List Nat) : ∀ t ∈ (run P (initSys r σ progs) sched).ths, ∀ v, Ans.once v ∈ t.outs → v = P.hv :=
  fun t ht _ hv => (inv_reach P hnc r hr σ progs sched).outs t ht _ hv

/-! non-vacuity: `map()` racing `stream_chunks` on a cold `CachedSource(OriginalSource("a;b", "f"))` — the stream takes the entry lock,
`map()` misses before that and stores after the stream has stored (so it returns the *stream's* map, by `or_insert`); a clone racing a
sort of two replacements with colliding keys -/
def exP : Params := { id := 0, inner := .orig [97, 59, 98] [102], hv := 7 }
example : exP.inner.NoCached := trivial
example : RootHyp2 exP.id exP.inner := ⟨by simp [exP, Src.NoCR], by decide, by decide, fun _ _ => rfl⟩
example : (run exP (initSys {} [] [[.call (.io (true, .map))], [.call (.io (true, .stream))]]) [0, 1, 1, 1, 0, 0]).sh.log.map
      (fun p => match p.1 with | .io (_, .stream) => 1 | .io (_, .map) => 2 | _ => 0) = [1, 2] := by decide +kernel
def exR : RState := { repls := [⟨1, 2, [88], none, 1⟩, ⟨1, 2, [89], none, 0⟩], sorted := [], isSorted := false }
example : exR.Inv := fun h => by cases h
example : (run exP (initSys exR [] [[.clone], [.sorted]]) [0, 1, 1, 1, 1, 0, 0]).ths.all (fun t => t.ops.isEmpty && t.outs.length == 1) = true := by
  decide +kernel

/-! ## the whole life of a shared ReplaceSource

Mutators need `&mut self`, so the life of a value alternates between *exclusive* phases — any sequence of `replace` / `insert`
calls, observers and clones by the one owner (the histories of C05) — and *shared* phases in which any number of threads read
concurrently.  The hypothesis `r.Inv` of the theorems above is met at the start of every phase of every such life, and the
replacement list at that point is the list of all `replace` / `insert` calls so far. -/

inductive Phase where
  | excl (ops : List ROp)
  | shared (progs : List (List Op)) (sched : List Nat)

def runPhase (P : Params) (s : RState × Store) : Phase → RState × Store
  | .excl ops => (ops.foldl RState.step s.1, s.2)
  | .shared progs sched => ((run P (initSys s.1 s.2 progs) sched).sh.r, (run P (initSys s.1 s.2 progs) sched).sh.σ)

def lifeEnd (P : Params) : RState × Store → List Phase → RState × Store
  | s, [] => s
  | s, ph :: rest => lifeEnd P (runPhase P s ph) rest

/-- the `replace` / `insert` calls of a life, in call order -/
def lifeRepls : List Phase → List Repl
  | [] => []
  | .excl ops :: rest => histRepls ops ++ lifeRepls rest
  | .shared _ _ :: rest => lifeRepls rest

theorem lifeEnd_inv (P : Params) (hnc : P.inner.NoCached) : ∀ (phases : List Phase) (s : RState × Store), s.1.Inv →
    (lifeEnd P s phases).1.Inv ∧ (lifeEnd P s phases).1.repls = s.1.repls ++ lifeRepls phases := by
  intro phases
  induction phases with
  | nil => exact fun s h => ⟨h, (List.append_nil _).symm⟩
  | cons ph rest ih =>
    intro s h
    have hph : (runPhase P s ph).1.Inv ∧ (runPhase P s ph).1.repls ++ lifeRepls rest = s.1.repls ++ lifeRepls (ph :: rest) := by
      cases ph with
      | excl ops =>
        obtain ⟨h1, h2⟩ := RState.run_inv ops s.1 h
        exact ⟨h1, (congrArg (· ++ lifeRepls rest) h2).trans (List.append_assoc ..)⟩
      | shared progs sched =>
        obtain ⟨h1, h2⟩ := c18_flag_implies_sorted_value P hnc s.1 h s.2 progs sched
        exact ⟨h1, congrArg (· ++ lifeRepls rest) h2⟩
    obtain ⟨a, b⟩ := ih _ hph.1
    exact ⟨a, b.trans hph.2⟩

/-- **every concurrent read in every shared phase of every life of a ReplaceSource** (created empty; any exclusive and shared
phases before): each `sorted_replacement()` returns the stable sort of all replacements registered so far, and `source()` of the
object or of a clone taken meanwhile is the reference model of C05 applied to them -/
theorem c18_life (P : Params) (hnc : P.inner.NoCached) (σ : Store) (pre : List Phase) (progs : List (List Op)) (sched : List Nat)
    (inner : Text) :
    ∀ t ∈ (run P (initSys (lifeEnd P ({}, σ) pre).1 (lifeEnd P ({}, σ) pre).2 progs) sched).ths, ∀ a ∈ t.outs,
      (match a with
       | .sorted rs => rs = sortRepls (lifeRepls pre)
           ∧ RState.source inner { repls := lifeRepls pre, sorted := rs, isSorted := true } = applyRepls inner (lifeRepls pre)
       | .cloned c => c.repls = lifeRepls pre ∧ c.source inner = applyRepls inner (lifeRepls pre)
       | _ => True) := by
  obtain ⟨h1, h2⟩ := lifeEnd_inv P hnc pre ({}, σ) (fun _ => rfl)
  replace h2 : (lifeEnd P ({}, σ) pre).1.repls = lifeRepls pre := h2
  rw [← h2]
  exact c18_replace_answers P hnc _ h1 _ progs sched inner

/-- non-vacuity: a life with two exclusive phases around a shared one -/
example : lifeRepls [.excl [.replace ⟨1, 2, [88], none, 1⟩, .observe], .shared [[.sorted], [.clone]] [0, 1, 0, 1], .excl [.replace ⟨0, 1, [89], none, 1⟩]]
    = [⟨1, 2, [88], none, 1⟩, ⟨0, 1, [89], none, 1⟩] := by decide +kernel

end Rs.ConcV
